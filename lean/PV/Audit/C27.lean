import PV.Props.C27
#print axioms PV.Props.C27.legacy_write_with_unread_rbuffer_witness
#print axioms PV.Props.C27.legacy_read_with_unflushed_wbuffer_witness
#print axioms PV.Props.C27.tell_ignores_wbuffer_witness
#print axioms PV.Props.C27.legacy_truncate_ignores_buffers_witness
#print axioms PV.Props.C27.truncate_not_checked_writable_witness
#print axioms PV.Props.C27.truncate_zeroes_file_witness
#print axioms PV.Props.C27.truncate_in_append_mode_witness
#print axioms PV.Props.C27.negative_seek_accepted_witness
#print axioms PV.Props.C27.closed_file_call_accepted_witness
#print axioms PV.Props.C27.x_mode_not_writable_witness
#print axioms PV.Props.C27.readlines_hint_rounding_witness
#print axioms PV.Props.C27.readline0_on_unreadable_witness
#print axioms PV.Props.C27.returns_none_witness
#print axioms PV.Props.C27.step_refines
#print axioms PV.Props.C27.refines_partial
#print axioms PV.Props.C27.closed_contents_equal
#print axioms PV.Props.C27.rel_init
