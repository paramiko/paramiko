import PV.Props.C23
#print axioms PV.Props.C23.model_eq_generated
#print axioms PV.Props.C23.scan_sound
#print axioms PV.Props.C23.scan_complete
#print axioms PV.Props.C23.nextChannel_total
#print axioms PV.Props.C23.nextChannel_fresh
#print axioms PV.Props.C23.inv_run
#print axioms PV.Props.C23.no_collision
#print axioms PV.Props.C23.live_distinct_24bit
#print axioms PV.Props.C23.pending_id_reserved
#print axioms PV.Props.C23.never_hung_step
#print axioms PV.Props.C23.counter_written_only_by_next_channel
#print axioms PV.Props.C23.counter_never_moves_backwards
#print axioms PV.Props.C23.unlink_uses_the_local_id
#print axioms PV.Props.C23.entries_removed_only_by_close_paths
#print axioms PV.Props.C23.open_channels_registered
#print axioms PV.Props.C23.alloc_never_returns_open_id
#print axioms PV.Props.C23.unregistered_open_channel_is_reallocated_witness
#print axioms PV.Props.C23.next_channel_sites_locked
#print axioms PV.Props.C23.locked_allocations_distinct
#print axioms PV.Props.C23.unlocked_allocation_collision_witness
