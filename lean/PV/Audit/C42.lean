import PV.Props.C42
#print axioms PV.Props.C42.read_n_exact
#print axioms PV.Props.C42.read_all_exact
#print axioms PV.Props.C42.readline_exact
#print axioms PV.Props.C42.readline_ends_at_newline_or_limit_or_eof
#print axioms PV.Props.C42.iteration_exact
#print axioms PV.Props.C42.write_law
#print axioms PV.Props.C42.flush_delivers
#print axioms PV.Props.C42.close_delivers
#print axioms PV.Props.C42.setMode_good
#print axioms PV.Props.C42.step_law
#print axioms PV.Props.C42.stream_preserved
#print axioms PV.Props.C42.read_to_eof_complete
#print axioms PV.Props.C42.flush_complete
#print axioms PV.Props.C42.line_buffered_pushes_each_newline
#print axioms PV.Props.C42.universal_readline_exact
#print axioms PV.Props.C42.universal_line_shape
#print axioms PV.Props.C42.universal_iteration_exact
#print axioms PV.Props.C42.universal_lines_independent_of_chunking
#print axioms PV.Props.C42.stdin_close_delivers_before_eof
#print axioms PV.Props.C42.plain_close_sends_no_eof
#print axioms PV.Props.C42.stdin_eof_after_all_data
#print axioms PV.Props.C42.pendingX_eq_pendG
#print axioms PV.Props.C42.read_n_keeps_data_on_exception
#print axioms PV.Props.C42.read_all_keeps_data_on_exception
#print axioms PV.Props.C42.readline_keeps_data_on_exception
#print axioms PV.Props.C42.legacy_read_all_drops_data_on_exception_witness
#print axioms PV.Props.C42.legacy_readline_drops_data_on_exception_witness
