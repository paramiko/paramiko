import PV.Props.C41
#print axioms PV.Props.C41.nameMatches_iff
#print axioms PV.Props.C41.nameMatches_refl
#print axioms PV.Props.C41.nameMatches_hashed_query
#print axioms PV.Props.C41.mem_lookup
#print axioms PV.Props.C41.lookup_sublist
#print axioms PV.Props.C41.subGet_eq_some
#print axioms PV.Props.C41.subGet_eq_none
#print axioms PV.Props.C41.check_iff
#print axioms PV.Props.C41.subItems_effective
#print axioms PV.Props.C41.load_idempotent
#print axioms PV.Props.C41.load_idempotent_n
#print axioms PV.Props.C41.nameMatches_trans
#print axioms PV.Props.C41.save_reload_lookup
#print axioms PV.Props.C41.save_reload_check
#print axioms PV.Props.C41.subSet_effective
