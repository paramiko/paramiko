import PV.Props.C20
#print axioms PV.Props.C20.conservation
#print axioms PV.Props.C20.conservation_reverse
#print axioms PV.Props.C20.every_byte_counts_back
#print axioms PV.Props.C20.stuck_impossible
#print axioms PV.Props.C20.quiescent_sender_proceeds
#print axioms PV.Props.C20.draining_terminates
#print axioms PV.Props.C20.drained_is_quiescent
#print axioms PV.Props.C20.drained_sender_window_open
#print axioms PV.Props.C20.messages_name_the_peers_id
#print axioms PV.Props.C20.no_send_under_channel_lock
#print axioms PV.Props.C20.receive_side_uses_the_advertised_sizes
#print axioms PV.Props.C20.threshold_within_the_advertised_window
#print axioms PV.Props.C20.sofar_accounting_is_under_the_lock
#print axioms PV.Props.C20.wakeups_notify_all
#print axioms PV.Props.C20.no_lost_wakeup
#print axioms PV.Props.C20.notified_sleeper_is_enabled
#print axioms PV.Props.C20.notify_one_strands_second_sender_witness
#print axioms PV.Props.C20.C20_witness
