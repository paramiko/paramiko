import PV.Props.C38
#print axioms PV.Props.C38.runCatch_allowed
#print axioms PV.Props.C38.surface_cases
#print axioms PV.Props.C38.surfaced_is_allowed
#print axioms PV.Props.C38.nothing_stored_is_ssh
#print axioms PV.Props.C38.allowed_preserved
#print axioms PV.Props.C38.old_run_leaks_internal_witness
#print axioms PV.Props.C38.all_writers_store_allowed
#print axioms PV.Props.C38.auth_handler_never_cleared
#print axioms PV.Props.C38.channel_events_mutated_under_lock
#print axioms PV.Props.C38.run_ladder_in_table
