import PV.Props.C17
#print axioms PV.Props.C17.inv_run
#print axioms PV.Props.C17.credentials_never_in_plaintext
#print axioms PV.Props.C17.auth_messages_always_encrypted
#print axioms PV.Props.C17.auth_before_kex_raises
#print axioms PV.Props.C17.kex_done_needs_verified_host_key
#print axioms PV.Props.C17.bad_signature_ends_the_session
#print axioms PV.Props.C17.transport_connect_sends_only_to_given_key
#print axioms PV.Props.C17.ssh_client_sends_only_if_known_or_accepted
#print axioms PV.Props.C17.known_host_other_key_gets_nothing
#print axioms PV.Props.C17.unknown_host_needs_policy
#print axioms PV.Props.C17.two_stores_send_only_if_known_or_accepted
#print axioms PV.Props.C17.system_entry_is_never_unknown
#print axioms PV.Props.C17.host_key_checked_unless_gss_kex_negotiated
#print axioms PV.Props.C17.constant_time_eq_is_equality
