import PV.Props.C36
#print axioms PV.Props.C36.rsa_roundtrip
#print axioms PV.Props.C36.ec_roundtrip
#print axioms PV.Props.C36.ed_roundtrip
#print axioms PV.Props.C36.refPrims_sec1
#print axioms PV.Props.C36.rsa_cert_decode
#print axioms PV.Props.C36.ed_cert_decode
#print axioms PV.Props.C36.ec_cert_decode
#print axioms PV.Props.C36.eq_public_only
#print axioms PV.Props.C36.eq_ignores_private_and_cert
#print axioms PV.Props.C36.hash_public_only
#print axioms PV.Props.C36.eq_same_fingerprint
#print axioms PV.Props.C36.rebuilt_equal
#print axioms PV.Props.C36.encode_injective
#print axioms PV.Props.C36.new_file_private
#print axioms PV.Props.C36.new_file_mode_usual
#print axioms PV.Props.C36.existing_file_keeps_mode
#print axioms PV.Props.C36.write_unencrypted_iff_none
#print axioms PV.Props.C36.write_passphrase_encrypts
#print axioms PV.Props.C36.write_refusals
#print axioms PV.Props.C36.write_file_mode
#print axioms PV.Props.C36.created_file_private
#print axioms PV.Props.C36.missing_parent_creates_nothing
