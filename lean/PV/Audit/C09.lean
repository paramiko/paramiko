import PV.Props.C09
#print axioms PV.Props.C09.generated_tables_ok
#print axioms PV.Props.C09.expected_check_precedes_dispatch
#print axioms PV.Props.C09.read_message_delivers_every_packet
#print axioms PV.Props.C09.run_judges_every_packet
#print axioms PV.Props.C09.engines_wf
#print axioms PV.Props.C09.strict_initial_kex_exact
#print axioms PV.Props.C09.C09
#print axioms PV.Props.C09.strict_rejects_out_of_order
#print axioms PV.Props.C09.kexinit_with_nonzero_seqno_rejected
#print axioms PV.Props.C09.late_kexinit_rejected
#print axioms PV.Props.C09.strays_run
#print axioms PV.Props.C09.initial_kex_counter_never_wraps
#print axioms PV.Props.C09.seqno_reset_ignores_the_cipher
#print axioms PV.Props.C09.newkeys_resets_inbound
#print axioms PV.Props.C09.newkeys_resets_outbound
#print axioms PV.Props.C09.strict_marker_counts_anywhere
#print axioms PV.Props.C09.rekey_without_marker_keeps_strict_mode
#print axioms PV.Props.C09.rekey_with_marker_keeps_strict_mode
