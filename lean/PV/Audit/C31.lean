import PV.Props.C31
#print axioms PV.Props.C31.client_op_calls
#print axioms PV.Props.C31.client_op_effect
#print axioms PV.Props.C31.server_calls_total
#print axioms PV.Props.C31.contents_after
#print axioms PV.Props.C31.truncate_contents
#print axioms PV.Props.C31.other_ops_keep_contents
#print axioms PV.Props.C31.by_path_request
#print axioms PV.Props.C31.adjust_absolute
#print axioms PV.Props.C31.adjust_none
#print axioms PV.Props.C31.adjust_relative
#print axioms PV.Props.C31.relative_name_resolves_under_cwd
#print axioms PV.Props.C31.handle_program_local_meaning
#print axioms PV.Props.C31.close_settles
#print axioms PV.Props.C31.handle_truncate
#print axioms PV.Props.C31.toy_laws
