import PV.Props.C39
#print axioms PV.Props.C39.inflate_deflate
#print axioms PV.Props.C39.deflate_minimal
#print axioms PV.Props.C39.mpint_zero_is_empty
#print axioms PV.Props.C39.mpint_nonzero
#print axioms PV.Props.C39.soFar_append_remainder
#print axioms PV.Props.C39.decodeAll_content
#print axioms PV.Props.C39.soFar_remainder_after_any_reads
#print axioms PV.Props.C39.split_join
#print axioms PV.Props.C39.decode_encode
#print axioms PV.Props.C39.roundtrip
#print axioms PV.Props.C39.roundtrip_remainder
