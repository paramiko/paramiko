import PV.Props.C04
#print axioms PV.Props.C04.computeKey_blocks_minimal
#print axioms PV.Props.C04.computeKey_eq_rfcKey
#print axioms PV.Props.C04.rfcKey_blocks_irrelevant
#print axioms PV.Props.C04.computeKey_length
#print axioms PV.Props.C04.computeKey_prefix
#print axioms PV.Props.C04.computeKey_first_block
#print axioms PV.Props.C04.letters_peer
#print axioms PV.Props.C04.client_out_eq_server_in
#print axioms PV.Props.C04.server_out_eq_client_in
#print axioms PV.Props.C04.activate_rfc
#print axioms PV.Props.C04.activate_lengths
#print axioms PV.Props.C04.activateDir_rfc
#print axioms PV.Props.C04.peers_match_asymmetric
#print axioms PV.Props.C04.firstInput_injective
#print axioms PV.Props.C04.six_inputs_pairwise_distinct
#print axioms PV.Props.C04.letters_disjoint
#print axioms PV.Props.C04.keys_differ_of_collision_free
#print axioms PV.Props.C04.kex_hashes_positive
#print axioms PV.Props.C04.table_sizes_positive
#print axioms PV.Props.C04.session_id_guard_generated
#print axioms PV.Props.C04.session_id_is_first_exchange_hash
#print axioms PV.Props.C04.keys_after_rekeys
#print axioms PV.Props.C04.unguarded_session_id_witness
#print axioms PV.Props.C04.aead_order_generated
#print axioms PV.Props.C04.aead_rows_iv12
#print axioms PV.Props.C04.aead_nonce_sequence
#print axioms PV.Props.C04.aead_wire_nonces
#print axioms PV.Props.C04.increment_first_witness
