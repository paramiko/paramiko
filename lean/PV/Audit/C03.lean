import PV.Props.C03
#print axioms PV.Props.C03.padding_eq_generated
#print axioms PV.Props.C03.length_field_eq_generated
#print axioms PV.Props.C03.zero_pad_eq_generated
#print axioms PV.Props.C03.next_seq_eq_generated
#print axioms PV.Props.C03.read_sizes_eq_generated
#print axioms PV.Props.C03.write_all_consts_eq_generated
#print axioms PV.Props.C03.one_write_lock_region_generated
#print axioms PV.Props.C03.pad_bounds
#print axioms PV.Props.C03.classic_aligned
#print axioms PV.Props.C03.etm_aead_aligned
#print axioms PV.Props.C03.build_packet_frame
#print axioms PV.Props.C03.send_framing
#print axioms PV.Props.C03.wire_is_the_framed_packet
#print axioms PV.Props.C03.suites_wellformed
#print axioms PV.Props.C03.suites_directions_agree
#print axioms PV.Props.C03.every_suite_every_length
