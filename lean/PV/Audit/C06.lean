import PV.Props.C06
#print axioms PV.Props.C06.dh_agree
#print axioms PV.Props.C06.dh_agree_pow
#print axioms PV.Props.C06.dh_agree_gex
#print axioms PV.Props.C06.toyNist_laws
#print axioms PV.Props.C06.toyX_laws
#print axioms PV.Props.C06.grp_honest
#print axioms PV.Props.C06.gex_honest
#print axioms PV.Props.C06.gex_request_agrees
#print axioms PV.Props.C06.gex_group_agrees
#print axioms PV.Props.C06.gex_full_honest
#print axioms PV.Props.C06.ec_honest
#print axioms PV.Props.C06.cv_honest
#print axioms PV.Props.C06.grp_completion_verified
#print axioms PV.Props.C06.gex_completion_verified
#print axioms PV.Props.C06.ec_completion_verified
#print axioms PV.Props.C06.cv_completion_verified
#print axioms PV.Props.C06.step_completion_verified
#print axioms PV.Props.C06.clientExpect_feed
#print axioms PV.Props.C06.begin_clientExpect
#print axioms PV.Props.C06.exchange_completions_verified
#print axioms PV.Props.C06.every_exchange_verified
#print axioms PV.Props.C06.published_key_is_verified_key
#print axioms PV.Props.C06.published_key_follows_every_exchange
#print axioms PV.Props.C06.completed_le_verified
#print axioms PV.Props.C06.bare_newkeys_ends_session
#print axioms PV.Props.C06.verified_step_is_client_step
#print axioms PV.Props.C06.setKH_keeps_session_id
#print axioms PV.Props.C06.session_id_stable
#print axioms PV.Props.C06.session_id_is_first_H
#print axioms PV.Props.C06.latest_K_H
#print axioms PV.Props.C06.session_id_stable_traces
#print axioms PV.Props.C06.hashInGroup_injective
#print axioms PV.Props.C06.hashInEcdh_injective
#print axioms PV.Props.C06.altered_reply_aborts
#print axioms PV.Props.C06.connect_raised_iff
#print axioms PV.Props.C06.pinned_mismatch_raises
#print axioms PV.Props.C06.proceeds_only_if_pin_ok
#print axioms PV.Props.C06.pin_check_independent_of_credentials
