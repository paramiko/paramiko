import PV.Props.C34
#print axioms PV.Props.C34.canonical_form
#print axioms PV.Props.C34.absolute
#print axioms PV.Props.C34.double_slash_iff
#print axioms PV.Props.C34.components
#print axioms PV.Props.C34.inside_root
#print axioms PV.Props.C34.never_climbs
#print axioms PV.Props.C34.idempotent
