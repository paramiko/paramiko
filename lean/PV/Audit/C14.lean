import PV.Props.C14
#print axioms PV.Props.C14.success_needs_approval
#print axioms PV.Props.C14.authentication_needs_approval
#print axioms PV.Props.C14.approval_is_for_the_pinned_username
#print axioms PV.Props.C14.authenticated_only_after_approval
#print axioms PV.Props.C14.publickey_needs_valid_signature
#print axioms PV.Props.C14.key_probe_never_authenticates
#print axioms PV.Props.C14.blob_injective
#print axioms PV.Props.C14.replayed_signature_rejected
