import PV.Props.C13
#print axioms PV.Props.C13.returns_after_loss
#print axioms PV.Props.C13.done_is_final
#print axioms PV.Props.C13.accept_old_hangs_on_local_close_witness
#print axioms PV.Props.C13.accept_old_hangs_after_loss_witness
#print axioms PV.Props.C13.ensure_session_old_spins_witness
#print axioms PV.Props.C13.channel_request_old_hangs_when_loss_races_the_call_witness
#print axioms PV.Props.C13.accept_notify_before_inactive_hangs_witness
#print axioms PV.Props.C13.every_api_has_a_row
#print axioms PV.Props.C13.no_unclassified_wait_site
#print axioms PV.Props.C13.accept_is_notified_after_inactive
#print axioms PV.Props.C13.both_paths_close_channels
#print axioms PV.Props.C13.closing_a_channel_wakes_every_waiter
#print axioms PV.Props.C13.all_callers_return
#print axioms PV.Props.C13.notify_one_strands_second_sender_witness
#print axioms PV.Props.C13.locks_released_on_every_path
#print axioms PV.Props.C13.no_caller_waits_with_a_teardown_lock_held
#print axioms PV.Props.C13.open_channels_stay_in_the_map
#print axioms PV.Props.C13.channel_map_has_its_two_removals
#print axioms PV.Props.C13.transport_polls_its_own_socket_period
#print axioms PV.Props.C13.lock_table_covers_the_send_gate
#print axioms PV.Props.C13.proxy_recv_fixed_returns
#print axioms PV.Props.C13.proxy_recv_old_spins_witness
