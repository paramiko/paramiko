import PV.Props.C43
#print axioms PV.Props.C43.pickSize_eq_generated
#print axioms PV.Props.C43.pass1_spec
#print axioms PV.Props.C43.pass2_spec
#print axioms PV.Props.C43.pickSize_spec
#print axioms PV.Props.C43.pickSize_mem
#print axioms PV.Props.C43.pickSize_preferred
#print axioms PV.Props.C43.pickSize_largest
#print axioms PV.Props.C43.old_first_pass_witness
#print axioms PV.Props.C43.pickSizeOld_eq_of_le
#print axioms PV.Props.C43.classify_added_iff
#print axioms PV.Props.C43.lineOffers_meets
#print axioms PV.Props.C43.readFile_mem_iff
#print axioms PV.Props.C43.readFile_nonempty
#print axioms PV.Props.C43.rollLaw_mod
#print axioms PV.Props.C43.getModulus_empty
#print axioms PV.Props.C43.getModulus_ok
#print axioms PV.Props.C43.get_modulus_statement
#print axioms PV.Props.C43.offered_meets_requirements
#print axioms PV.Props.C43.no_valid_line
#print axioms PV.Props.C43.gexTriple_spec
#print axioms PV.Props.C43.gexTriple_id
#print axioms PV.Props.C43.gexTripleOld_spec
#print axioms PV.Props.C43.gex_request_statement
#print axioms PV.Props.C43.gex_unaffected_by_fix
#print axioms PV.Props.C43.getSession_spec
