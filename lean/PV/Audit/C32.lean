import PV.Props.C32
#print axioms PV.Props.C32.checkFile_eq_spec
#print axioms PV.Props.C32.terminates
#print axioms PV.Props.C32.request_cases
#print axioms PV.Props.C32.block_index
#print axioms PV.Props.C32.blocks_concat
#print axioms PV.Props.C32.range_length
#print axioms PV.Props.C32.toy_laws
#print axioms PV.Props.C32.fullReads_progress
