import PV.Props.C24
#print axioms PV.Props.C24.model_eq_generated
#print axioms PV.Props.C24.or_set_alone
#print axioms PV.Props.C24.or_clear_alone
#print axioms PV.Props.C24.set_forever_alone
#print axioms PV.Props.C24.pipe_consistent
#print axioms PV.Props.C24.readable_iff_from
#print axioms PV.Props.C24.readable_iff_at_quiescence
#print axioms PV.Props.C24.race_witness_unlocked
#print axioms PV.Props.C24.race_schedule_fixed
#print axioms PV.Props.C24.empty_feed_witness
