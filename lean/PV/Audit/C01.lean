import PV.Props.C01
#print axioms PV.Props.C01.single_packet
#print axioms PV.Props.C01.roundtrip
#print axioms PV.Props.C01.read_all_any_chunking
#print axioms PV.Props.C01.read_message_retry_any_schedule
#print axioms PV.Props.C01.roundtrip_any_fragmentation
#print axioms PV.Props.C01.roundtrip_any_write_schedule
#print axioms PV.Props.C01.write_all_any_schedule
#print axioms PV.Props.C01.roundtrip_with_rekey_accounting
#print axioms PV.Props.C01.accounting_is_transparent
#print axioms PV.Props.C01.shipped_limits_eq_generated
#print axioms PV.Props.C01.send_message_linearises_generated
#print axioms PV.Props.C01.suites_meet_side_conditions
