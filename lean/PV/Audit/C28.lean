import PV.Props.C28
#print axioms PV.Props.C28.buffers_hold_file_content
#print axioms PV.Props.C28.reads_exact
#print axioms PV.Props.C28.read_ahead_consistent
#print axioms PV.Props.C28.readv_block_starts_at_its_offset
#print axioms PV.Props.C28.running_read_keeps_its_start
#print axioms PV.Props.C28.reads_exact_paramiko
#print axioms PV.Props.C28.request_numbers_unique
#print axioms PV.Props.C28.prefetch_lock_never_reentered
#print axioms PV.Props.C28.waiting_reader_not_stuck
#print axioms PV.Props.C28.nonreader_actions_decrease_measure
#print axioms PV.Props.C28.bounded_wait
#print axioms PV.Props.C28.cap_zero_starves_witness
