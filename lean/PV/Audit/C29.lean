import PV.Props.C29
#print axioms PV.Props.C29.rejected_pipelined_write_surfaces_by_close
#print axioms PV.Props.C29.client_never_hangs
#print axioms PV.Props.C29.bookkeeping_invariant
#print axioms PV.Props.C29.accepted_writes_reproduce_source
#print axioms PV.Props.C29.putfo_normal_return_implies_destination_equals_source
#print axioms PV.Props.C29.request_ids_allocated_under_lock
#print axioms PV.Props.C29.getfo_normal_return_implies_local_equals_remote
#print axioms PV.Props.C29.get_normal_return_implies_local_equals_remote
#print axioms PV.Props.C29.failed_read_raises
#print axioms PV.Props.C29.dropped_session_raises
#print axioms PV.Props.C29.failed_stat_or_open_raises
#print axioms PV.Props.C29.getfo_with_prefetch_normal_return_implies_local_equals_remote
