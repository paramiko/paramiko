import PV.Props.C35
#print axioms PV.Props.C35.rsa_verify_total
#print axioms PV.Props.C35.ec_verify_total
#print axioms PV.Props.C35.ed_verify_total
#print axioms PV.Props.C35.ed_routes_wf
#print axioms PV.Props.C35.rsa_hash_table
#print axioms PV.Props.C35.rsaAlg_some
#print axioms PV.Props.C35.rsa_sign_verify
#print axioms PV.Props.C35.rsa_routes
#print axioms PV.Props.C35.ec_sign_verify
#print axioms PV.Props.C35.ec_routes
#print axioms PV.Props.C35.ed_sign_verify
#print axioms PV.Props.C35.ed_routes
#print axioms PV.Props.C35.toy_laws
#print axioms PV.Props.C35.rsa_accept_iff
#print axioms PV.Props.C35.ec_accept_iff
#print axioms PV.Props.C35.ed_accept_iff
#print axioms PV.Props.C35.rsa_declared_hash
#print axioms PV.Props.C35.rsa_accept_genuine
#print axioms PV.Props.C35.ec_accept_genuine
#print axioms PV.Props.C35.ed_accept_genuine
#print axioms PV.Props.C35.legacy_nonutf8_witness
#print axioms PV.Props.C35.legacy_ecdsa_negative_witness
#print axioms PV.Props.C35.legacy_ed25519_length_witness
#print axioms PV.Props.C35.legacy_ed25519_private_file_witness
