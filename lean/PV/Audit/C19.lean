import PV.Props.C19
#print axioms PV.Props.C19.constants_eq_generated
#print axioms PV.Props.C19.window_accesses_locked
#print axioms PV.Props.C19.sofar_written_only_by_check_add_window
#print axioms PV.Props.C19.clamp_is_in_the_source
#print axioms PV.Props.C19.window_equation
#print axioms PV.Props.C19.sent_le_granted
#print axioms PV.Props.C19.data_msg_le_peer_max
#print axioms PV.Props.C19.adjust_le_consumed
#print axioms PV.Props.C19.adjust_le_recvd
#print axioms PV.Props.C19.invariants_inductive
#print axioms PV.Props.C19.failed_send_returns_nothing
#print axioms PV.Props.C19.max_packet_clamped
