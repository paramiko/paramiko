import PV.Props.C16
#print axioms PV.Props.C16.inactive_step
#print axioms PV.Props.C16.inactive_run
#print axioms PV.Props.C16.wrong_service_disconnects
#print axioms PV.Props.C16.username_change_disconnects
#print axioms PV.Props.C16.refusal_in_every_dispatch_state
#print axioms PV.Props.C16.refused_forever
#print axioms PV.Props.C16.rekey_keeps_pin_and_counter
#print axioms PV.Props.C16.single_username
#print axioms PV.Props.C16.only_nonpartial_failures_counted
#print axioms PV.Props.C16.counter_matches_wire
#print axioms PV.Props.C16.tenth_failure_disconnects
#print axioms PV.Props.C16.active_implies_below_cap
#print axioms PV.Props.C16.at_most_ten_failures_answered
