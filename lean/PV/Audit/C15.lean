import PV.Props.C15
#print axioms PV.Props.C15.classify_conn
#print axioms PV.Props.C15.unauthenticated_conn_message_refused
#print axioms PV.Props.C15.unauthenticated_channel_traffic_dropped
#print axioms PV.Props.C15.no_channel_before_authentication
#print axioms PV.Props.C15.gate_holds_at_every_point
#print axioms PV.Props.C15.partial_verdict_reply
#print axioms PV.Props.C15.no_approval_keeps_gate_shut
#print axioms PV.Props.C15.no_approval_no_access
