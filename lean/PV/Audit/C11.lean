import PV.Props.C11
#print axioms PV.Props.C11.C11_witness_reply
#print axioms PV.Props.C11.C11_witness_selfblock
#print axioms PV.Props.C11.C11_partial
#print axioms PV.Props.C11.C11_partial_delivery
#print axioms PV.Props.C11.linv_init
#print axioms PV.Props.C11.linv_step
#print axioms PV.Props.C11.linv_run
#print axioms PV.Props.C11.rekey_lock_progress
#print axioms PV.Props.C11.rekey_lock_measure
#print axioms PV.Props.C11.rekey_lock_finished_wire
#print axioms PV.Props.C11.rekey_lock_held_deadlock_witness
#print axioms PV.Props.C11.user_sites_release_lock_first
#print axioms PV.Props.C11.transport_thread_sites
#print axioms PV.Props.C11.send_gate_window_clean
#print axioms PV.Props.C11.send_gate_no_recheck_witness
#print axioms PV.Props.C11.send_gate_unlocked_clear_witness
#print axioms PV.Props.C11.send_gate_facts
#print axioms PV.Props.C11.overflow_tests_count_from_the_request
#print axioms PV.Props.C11.keepalive_silent_while_rekey_pending
#print axioms PV.Props.C11.window_credit_parked_not_dropped
#print axioms PV.Props.C11.only_exchange_code_bypasses_the_gate
#print axioms PV.Props.C11.every_kexinit_marks_the_exchange_open
