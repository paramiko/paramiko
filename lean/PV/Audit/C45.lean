import PV.Props.C45
#print axioms PV.Props.C45.flag_rule
#print axioms PV.Props.C45.flag_sha256_iff
#print axioms PV.Props.C45.flag_sha512_iff
#print axioms PV.Props.C45.flag_values
#print axioms PV.Props.C45.request_layout
#print axioms PV.Props.C45.request_parses_back
#print axioms PV.Props.C45.readAll_complete
#print axioms PV.Props.C45.readAll_no_fuel
#print axioms PV.Props.C45.sign_ok_iff
#print axioms PV.Props.C45.sign_result_cases
#print axioms PV.Props.C45.well_framed_reply
#print axioms PV.Props.C45.signature_unchanged
#print axioms PV.Props.C45.signStep_fst
#print axioms PV.Props.C45.lost_leaves_nothing
#print axioms PV.Props.C45.well_framed_step
