import PV.Props.C21
#print axioms PV.Props.C21.dispatch_frame
#print axioms PV.Props.C21.dead_channel_drops
#print axioms PV.Props.C21.dead_transport_delivers_nothing
#print axioms PV.Props.C21.unknown_channel_kills_transport
#print axioms PV.Props.C21.kill_keeps_data
#print axioms PV.Props.C21.reopened_channel_starts_empty
#print axioms PV.Props.C21.open_live_id_is_noop
#print axioms PV.Props.C21.run_proj
#print axioms PV.Props.C21.table_refines
#print axioms PV.Props.C21.table_fresh
#print axioms PV.Props.C21.plain_streams
#print axioms PV.Props.C21.switch_on_moves_buffered_stderr
#print axioms PV.Props.C21.combined_stream
#print axioms PV.Props.C21.combined_from_switch
#print axioms PV.Props.C21.exit_status_is_the_one_sent
#print axioms PV.Props.C21.exit_status_wire_roundtrip
#print axioms PV.Props.C21.streams_intact
#print axioms PV.Props.C21.late_data_is_dropped
#print axioms PV.Props.C21.race_witness_before_fix
#print axioms PV.Props.C21.race_history_after_fix
