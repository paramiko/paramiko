import PV.Props.C33
#print axioms PV.Props.C33.flags_exact
#print axioms PV.Props.C33.pack_total
#print axioms PV.Props.C33.roundtrip
#print axioms PV.Props.C33.roundtrip_fields
#print axioms PV.Props.C33.flags_normalize
#print axioms PV.Props.C33.pack_normalize
#print axioms PV.Props.C33.normalize_of_pairs
#print axioms PV.Props.C33.repack
