import PV.Props.C22
#print axioms PV.Props.C22.eof_close_at_most_once
#print axioms PV.Props.C22.peer_close_answered_and_released
#print axioms PV.Props.C22.released_implies_closed
#print axioms PV.Props.C22.dead_channel_sends_nothing
#print axioms PV.Props.C22.send_on_closed_raises
#print axioms PV.Props.C22.no_reservation_after_eof
#print axioms PV.Props.C22.C22_partial
#print axioms PV.Props.C22.C22_witness
#print axioms PV.Props.C22.decided_once_if_all_locked
#print axioms PV.Props.C22.unlocked_site_double_emit_witness
#print axioms PV.Props.C22.decision_sites_locked
#print axioms PV.Props.C22.unlink_uses_the_local_id
#print axioms PV.Props.C22.dispatch_reaches_every_registered_channel
#print axioms PV.Props.C22.eof_decided_once_at_statement_level
