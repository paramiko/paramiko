import PV.Props.C44
#print axioms PV.Props.C44.attempted_prefix
#print axioms PV.Props.C44.attempted_of_success
#print axioms PV.Props.C44.attempted_of_failure
#print axioms PV.Props.C44.trace_sources
#print axioms PV.Props.C44.authenticate_spec
#print axioms PV.Props.C44.calls_are_attempts
#print axioms PV.Props.C44.returned_shape
#print axioms PV.Props.C44.failure_shape
#print axioms PV.Props.C44.fails_iff_none_succeeds
#print axioms PV.Props.C44.authenticate_outcome_vector
#print axioms PV.Props.C44.authCall_spec
#print axioms PV.Props.C44.authCall_eq_one_shot
#print axioms PV.Props.C44.session_spec
#print axioms PV.Props.C44.earlier_results_unchanged
#print axioms PV.Props.C44.one_entry_per_call
