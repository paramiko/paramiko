import PV.Props.C12
#print axioms PV.Props.C12.unhandled_reaches_fallback
#print axioms PV.Props.C12.unhandled_gets_unimplemented
#print axioms PV.Props.C12.unhandled_session_continues
#print axioms PV.Props.C12.unimplemented_never_answered
#print axioms PV.Props.C12.payload_irrelevant
#print axioms PV.Props.C12.unhandled_run
#print axioms PV.Props.C12.names_lookup_total
#print axioms PV.Props.C12.C12
#print axioms PV.Props.C12.all_256_types_table
#print axioms PV.Props.C12.no_handler_against_protocol_direction
#print axioms PV.Props.C12.unimplemented_unhandled
#print axioms PV.Props.C12.type3_unhandled_everywhere
#print axioms PV.Props.C12.keys_named
#print axioms PV.Props.C12.unnamed_unhandled
#print axioms PV.Props.C12.unnamed_types_unhandled
#print axioms PV.Props.C12.partial_lookup_kills_session
#print axioms PV.Props.C12.reply_uses_fixed_width_encoding
#print axioms PV.Props.C12.constants_match
