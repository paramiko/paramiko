import PV.Props.C02
#print axioms PV.Props.C02.tag_compare_is_equality
#print axioms PV.Props.C02.mac_check_not_under_length_condition_generated
#print axioms PV.Props.C02.mac_covers_whole_packet_generated
#print axioms PV.Props.C02.failure_is_absorbing
#print axioms PV.Props.C02.seqno_stepped_only_after_authentication_generated
#print axioms PV.Props.C02.accept_checks_tag_etm
#print axioms PV.Props.C02.accept_checks_tag_classic
#print axioms PV.Props.C02.accept_checks_tag_aead
#print axioms PV.Props.C02.prefix_of_sent_partial
#print axioms PV.Props.C02.prefix_of_sent_membership_partial
#print axioms PV.Props.C02.truncated_stream_prefix
#print axioms PV.Props.C02.honest_stream_satisfies_noforge
