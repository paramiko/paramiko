import PV.Props.C25
#print axioms PV.Props.C25.iteration_raises_or_shortens
#print axioms PV.Props.C25.wakeup_raises_or_shortens
#print axioms PV.Props.C25.write_then_shorter_or_done
#print axioms PV.Props.C25.iteration_after_shutdown_raises
#print axioms PV.Props.C25.wakeup_after_shutdown_raises
#print axioms PV.Props.C25.returns_only_when_all_sent
#print axioms PV.Props.C25.sendall_enters
#print axioms PV.Props.C25.C25_witness
#print axioms PV.Props.C25.window_adjust_notifies_all
#print axioms PV.Props.C25.blocked_sendall_is_notified
#print axioms PV.Props.C25.channels_unlinked_before_transport_inactive
