import PV.Props.C40
#print axioms PV.Props.C40.host_applies_iff
#print axioms PV.Props.C40.glob_star
#print axioms PV.Props.C40.glob_literal
#print axioms PV.Props.C40.block_first_value
#print axioms PV.Props.C40.block_list_values
#print axioms PV.Props.C40.parse_nodup
#print axioms PV.Props.C40.lookupPass_eq_applied
#print axioms PV.Props.C40.identityFiles_nodup
#print axioms PV.Props.C40.mem_identityFiles
#print axioms PV.Props.C40.lookupOptions_eq_merge
#print axioms PV.Props.C40.lookup_first_obtained_visiting
#print axioms PV.Props.C40.blockApplies_static
#print axioms PV.Props.C40.appliedIn_static
#print axioms PV.Props.C40.lookupPass_static
#print axioms PV.Props.C40.lookup_first_obtained
#print axioms PV.Props.C40.lookupLines_first_obtained
#print axioms PV.Props.C40.match_host_applies
#print axioms PV.Props.C40.match_user_applies
#print axioms PV.Props.C40.match_final_applies
#print axioms PV.Props.C40.tokenize_hostname
#print axioms PV.Props.C40.expandVariables_get
#print axioms PV.Props.C40.percent_h_is_expanded_hostname
#print axioms PV.Props.C40.lookupSession_spec
#print axioms PV.Props.C40.getHostnames_spec
