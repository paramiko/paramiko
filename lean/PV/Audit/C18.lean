import PV.Props.C18
#print axioms PV.Props.C18.global_request_always_refused
#print axioms PV.Props.C18.channel_open_gated
#print axioms PV.Props.C18.accepted_only_if_enabled_by_client
#print axioms PV.Props.C18.never_enabled_means_refused
#print axioms PV.Props.C18.channel_request_never_approved
#print axioms PV.Props.C18.exec_shell_subsystem_pty_never_approved
