import PV.Props.C30
#print axioms PV.Props.C30.source_branches_emit_valid_types
#print axioms PV.Props.C30.model_within_source_table
#print axioms PV.Props.C30.one_response_same_id_valid_type
#print axioms PV.Props.C30.failures_answer_with_status
#print axioms PV.Props.C30.source_paths_send_exactly_once
#print axioms PV.Props.C30.source_exception_paths_send_exactly_once
#print axioms PV.Props.C30.source_readdir_count_matches_entries
#print axioms PV.Props.C30.source_responses_use_fixed_width_fields
#print axioms PV.Props.C30.source_else_branch_emits_status
#print axioms PV.Props.C30.client_never_waits_forever
#print axioms PV.Props.C30.source_write_status_matched_by_id
#print axioms PV.Props.C30.listdir_iter_complete
#print axioms PV.Props.C30.listdir_iter_without_reset_hangs_witness
#print axioms PV.Props.C30.client_never_blocks_under_backpressure
#print axioms PV.Props.C30.backpressure_steps_decrease_work
#print axioms PV.Props.C30.send_under_lock_deadlocks_witness
