import PV.Props.C08
#print axioms PV.Props.C08.replyF_wire
#print axioms PV.Props.C08.firstMpint_wire
#print axioms PV.Props.C08.grp_client_rejects
#print axioms PV.Props.C08.grp_server_rejects
#print axioms PV.Props.C08.grp_client_effect_in_range
#print axioms PV.Props.C08.grp_server_effect_in_range
#print axioms PV.Props.C08.grp_client_rejects_wire
#print axioms PV.Props.C08.grp_server_rejects_wire
#print axioms PV.Props.C08.grp_next_rejects
#print axioms PV.Props.C08.bitLength_eq_log2
#print axioms PV.Props.C08.gex_group_rejects
#print axioms PV.Props.C08.gex_group_effect_window
#print axioms PV.Props.C08.gex_group_rejects_sizes
#print axioms PV.Props.C08.gex_client_rejects
#print axioms PV.Props.C08.gex_client_effect_in_range
#print axioms PV.Props.C08.gex_server_rejects
#print axioms PV.Props.C08.gex_server_effect_in_range
#print axioms PV.Props.C08.ec_server_rejects_bad_point
#print axioms PV.Props.C08.ec_client_rejects_bad_point
#print axioms PV.Props.C08.ec_server_effect_valid
#print axioms PV.Props.C08.ec_client_effect_valid
#print axioms PV.Props.C08.cv_exchange_refuses_zero
#print axioms PV.Props.C08.cv_server_rejects
#print axioms PV.Props.C08.cv_client_rejects
#print axioms PV.Props.C08.cv_server_effect_valid
#print axioms PV.Props.C08.cv_client_effect_valid
#print axioms PV.Props.C08.feed_rejecting_step
#print axioms PV.Props.C08.dead_absorbing
#print axioms PV.Props.C08.no_setKH_keeps_keys
#print axioms PV.Props.C08.grp_client_session_rejects
