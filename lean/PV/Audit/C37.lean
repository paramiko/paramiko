import PV.Props.C37
#print axioms PV.Props.C37.unpad_only_ssh
#print axioms PV.Props.C37.readOpenssh_outcome
#print axioms PV.Props.C37.openssh_outcome
#print axioms PV.Props.C37.toyP_spec
#print axioms PV.Props.C37.legacy_openssh_nonutf8_cipher_witness
#print axioms PV.Props.C37.ed_outcome
#print axioms PV.Props.C37.ed_ok_halves_agree
#print axioms PV.Props.C37.legacy_ed_aead_cipher_witness
#print axioms PV.Props.C37.pem_outcome
#print axioms PV.Props.C37.text_outcome
#print axioms PV.Props.C37.toyT_spec
