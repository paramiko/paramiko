import PV.Props.C07
#print axioms PV.Props.C07.verifyKey_accept
#print axioms PV.Props.C07.agreeClient_mem
#print axioms PV.Props.C07.preferredKeys_enabled
#print axioms PV.Props.C07.client_accept
#print axioms PV.Props.C07.stripCert_defaults
#print axioms PV.Props.C07.client_accept_default
#print axioms PV.Props.C07.rsa_hash_is_negotiated
#print axioms PV.Props.C07.fixed_name_keys
#print axioms PV.Props.C07.server_accept
#print axioms PV.Props.C07.server_accept_enabled
#print axioms PV.Props.C07.server_no_sig_no_success
#print axioms PV.Props.C07.session_success
#print axioms PV.Props.C07.session_success_enabled
#print axioms PV.Props.C07.unchecked_accepts_downgrade_witness
#print axioms PV.Props.C07.checked_rejects_downgrade
