import PV.Props.C05
#print axioms PV.Props.C05.parseKexInit_view
#print axioms PV.Props.C05.advertised_eq_accepted
#print axioms PV.Props.C05.follows_rfc
#print axioms PV.Props.C05.spec_none_iff
#print axioms PV.Props.C05.incompatible_iff
#print axioms PV.Props.C05.peers_agree
#print axioms PV.Props.C05.never_disabled
#print axioms PV.Props.C05.kex_never_marker
#print axioms PV.Props.C05.no_marker_selected
#print axioms PV.Props.C05.advertised_never_disabled
#print axioms PV.Props.C05.send_idempotent
#print axioms PV.Props.C05.setPref_raise
#print axioms PV.Props.C05.setPref_ok
#print axioms PV.Props.C05.setPref_wf
#print axioms PV.Props.C05.setKex_eq_setPref
#print axioms PV.Props.C05.setKex_wf
#print axioms PV.Props.C05.agreed_in_tables
#print axioms PV.Props.C05.advertised_in_tables
#print axioms PV.Props.C05.reads_are_noops
#print axioms PV.Props.C05.wf_after_ops
#print axioms PV.Props.C05.wf_after_setters
#print axioms PV.Props.C05.preferred_pure
#print axioms PV.Props.C05.history_independent
#print axioms PV.Props.C05.history_never_disabled
#print axioms PV.Props.C05.generated_info_ok
#print axioms PV.Props.C05.default_wf
#print axioms PV.Props.C05.stale_advertisement_witness
