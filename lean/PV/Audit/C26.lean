import PV.Props.C26
#print axioms PV.Props.C26.fifo
#print axioms PV.Props.C26.log_records_feeds
#print axioms PV.Props.C26.fifo_from
#print axioms PV.Props.C26.read_empty_step
#print axioms PV.Props.C26.read_empty_only_closed_drained
#print axioms PV.Props.C26.closed_drained_read_returns_empty
#print axioms PV.Props.C26.closed_drained_wake_returns_empty
#print axioms PV.Props.C26.timeout_only_without_data
#print axioms PV.Props.C26.wake_with_data_delivers
#print axioms PV.Props.C26.deadline_witness_before_fix
#print axioms PV.Props.C26.deadline_witness_after_fix
#print axioms PV.Props.C26.empty_returns_everything
#print axioms PV.Props.C26.event_tracks_buffer
#print axioms PV.Props.C26.event_tracks_buffer_after_set_event
