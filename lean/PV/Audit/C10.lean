import PV.Props.C10
#print axioms PV.Props.C10.sent_over_threshold_requests_rekey
#print axioms PV.Props.C10.received_over_threshold_requests_rekey
#print axioms PV.Props.C10.flag_cleared_only_when_both_switched
#print axioms PV.Props.C10.counters_reset_only_by_switch
#print axioms PV.Props.C10.inv_step
#print axioms PV.Props.C10.overflow_bounded
#print axioms PV.Props.C10.ignoring_peer_dropped
#print axioms PV.Props.C10.ignoring_peer_dropped_packets
#print axioms PV.Props.C10.ignoring_peer_dropped_bytes
#print axioms PV.Props.C10.loop_top_starts_kex
#print axioms PV.Props.C10.in_kex_cleared_only_when_settled
#print axioms PV.Props.C10.need_rekey_exception_loses_nothing
#print axioms PV.Props.C10.idle_poll_starts_rekey_whatever_its_style
#print axioms PV.Props.C10.read_all_waits_mid_packet
#print axioms PV.Props.C10.compressor_follows_every_newkeys
#print axioms PV.Props.C10.compressor_pair_in_step
#print axioms PV.Props.C10.self_initiated_rekey_closes_gate_under_lock
#print axioms PV.Props.C10.rekey_keeps_authentication
#print axioms PV.Props.C10.send_wait_bound_is_elapsed_time
