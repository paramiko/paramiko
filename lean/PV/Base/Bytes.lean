/-
  PV.Base.Bytes — byte strings, hex transport for the line protocol, big-endian integers.
  Mathlib-free.  Everything here is executable.
-/
namespace PV

abbrev Bytes := List UInt8

/-! ## hex (line protocol) -/

def hexChar (n : Nat) : Char :=
  if n < 10 then Char.ofNat (48 + n) else Char.ofNat (87 + n)

def hexVal? (c : Char) : Option Nat :=
  if '0' ≤ c ∧ c ≤ '9' then some (c.toNat - 48)
  else if 'a' ≤ c ∧ c ≤ 'f' then some (c.toNat - 87)
  else if 'A' ≤ c ∧ c ≤ 'F' then some (c.toNat - 55)
  else none

def toHex (b : Bytes) : String :=
  String.ofList (b.flatMap fun x => [hexChar (x.toNat / 16), hexChar (x.toNat % 16)])

/-- `-` denotes the empty byte string on the wire of the line protocol. -/
def toHexTok (b : Bytes) : String := if b.isEmpty then "-" else toHex b

def ofHexChars : List Char → Option Bytes
  | [] => some []
  | [_] => none
  | a :: b :: rest =>
    match hexVal? a, hexVal? b, ofHexChars rest with
    | some x, some y, some r => some (UInt8.ofNat (x * 16 + y) :: r)
    | _, _, _ => none

def ofHex? (s : String) : Option Bytes :=
  if s == "-" then some [] else ofHexChars s.toList

/-! ## big-endian fixed width -/

/-- `width` big-endian bytes of `n` (the low `8*width` bits). -/
def beBytes : Nat → Nat → Bytes
  | 0, _ => []
  | w+1, n => beBytes w (n / 256) ++ [UInt8.ofNat (n % 256)]

/-- big-endian value of a byte string -/
def beVal (b : Bytes) : Nat := b.foldl (fun acc x => acc * 256 + x.toNat) 0

@[simp] theorem beBytes_length (w n : Nat) : (beBytes w n).length = w := by
  induction w generalizing n with
  | zero => rfl
  | succ w ih => simp [beBytes, ih]

theorem snoc_induction {α : Type} {P : List α → Prop} (h0 : P [])
    (h1 : ∀ xs x, P xs → P (xs ++ [x])) (l : List α) : P l := by
  have : ∀ r : List α, P r.reverse := by
    intro r
    induction r with
    | nil => simpa
    | cons x xs ih => simpa using h1 _ x ih
  simpa using this l.reverse

theorem beVal_append_single (a : Bytes) (x : UInt8) : beVal (a ++ [x]) = beVal a * 256 + x.toNat := by
  simp [beVal, List.foldl_append]

theorem beVal_foldl (acc : Nat) (b : Bytes) :
    b.foldl (fun acc x => acc * 256 + x.toNat) acc = acc * 256 ^ b.length + beVal b := by
  induction b generalizing acc with
  | nil => simp [beVal]
  | cons x xs ih =>
    simp only [List.foldl_cons, beVal, List.length_cons]
    rw [ih, ih (0 * 256 + x.toNat)]
    rw [Nat.pow_succ]
    simp [Nat.add_mul, Nat.mul_assoc, Nat.mul_comm 256, Nat.add_assoc]

theorem beVal_cons (x : UInt8) (xs : Bytes) : beVal (x :: xs) = x.toNat * 256 ^ xs.length + beVal xs := by
  have := beVal_foldl (0 * 256 + x.toNat) xs
  simp only [beVal, List.foldl_cons] at *
  rw [this]; simp

theorem beVal_append (a b : Bytes) : beVal (a ++ b) = beVal a * 256 ^ b.length + beVal b := by
  simp only [beVal, List.foldl_append]
  exact beVal_foldl _ _

theorem beVal_lt (b : Bytes) : beVal b < 256 ^ b.length := by
  induction b using snoc_induction with
  | h0 => simp [beVal]
  | h1 xs x ih =>
    rw [beVal_append_single, List.length_append, List.length_singleton, Nat.pow_succ]
    have := x.toNat_lt
    omega

theorem beVal_beBytes (w n : Nat) : beVal (beBytes w n) = n % 256 ^ w := by
  induction w generalizing n with
  | zero => simp [beBytes, beVal, Nat.mod_one]
  | succ w ih =>
    have hm : n % 256 % 2 ^ 8 = n % 256 := Nat.mod_eq_of_lt (Nat.mod_lt _ (by decide))
    simp only [beBytes, beVal_append_single, ih, UInt8.toNat_ofNat', hm]
    rw [Nat.pow_succ', Nat.mod_mul, Nat.mul_comm]
    exact Nat.add_comm _ _

theorem beVal_beBytes_of_lt (w n : Nat) (h : n < 256 ^ w) : beVal (beBytes w n) = n := by
  rw [beVal_beBytes, Nat.mod_eq_of_lt h]

theorem beBytes_beVal (b : Bytes) : beBytes b.length (beVal b) = b := by
  induction b using snoc_induction with
  | h0 => rfl
  | h1 xs x ih =>
    rw [List.length_append, List.length_singleton, beBytes, beVal_append_single]
    have hx := x.toNat_lt
    have h1 : (beVal xs * 256 + x.toNat) / 256 = beVal xs := by omega
    have h2 : (beVal xs * 256 + x.toNat) % 256 = x.toNat := by omega
    rw [h1, h2, ih]
    simp

def be32 (n : Nat) : Bytes := beBytes 4 n
def be64 (n : Nat) : Bytes := beBytes 8 n

@[simp] theorem be32_length (n : Nat) : (be32 n).length = 4 := beBytes_length 4 n
@[simp] theorem be64_length (n : Nat) : (be64 n).length = 8 := beBytes_length 8 n

theorem beVal_be32 (n : Nat) (h : n < 4294967296) : beVal (be32 n) = n :=
  beVal_beBytes_of_lt 4 n (by simpa using h)

theorem beVal_be64 (n : Nat) (h : n < 18446744073709551616) : beVal (be64 n) = n :=
  beVal_beBytes_of_lt 8 n (by simpa using h)

/-- Python `b[:n]` / `b[n:]` on bytes are `take`/`drop`; zero padding as in `Message.get_bytes`. -/
def zeros (n : Nat) : Bytes := List.replicate n 0

end PV
