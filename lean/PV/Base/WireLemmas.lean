/-
  Lemmas about the wire model (PV/Base/Wire.lean) that the lemma files of the models share: digits and
  complement, `inflate_long ∘ deflate_long`, reads at the reader's position (`*_at`, chained with `adv`),
  injectivity of the string writers, name-lists.  The property theorems are in PV/Props/C39.lean.
-/
import PV.Base.Wire
namespace PV.Wire
open PV

@[simp] theorem encStr_length (s : Bytes) : (encStr s).length = 4 + s.length := by
  simp [encStr]

/-! ### reading what lies at the reader's position

Every lemma has the shape "if the unread bytes start with `x`, the read returns … and leaves the reader `x.length`
further on"; `adv_remainder` then says what the unread bytes are afterwards, so reads chain without any
bookkeeping of what came before the position. -/

/-- the reader `n` bytes further on -/
def adv (r : Rd) (n : Nat) : Rd := { r with pos := r.pos + n }

theorem adv_adv (r : Rd) (m n : Nat) : adv (adv r m) n = adv r (m + n) := by
  simp [adv, Nat.add_assoc]

theorem adv_remainder {r : Rd} {x rest : Bytes} {n : Nat} (h : r.remainder = x ++ rest) (hn : x.length = n) :
    (adv r n).remainder = rest := by
  unfold Rd.remainder at h
  simp [Rd.remainder, adv, ← List.drop_drop, h, ← hn]

theorem getBytes_at {r : Rd} {x rest : Bytes} (h : r.remainder = x ++ rest) :
    r.getBytes x.length = (x, adv r x.length) := by
  unfold Rd.remainder at h
  simp [Rd.getBytes, adv, h]

theorem getInt_at {r : Rd} {n : Nat} {rest : Bytes} (hn : n < 4294967296) (h : r.remainder = be32 n ++ rest) :
    r.getInt = (n, adv r 4) := by
  have hb := getBytes_at h
  rw [be32_length] at hb
  simp only [Rd.getInt, hb, beVal_be32 n hn]

theorem getString_at {r : Rd} {s rest : Bytes} (hs : s.length < 4294967296)
    (h : r.remainder = encStr s ++ rest) : r.getString = (s, adv r (4 + s.length)) := by
  have h0 : r.remainder = be32 s.length ++ (s ++ rest) := by simpa [encStr] using h
  simp only [Rd.getString, getInt_at hs h0, getBytes_at (adv_remainder h0 (be32_length _)), adv_adv]

theorem parse1 {r : Rd} {a rest : Bytes} (ha : a.length < 4294967296) (h : r.remainder = encStr a ++ rest) :
    r.getString.1 = a := by
  rw [getString_at ha h]

theorem parse2 {r : Rd} {a b rest : Bytes} (ha : a.length < 4294967296) (hb : b.length < 4294967296)
    (h : r.remainder = encStr a ++ encStr b ++ rest) :
    r.getString.1 = a ∧ r.getString.2.getString = (b, adv r (4 + a.length + (4 + b.length))) := by
  rw [List.append_assoc] at h
  rw [getString_at ha h, getString_at hb (adv_remainder h (encStr_length a)), adv_adv]
  exact ⟨rfl, rfl⟩

/-- every reply of a key exchange is three strings: host key, public value, signature -/
theorem parse3 {r : Rd} {a b c rest : Bytes} (ha : a.length < 4294967296) (hb : b.length < 4294967296)
    (hc : c.length < 4294967296) (h : r.remainder = encStr a ++ encStr b ++ encStr c ++ rest) :
    r.getString.1 = a ∧ r.getString.2.getString.1 = b ∧ r.getString.2.getString.2.getString.1 = c := by
  rw [List.append_assoc] at h
  obtain ⟨h1, h2⟩ := parse2 ha hb h
  rw [h1, h2, getString_at hc (adv_remainder (x := encStr a ++ encStr b) (by rw [h, List.append_assoc]) (by simp))]
  exact ⟨rfl, rfl, rfl⟩

/-! ### the same reads, for a reader written out as prefix, field, rest -/

theorem remainder_at (pre x : Bytes) : Rd.remainder { content := pre ++ x, pos := pre.length } = x := by
  simp [Rd.remainder]

theorem getBytes_exact (pre x rest : Bytes) :
    Rd.getBytes { content := pre ++ x ++ rest, pos := pre.length } x.length
      = (x, { content := pre ++ x ++ rest, pos := pre.length + x.length }) :=
  getBytes_at (rest := rest) (by rw [List.append_assoc, remainder_at])

theorem getString_exact (pre s rest : Bytes) (h : s.length < 4294967296) :
    Rd.getString { content := pre ++ encStr s ++ rest, pos := pre.length }
      = (s, { content := pre ++ encStr s ++ rest, pos := pre.length + (encStr s).length }) := by
  rw [encStr_length]
  exact getString_at (rest := rest) h (by rw [List.append_assoc, remainder_at])

theorem getBytes_content (r : Rd) (n : Nat) : (r.getBytes n).2.content = r.content := by
  unfold Rd.getBytes; simp only; split <;> rfl

theorem getBytes_pos_le (r : Rd) (n : Nat) (h : r.pos ≤ r.content.length) :
    (r.getBytes n).2.pos ≤ r.content.length := by
  unfold Rd.getBytes; simp only
  split <;> simp <;> omega

/-! ### natBytes -/

theorem natBytes_zero : natBytes 0 = [] := by rw [natBytes]; simp

theorem natBytes_pos (n : Nat) (h : n ≠ 0) :
    natBytes n = natBytes (n / 256) ++ [UInt8.ofNat (n % 256)] := by
  rw [natBytes]; simp [h]

theorem beVal_natBytes (n : Nat) : beVal (natBytes n) = n := by
  induction n using Nat.strongRecOn with
  | _ n ih =>
    by_cases h : n = 0
    · subst h; simp [natBytes_zero, beVal]
    · rw [natBytes_pos n h, beVal_append_single, ih (n / 256) (by omega), UInt8.toNat_ofNat']
      have : n % 256 % 2 ^ 8 = n % 256 := Nat.mod_eq_of_lt (Nat.mod_lt _ (by decide))
      omega

theorem natBytes_ne_nil (n : Nat) (h : n ≠ 0) : natBytes n ≠ [] := by
  rw [natBytes_pos n h]; simp

theorem natBytes_head_ne_zero (n : Nat) : ∀ b r, natBytes n = b :: r → b ≠ 0 := by
  induction n using Nat.strongRecOn with
  | _ n ih =>
    intro b r hbr
    by_cases h : n = 0
    · rw [h, natBytes_zero] at hbr; cases hbr
    rw [natBytes_pos n h] at hbr
    cases hq : natBytes (n / 256) with
    | nil =>
      -- a single digit: `n` itself, below 256
      have h2 : n / 256 = 0 := Classical.byContradiction fun h2 => natBytes_ne_nil _ h2 hq
      rw [hq] at hbr; cases hbr
      intro h0
      have := congrArg UInt8.toNat h0
      rw [UInt8.toNat_ofNat'] at this
      simp at this; omega
    | cons c cs =>
      rw [hq] at hbr; cases hbr
      exact ih (n / 256) (by omega) _ _ hq

/-! ### complement -/

@[simp] theorem compl_length (b : Bytes) : (compl b).length = b.length := by simp [compl]

theorem compl_toNat (x : UInt8) : (255 - x).toNat = 255 - x.toNat := by
  have := x.toNat_lt
  rw [UInt8.toNat_sub_of_le]
  · rfl
  · exact UInt8.le_iff_toNat_le.mpr (by simp; omega)

theorem beVal_compl (b : Bytes) : beVal (compl b) + beVal b + 1 = 256 ^ b.length := by
  induction b using snoc_induction with
  | h0 => simp [compl, beVal]
  | h1 xs x ih =>
    have hc : compl (xs ++ [x]) = compl xs ++ [255 - x] := by simp [compl]
    rw [hc, beVal_append_single, beVal_append_single, compl_toNat, List.length_append,
      List.length_singleton, Nat.pow_succ]
    have := x.toNat_lt
    omega

/-! ### mpint: `inflate_long` undoes `deflate_long` -/

theorem deflatePos_spec (n : Nat) :
    ∃ c cs, deflatePos n = c :: cs ∧ c.toNat < 128 ∧ beVal (c :: cs) = n := by
  unfold deflatePos
  split
  · next h => exact ⟨0, [], rfl, by decide, by rw [h]; rfl⟩
  · next h =>
    have hv := beVal_natBytes n
    cases hq : natBytes n with
    | nil => exact absurd hq (natBytes_ne_nil n h)
    | cons b r =>
      rw [hq] at hv
      by_cases hb : b.toNat ≥ 128
      · refine ⟨0, b :: r, by simp [signPad, hb], by decide, ?_⟩
        rw [beVal_cons]; simpa using hv
      · exact ⟨b, r, by simp [signPad, hb], by omega, hv⟩

theorem inflate_deflate (z : Int) : inflate (deflate z) = z := by
  unfold deflate
  split
  · obtain ⟨c, cs, hd, hc, hv⟩ := deflatePos_spec z.toNat
    rw [hd, inflate, if_neg (by omega), hv]
    omega
  · -- the complement of `-z - 1`: top bit set, value `256^len - 1 - (-z - 1)`
    obtain ⟨c, cs, hd, hc, hv⟩ := deflatePos_spec (-z - 1).toNat
    have hsum : beVal ((255 - c) :: compl cs) + beVal (c :: cs) + 1 = 256 ^ (c :: cs).length :=
      beVal_compl (c :: cs)
    rw [hd, show compl (c :: cs) = (255 - c) :: compl cs from rfl, inflate,
      if_pos (by rw [compl_toNat]; omega), List.length_cons, compl_length,
      show (256 : Int) ^ (cs.length + 1) = ((256 ^ (cs.length + 1) : Nat) : Int) by simp]
    rw [List.length_cons] at hsum
    omega

theorem inflate_encMpint (z : Int) : inflate (if z = 0 then [] else deflate z) = z := by
  split
  · next h => rw [h]; rfl
  · exact inflate_deflate z

/-! ### injectivity of `add_string` -/

theorem be32_inj (m n : Nat) (hm : m < 4294967296) (hn : n < 4294967296) (h : be32 m = be32 n) : m = n := by
  have := congrArg beVal h
  rwa [beVal_be32 m hm, beVal_be32 n hn] at this

theorem encStr_append_inj (a b x y : Bytes) (ha : a.length < 4294967296) (hb : b.length < 4294967296)
    (h : encStr a ++ x = encStr b ++ y) : a = b ∧ x = y := by
  unfold encStr at h
  rw [List.append_assoc, List.append_assoc] at h
  have h1 := List.append_inj h (by simp)
  exact List.append_inj h1.2 (be32_inj _ _ ha hb h1.1)

theorem encMpint_append_inj (a b : Int) (x y : Bytes)
    (ha : (if a = 0 then [] else deflate a : Bytes).length < 4294967296)
    (hb : (if b = 0 then [] else deflate b : Bytes).length < 4294967296)
    (h : encMpint a ++ x = encMpint b ++ y) : a = b ∧ x = y := by
  obtain ⟨h1, h2⟩ := encStr_append_inj _ _ _ _ ha hb h
  have := congrArg inflate h1
  rw [inflate_encMpint, inflate_encMpint] at this
  exact ⟨this, h2⟩

/-! ### name-lists: `split(",")` undoes `",".join` -/

theorem splitGo_append (a tail acc : Bytes) (ha : (44 : UInt8) ∉ a) :
    splitComma.go (a ++ tail) acc = splitComma.go tail (a.reverse ++ acc) := by
  induction a generalizing acc with
  | nil => rfl
  | cons c cs ih =>
    have hc : c ≠ 44 := by intro h; exact ha (by simp [h])
    have hcs : (44 : UInt8) ∉ cs := by intro h; exact ha (by simp [h])
    simp only [List.cons_append, splitComma.go, hc, if_false]
    rw [ih (c :: acc) hcs]
    simp

theorem splitGo_join (l : List Bytes) (a : Bytes) (acc : Bytes)
    (ha : (44 : UInt8) ∉ a) (hl : ∀ x ∈ l, (44 : UInt8) ∉ x) :
    splitComma.go (joinComma (a :: l)) acc = (acc.reverse ++ a) :: l := by
  induction l generalizing a acc with
  | nil =>
    have := splitGo_append a [] acc ha
    simp only [List.append_nil] at this
    simp [joinComma, this, splitComma.go]
  | cons b r ih =>
    have hj : joinComma (a :: b :: r) = a ++ 44 :: joinComma (b :: r) := rfl
    rw [hj, splitGo_append a _ acc ha]
    simp only [splitComma.go, if_true]
    rw [ih b [] (hl b (by simp)) (fun x hx => hl x (by simp [hx]))]
    simp

theorem split_join (l : List Bytes) (hne : l ≠ []) (hl : ∀ x ∈ l, (44 : UInt8) ∉ x) :
    splitComma (joinComma l) = l := by
  cases l with
  | nil => exact absurd rfl hne
  | cons a r =>
    have := splitGo_join r a [] (hl a (by simp)) (fun x hx => hl x (by simp [hx]))
    simpa [splitComma] using this

/-! ### typed fields: what `add_x` wrote, `get_x` reads back -/

theorem decode_at (f : Field) (hf : f.WF) {r : Rd} {rest : Bytes} (h : r.remainder = encode f ++ rest) :
    decode r f.kind = (f, adv r (encode f).length) := by
  cases f with
  | byte b =>
    have g : r.getBytes 1 = ([b], adv r 1) := getBytes_at h
    simp only [decode, encode, Field.kind, g, List.length_singleton]; rfl
  | bool b =>
    have g : r.getBytes 1 = ([if b then (1 : UInt8) else 0], adv r 1) := getBytes_at h
    simp only [decode, encode, Field.kind, g, List.length_singleton]
    cases b <;> rfl
  | u32 n => simp only [decode, encode, Field.kind, getInt_at hf h, be32_length]
  | u64 n =>
    have g := getBytes_at (x := be64 n) h
    rw [be64_length] at g
    simp only [decode, encode, Field.kind, g, beVal_be64 n hf, be64_length]
  | str s => simp only [decode, encode, Field.kind, getString_at hf h, encStr_length]
  | list l =>
    obtain ⟨hne, hcomma, hlen⟩ := hf
    simp only [decode, encode, Field.kind, getString_at hlen h, split_join l hne hcomma, encStr_length]
  | mpint z =>
    have hlen : (if z = 0 then [] else deflate z : Bytes).length < 4294967296 := by
      split
      · exact Nat.zero_lt_succ _
      · exact hf
    simp only [decode, encode, Field.kind, encMpint, getString_at hlen h, inflate_encMpint, encStr_length]
  | adaptive z =>
    simp only [Field.kind]
    obtain ⟨hz, hlen⟩ := hf
    by_cases hbig : z ≥ 4278190080
    · -- the marker 0xFF, then `deflate_long(z)` as a string
      simp only [encode, hbig, if_true] at h ⊢
      have h1 : r.remainder = [255] ++ (encStr (deflate z) ++ rest) := h
      have g1 : r.getBytes 1 = ([255], adv r 1) := getBytes_at h1
      have g2 : (adv r 1).getString = (deflate z, adv (adv r 1) (4 + (deflate z).length)) :=
        getString_at hlen (adv_remainder h1 rfl)
      simp only [decode, g1, if_true, g2, inflate_deflate, adv_adv, List.length_cons, encStr_length,
        Nat.add_comm 1]
    · -- a plain uint32 below 0xFF000000: its first byte is not the marker
      simp only [encode, hbig, if_false] at h ⊢
      obtain ⟨a, t, hx, ht⟩ : ∃ a t, be32 z.toNat = a :: t ∧ t.length = 3 := by
        have := be32_length z.toNat
        match hq : be32 z.toNat, this with
        | a :: t, hl => exact ⟨a, t, rfl, by simpa using hl⟩
      have hv := beVal_be32 z.toNat (by omega)
      rw [hx, beVal_cons, ht] at hv
      have ha : ¬ ([a] = [(255 : UInt8)]) := by
        intro e
        have : a.toNat = 255 := by rw [List.singleton_inj.mp e]; rfl
        omega
      have h1 : r.remainder = [a] ++ (t ++ rest) := by rw [h, hx]; rfl
      have g1 : r.getBytes 1 = ([a], adv r 1) := getBytes_at h1
      have g2 : (adv r 1).getBytes 3 = (t, adv (adv r 1) 3) := ht ▸ getBytes_at (adv_remainder h1 rfl)
      simp only [decode, g1, ha, if_false, g2, adv_adv, be32_length, List.singleton_append, beVal_cons, ht, hv,
        Int.toNat_of_nonneg hz]

theorem decodeAll_at (fs : List Field) (hfs : ∀ f ∈ fs, f.WF) {r : Rd} {rest : Bytes}
    (h : r.remainder = encodeAll fs ++ rest) :
    decodeAll r (fs.map Field.kind) = (fs, adv r (encodeAll fs).length) := by
  induction fs generalizing r with
  | nil => rfl
  | cons f fs ih =>
    have h' : r.remainder = encode f ++ (encodeAll fs ++ rest) := by
      rw [h, encodeAll, List.flatMap_cons, List.append_assoc]; rfl
    simp only [List.map_cons, decodeAll, decode_at f (hfs f (List.mem_cons_self)) h',
      ih (fun g hg => hfs g (List.mem_cons_of_mem _ hg)) (adv_remainder h' rfl), adv_adv]
    simp [encodeAll]

end PV.Wire
