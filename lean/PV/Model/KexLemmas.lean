/-
  Lemmas for the key-exchange model (PV/Model/Kex.lean): square-and-multiply is exponentiation,
  `int.bit_length`, finite-field Diffie-Hellman commutes; what each handler does with a body the
  peer's writer produced (`*_wire`); the ending the four client reply handlers share (`conclude`)
  and the three ways a client-side engine step can end (`ClientStep`), through which C06's theorems
  about `Sess.feed` see all engines at once.
-/
import PV.Model.Kex
import PV.Base.WireLemmas
namespace PV.Kex
open PV PV.Wire

theorem powMod_eq (b e m : Nat) : powMod b e m = b ^ e % m := by
  induction e using Nat.strongRecOn with
  | _ e ih =>
    rw [powMod]
    split
    · next h => rw [h, Nat.pow_zero]
    · rw [ih (e / 2) (by omega)]
      have he : b ^ e = b ^ (e / 2) * b ^ (e / 2) * b ^ (e % 2) := by
        rw [← Nat.pow_add, ← Nat.pow_add]; congr 1; omega
      rw [he]
      rcases Nat.mod_two_eq_zero_or_one e with ho | ho <;> simp [ho, Nat.mul_mod]

theorem powMod_lt (b e m : Nat) (hm : 0 < m) : powMod b e m < m := by
  rw [powMod_eq]; exact Nat.mod_lt _ hm

/-- finite-field Diffie-Hellman, for every modulus and base -/
theorem dh_comm (g x y p : Nat) : powMod (powMod g x p) y p = powMod (powMod g y p) x p := by
  simp only [powMod_eq]
  rw [← Nat.pow_mod, ← Nat.pow_mod, ← Nat.pow_mul, ← Nat.pow_mul, Nat.mul_comm]

theorem pyPow_nat' (b e m : Nat) : pyPow (b : Int) e m = powMod b e m := by
  have : ((b : Int) % (m : Int)).toNat = b % m := by omega
  rw [pyPow, this, powMod_eq, powMod_eq, ← Nat.pow_mod]

theorem pyPow_nat (b e m : Nat) : pyPow (b : Int) e m = b ^ e % m := by
  rw [pyPow_nat', powMod_eq]

theorem natBits_zero : natBits 0 = 0 := by rw [natBits]; simp

theorem natBits_eq_log2 (n : Nat) (h : n ≠ 0) : natBits n = Nat.log2 n + 1 := by
  induction n using Nat.strongRecOn with
  | _ n ih =>
    rw [natBits, dif_neg h, Nat.log2_def]
    by_cases h2 : n / 2 = 0
    · rw [h2, natBits_zero, if_neg (by omega)]
    · rw [ih (n / 2) (by omega) h2, if_pos (by omega)]

theorem le_natBits (n k : Nat) (h : n ≠ 0) : k + 1 ≤ natBits n ↔ 2 ^ k ≤ n := by
  rw [natBits_eq_log2 n h, ← Nat.le_log2 h]; omega

theorem natBits_le (n k : Nat) (h : n ≠ 0) : natBits n ≤ k ↔ n < 2 ^ k := by
  rw [natBits_eq_log2 n h, ← Nat.log2_lt h]; omega

/-- also for `p = 0`, where both sides fail -/
theorem bitLength_window (p lo hi : Nat) :
    (lo + 1 ≤ bitLength (p : Int) ∧ bitLength (p : Int) ≤ hi) ↔ (2 ^ lo ≤ p ∧ p < 2 ^ hi) := by
  rw [bitLength, Int.natAbs_natCast]
  by_cases h : p = 0
  · have := Nat.two_pow_pos lo
    rw [h, natBits_zero]; omega
  · rw [le_natBits p lo h, natBits_le p hi h]

/-! ### mpints as strings -/

/-- the body of an mpint as `Message.add_mpint` writes it -/
def mpintBody (z : Int) : Bytes := if z = 0 then [] else deflate z

theorem encMpint_eq (z : Int) : encMpint z = encStr (mpintBody z) := rfl

theorem inflate_mpintBody (z : Int) : inflate (mpintBody z) = z := inflate_encMpint z

theorem rd_remainder (m : Bytes) : (rd m).remainder = m := rfl

/-! ### how a client reply handler ends -/

variable {σ τ : Type}

/-- What all four client reply handlers do once they have accepted the peer's public value: hash,
    `_set_K_H`, `_verify_key`, and `_activate_outbound` iff the verification did not raise. -/
def conclude (c : Env) (hin : Bytes) (K : Nat) (hk sig : Bytes) (st : σ) : Res σ :=
  if c.verify hk (c.hash hin) sig then
    ⟨[.hashed hin, .setKH K (c.hash hin), .verifyKey hk sig, .activate], .ok st⟩
  else ⟨[.hashed hin, .setKH K (c.hash hin), .verifyKey hk sig], .error .ssh⟩

/-- the handlers spell `conclude` out; rewriting with this first keeps the hash input from being
    copied into every branch of the case analyses below -/
theorem conclude_fold (c : Env) (hin : Bytes) (K : Nat) (hk sig : Bytes) (st : σ) :
    (if c.verify hk (c.hash hin) sig then
      (⟨[.hashed hin, .setKH K (c.hash hin), .verifyKey hk sig, .activate], .ok st⟩ : Res σ)
    else ⟨[.hashed hin, .setKH K (c.hash hin), .verifyKey hk sig], .error .ssh⟩)
      = conclude c hin K hk sig st := rfl

theorem conclude_eff (c : Env) (hin : Bytes) (K : Nat) (hk sig : Bytes) (st : σ) :
    (conclude c hin K hk sig st).eff = [.hashed hin, .setKH K (c.hash hin), .verifyKey hk sig] ++
      (if c.verify hk (c.hash hin) sig then [.activate] else []) := by
  unfold conclude; split <;> rfl

theorem mapRes_conclude (f : σ → τ) (c : Env) (hin : Bytes) (K : Nat) (hk sig : Bytes) (st : σ) :
    mapRes f (conclude c hin K hk sig st) = conclude c hin K hk sig (f st) := by
  unfold conclude; split <;> rfl

/-- What all four server init handlers do once they have accepted the peer's public value: hash,
    `_set_K_H`, send the reply `t` (host key, own public value `mine`, signature over `H`), activate. -/
def answer (c : Env) (hin : Bytes) (K : Nat) (t : UInt8) (mine : Bytes) (st : σ) : Res σ :=
  ⟨[.hashed hin, .setKH K (c.hash hin),
    .send (t :: (encStr c.hostKey ++ mine ++ encStr (c.sign (c.hash hin)))), .activate], .ok st⟩

/-- The three ways an engine step on a client can end: the packet is refused with no call on the
    transport; KEXDH_GEX_GROUP is answered with KEXDH_GEX_INIT; a reply is taken to `conclude`. -/
inductive ClientStep (c : Env) : Res σ → Prop
  | refused (e : Err) : ClientStep c ⟨[], .error e⟩
  | asked (b : Bytes) (st : σ) : ClientStep c ⟨[.send b, .expect [33]], .ok st⟩
  | concluded (hin : Bytes) (K : Nat) (hk sig : Bytes) (st : σ) : ClientStep c (conclude c hin K hk sig st)

theorem ClientStep.map (f : σ → τ) {c : Env} {r : Res σ} (h : ClientStep c r) :
    ClientStep c (mapRes f r) := by
  cases h with
  | refused e => exact .refused e
  | asked b st => exact .asked b (f st)
  | concluded hin K hk sig st => rw [mapRes_conclude]; exact .concluded ..

theorem ClientStep.expected {c : Env} {r : Res σ} (h : ClientStep c r) :
    ∀ t ∈ expectedAfter [] r.eff, t = 33 ∨ t = 21 := by
  cases h with
  | refused e => intro t ht; cases ht
  | asked b st => intro t ht; exact .inl (List.mem_singleton.mp ht)
  | concluded hin K hk sig st =>
    unfold conclude; split <;> intro t ht
    · exact .inr (List.mem_singleton.mp ht)
    · cases ht

theorem grpReply_step (c : Env) (g : Group) (st : GrpSt) (m : Bytes) :
    ClientStep c (grpReply c g st m) := by
  simp only [grpReply, conclude_fold]
  split
  · exact .refused _
  · exact .concluded ..

theorem gexGroup_step (c : Env) (st : GexSt) (m : Bytes) (x : Nat) : ClientStep c (gexGroup c st m x) := by
  simp only [gexGroup]
  split
  · exact .refused _
  · exact .asked ..

theorem gexReply_cases (c : Env) (st : GexSt) (m : Bytes) :
    (∃ e, gexReply c st m = ⟨[], .error e⟩) ∨
    ∃ p, st.p = some p ∧ 1 ≤ inflate (rd m).getString.2.getString.1 ∧
      inflate (rd m).getString.2.getString.1 ≤ p - 1 ∧
      ∃ hin K hk sig st', gexReply c st m = conclude c hin K hk sig st' := by
  -- the handler occurs twice in the statement: name its result, and walk through the handler once
  generalize hr : gexReply c st m = r
  simp only [gexReply, conclude_fold] at hr
  split at hr
  · exact .inl ⟨_, hr.symm⟩
  next h1 =>
  split at hr
  · split at hr
    · exact .inl ⟨_, hr.symm⟩
    next hp _ _ _ h2 => exact .inr ⟨_, hp, by omega, by omega, _, _, _, _, _, hr.symm⟩
  · exact .inl ⟨_, hr.symm⟩

theorem gexInit_cases (c : Env) (st : GexSt) (m : Bytes) (x : Nat) :
    (∃ e, gexInit c st m x = ⟨[], .error e⟩) ∨
    ∃ p, st.p = some p ∧ 1 ≤ inflate (rd m).getString.1 ∧ inflate (rd m).getString.1 ≤ p - 1 := by
  simp only [gexInit]
  split
  · exact .inl ⟨_, rfl⟩
  next h1 =>
  split
  · split
    · exact .inl ⟨_, rfl⟩
    next hp _ h2 => exact .inr ⟨_, hp, by omega, by omega⟩
  · exact .inl ⟨_, rfl⟩

theorem gexReply_step (c : Env) (st : GexSt) (m : Bytes) : ClientStep c (gexReply c st m) := by
  rcases gexReply_cases c st m with ⟨e, h⟩ | ⟨_, _, _, _, _, _, _, _, _, h⟩ <;> rw [h]
  · exact .refused e
  · exact .concluded ..

theorem ecReply_step (c : Env) (cv : Curve) (st : EcSt) (m : Bytes) :
    ClientStep c (ecReply c cv st m) := by
  simp only [ecReply, conclude_fold]
  split
  · exact .refused _
  · split
    · exact .refused _
    · split
      · exact .refused _
      · exact .concluded ..

theorem cvReply_step (c : Env) (cv : Curve) (st : EcSt) (m : Bytes) :
    ClientStep c (cvReply c cv st m) := by
  simp only [cvReply, conclude_fold]
  split
  · exact .refused _
  · split
    · exact .refused _
    · exact .concluded ..

/-- the engine/state mismatches and the packet types a handler does not know are refusals -/
theorem client_next (c : Env) (en : Engine) (st : ESt) (t : Nat) (m : Bytes) (x : Nat)
    (hc : c.serverMode = false) (ht : t = 31 ∨ t = 33) : ClientStep c (en.next c st t m x) := by
  have h30 : ¬ (c.serverMode = true ∧ t = 30) := by simp [hc]
  cases en <;> cases st <;> try exact .refused _
  · refine .map _ ?_
    unfold grpNext; rw [if_neg h30]
    split
    · exact grpReply_step ..
    · exact .refused _
  · refine .map _ ?_
    unfold gexNext
    rcases ht with rfl | rfl
    · rw [if_neg (by decide), if_pos rfl]; exact gexGroup_step ..
    · rw [if_neg (by decide), if_neg (by decide), if_neg (by decide), if_pos rfl]; exact gexReply_step ..
  · refine .map _ ?_
    unfold ecNext; rw [if_neg h30]
    split
    · exact ecReply_step ..
    · exact .refused _
  · refine .map _ ?_
    unfold cvNext; rw [if_neg h30]
    split
    · exact cvReply_step ..
    · exact .refused _

/-! ### the handlers on the bodies the peer's writer produced

The handlers of the model spell the exchange-hash input out; `hashInGroup` / `hashInGex` / `hashInEcdh` are the same
concatenations under a name.  The closing `rfl` of each lemma below is where the two are identified. -/

theorem grpReply_wire (c : Env) (g : Group) (st : GrpSt) (ks sig : Bytes) (f : Int)
    (hk : ks.length < 4294967296) (hf : (mpintBody f).length < 4294967296) (hs : sig.length < 4294967296) :
    grpReply c g st (encStr ks ++ encMpint f ++ encStr sig) =
      if f < 1 ∨ f > (g.P : Int) - 1 then ⟨[], .error .ssh⟩
      else conclude c (hashInGroup c.localVersion c.remoteVersion c.localKexInit c.remoteKexInit ks st.e f
        (powMod f.toNat st.x g.P)) (powMod f.toNat st.x g.P) ks sig { st with f := f } := by
  obtain ⟨p1, p2, p3⟩ := parse3 (r := rd (encStr ks ++ encMpint f ++ encStr sig)) (b := mpintBody f) (rest := []) hk hf hs
    (List.append_nil _).symm
  simp only [grpReply, p1, p2, p3, inflate_mpintBody]
  rfl

theorem grpInit_wire (c : Env) (g : Group) (st : GrpSt) (e : Int) (he : (mpintBody e).length < 4294967296) :
    grpInit c g st (encMpint e) =
      if e < 1 ∨ e > (g.P : Int) - 1 then ⟨[], .error .ssh⟩
      else answer c (hashInGroup c.remoteVersion c.localVersion c.remoteKexInit c.localKexInit c.hostKey e st.f
        (powMod e.toNat st.x g.P)) (powMod e.toNat st.x g.P) 31 (encMpint st.f) { st with e := e } := by
  have p1 := parse1 (r := rd (encMpint e)) (a := mpintBody e) (rest := []) he (List.append_nil _).symm
  simp only [grpInit, p1, inflate_mpintBody]
  rfl

theorem gexReply_wire (c : Env) (st : GexSt) (ks sig : Bytes) (f p g e : Int) (x : Nat)
    (hk : ks.length < 4294967296) (hf : (mpintBody f).length < 4294967296) (hs : sig.length < 4294967296)
    (hp : st.p = some p) (hg : st.g = some g) (hx : st.x = some x) (he : st.e = some e)
    (h1 : ¬ f < 1) (h2 : ¬ f > p - 1) :
    gexReply c st (encStr ks ++ encMpint f ++ encStr sig) =
      conclude c (hashInGex c.localVersion c.remoteVersion c.localKexInit c.remoteKexInit ks
        st.oldStyle st.minBits st.prefBits st.maxBits p g e f (pyPow f x p.toNat)) (pyPow f x p.toNat) ks sig
        { st with f := some f } := by
  obtain ⟨p1, p2, p3⟩ := parse3 (r := rd (encStr ks ++ encMpint f ++ encStr sig)) (b := mpintBody f) (rest := []) hk hf hs
    (List.append_nil _).symm
  simp only [gexReply, p1, p2, p3, inflate_mpintBody, hp, hg, hx, he, h1, h2, if_false]
  rfl

theorem gexInit_wire (c : Env) (st : GexSt) (e p g : Int) (x : Nat) (hf : (mpintBody e).length < 4294967296)
    (hp : st.p = some p) (hg : st.g = some g) (h1 : ¬ e < 1) (h2 : ¬ e > p - 1) :
    gexInit c st (encMpint e) x =
      answer c (hashInGex c.remoteVersion c.localVersion c.remoteKexInit c.localKexInit c.hostKey
        st.oldStyle st.minBits st.prefBits st.maxBits p g e (pyPow g x p.toNat) (pyPow e x p.toNat))
        (pyPow e x p.toNat) 33 (encMpint (pyPow g x p.toNat))
        { st with e := some e, x := some x, f := some (pyPow g x p.toNat : Int) } := by
  have p1 := parse1 (r := rd (encMpint e)) (a := mpintBody e) (rest := []) hf (List.append_nil _).symm
  simp only [gexInit, p1, inflate_mpintBody, hp, hg, h1, h2, if_false]
  rfl

theorem ecReply_wire (c : Env) (cv : Curve) (st : EcSt) (ks qs sig qc secret : Bytes)
    (hk : ks.length < 4294967296) (hq : qs.length < 4294967296) (hs : sig.length < 4294967296)
    (hd : cv.decode qs = true) (hx : cv.exchange st.priv qs = .ok secret) (hc : st.qc = some qc) :
    ecReply c cv st (encStr ks ++ encStr qs ++ encStr sig) =
      conclude c (hashInEcdh c.localVersion c.remoteVersion c.localKexInit c.remoteKexInit ks qc qs
        (beVal secret)) (beVal secret) ks sig { st with qs := some qs } := by
  obtain ⟨p1, p2, p3⟩ := parse3 (r := rd (encStr ks ++ encStr qs ++ encStr sig)) (rest := []) hk hq hs (List.append_nil _).symm
  simp only [ecReply, p1, p2, p3, hd, hx, hc, not_true_eq_false, if_false]
  rfl

theorem ecInit_wire (c : Env) (cv : Curve) (st : EcSt) (qc qs secret : Bytes) (hq : qc.length < 4294967296)
    (hd : cv.decode qc = true) (hx : cv.exchange st.priv qc = .ok secret) (hs : st.qs = some qs) :
    ecInit c cv st (encStr qc) =
      answer c (hashInEcdh c.remoteVersion c.localVersion c.remoteKexInit c.localKexInit c.hostKey qc qs
        (beVal secret)) (beVal secret) 31 (encStr qs) { st with qc := some qc } := by
  have p1 := parse1 (r := rd (encStr qc)) (rest := []) hq (List.append_nil _).symm
  simp only [ecInit, p1, hd, hx, hs, not_true_eq_false, if_false]
  rfl

theorem cvReply_wire (c : Env) (cv : Curve) (st : EcSt) (ks peer sig secret : Bytes)
    (hk : ks.length < 4294967296) (hq : peer.length < 4294967296) (hs : sig.length < 4294967296)
    (hd : cv.decode peer = true) (hx : cvExchange cv st.priv peer = .ok secret) :
    cvReply c cv st (encStr ks ++ encStr peer ++ encStr sig) =
      conclude c (hashInEcdh c.localVersion c.remoteVersion c.localKexInit c.remoteKexInit ks
        (cv.pub st.priv) peer (beVal secret)) (beVal secret) ks sig st := by
  obtain ⟨p1, p2, p3⟩ := parse3 (r := rd (encStr ks ++ encStr peer ++ encStr sig)) (rest := []) hk hq hs (List.append_nil _).symm
  simp only [cvReply, p1, p2, p3, hd, hx, not_true_eq_false, if_false]
  rfl

theorem cvInit_wire (c : Env) (cv : Curve) (st : EcSt) (peer secret : Bytes) (hq : peer.length < 4294967296)
    (hd : cv.decode peer = true) (hx : cvExchange cv st.priv peer = .ok secret) :
    cvInit c cv st (encStr peer) =
      answer c (hashInEcdh c.remoteVersion c.localVersion c.remoteKexInit c.localKexInit c.hostKey peer
        (cv.pub st.priv) (beVal secret)) (beVal secret) 31 (encStr (cv.pub st.priv)) st := by
  have p1 := parse1 (r := rd (encStr peer)) (rest := []) hq (List.append_nil _).symm
  simp only [cvInit, p1, hd, hx, not_true_eq_false, if_false]
  rfl

end PV.Kex
