/-
  Programs that only prefetch and read sequentially (getfo's loop): the completed reads start where the previous
  one ended, so — with `reads_exact` — their concatenation is a prefix of the file, and the whole file once a read
  comes back empty.  The chaining needs nothing about the content.
-/
import PV.Model.PrefetchInv
namespace PV.Prefetch
open PV

def chainFrom (p : Nat) : List Entry → Prop
  | [] => True
  | e :: r => e.1 = p ∧ chainFrom (p + e.2.2.length) r

def endFrom (p : Nat) : List Entry → Nat
  | [] => p
  | e :: r => endFrom (p + e.2.2.length) r

/-- as long as no read has raised: the completed reads are consecutive from 0, an idle reader stands at their end,
    a running read started there -/
def Seq (s : St) : Prop :=
  s.raised = [] → chainFrom 0 s.out ∧
    (match pcCtx s.pc with
     | none => s.pos = endFrom 0 s.out
     | some c => c.start = endFrom 0 s.out)

theorem chainFrom_snoc {p : Nat} {out : List Entry} {e : Entry} (h : chainFrom p out) (he : e.1 = endFrom p out) :
    chainFrom p (out ++ [e]) := by
  induction out generalizing p with
  | nil => simp only [endFrom] at he; simp [chainFrom, he]
  | cons x xs ih =>
    simp only [List.cons_append, chainFrom, endFrom] at h he ⊢
    exact ⟨h.1, ih h.2 he⟩

theorem endFrom_snoc (p : Nat) (out : List Entry) (e : Entry) : endFrom p (out ++ [e]) = endFrom p out + e.2.2.length := by
  induction out generalizing p with
  | nil => simp [endFrom]
  | cons x xs ih => simp only [List.cons_append, endFrom]; exact ih _

theorem seq_finish {s : St} {c : RCtx} (hr : s.raised = [] → chainFrom 0 s.out ∧ c.start = endFrom 0 s.out) :
    Seq (finish s c) := by
  intro hrz
  obtain ⟨h1, h2⟩ := hr hrz
  refine ⟨chainFrom_snoc h1 h2, ?_⟩
  show c.start + (resultOf c).length = endFrom 0 (s.out ++ [(c.start, c.want, resultOf c)])
  rw [endFrom_snoc, h2]

theorem Stop.seq {s t : St} {c : RCtx} (hs : Stop s c t)
    (hr : s.raised = [] → chainFrom 0 s.out ∧ c.start = endFrom 0 s.out) : Seq t := by
  cases hs with
  | fin => exact seq_finish hr
  | cont | recvPf | sync => exact hr

theorem seq_advance (fuel : Nat) {s : St} {c : RCtx}
    (hr : s.raised = [] → chainFrom 0 s.out ∧ c.start = endFrom 0 s.out) : Seq (advance fuel s c) := by
  obtain ⟨b, p, a, z, hs⟩ := advance_stop_any fuel s c
  exact hs.seq hr

theorem seq_afterCheck {s : St} {c : RCtx}
    (hr : s.raised = [] → chainFrom 0 s.out ∧ c.start = endFrom 0 s.out) : Seq (afterCheck s c) := by
  unfold afterCheck
  split
  · intro hz; simp [raiseRead] at hz
  · exact seq_advance _ hr

/-- the reader operations of a sequential download -/
def seqAct : Act → Prop
  | .rOp (.seek _) => False
  | .rOp (.readv _ _) => False
  | .rOp (.readAt _ _) => False
  | _ => True

theorem seq_ctx {s : St} {c : RCtx} (hs : Seq s) (hc : pcCtx s.pc = some c) :
    s.raised = [] → chainFrom 0 s.out ∧ c.start = endFrom 0 s.out := by
  intro hz
  have := hs hz
  rw [hc] at this
  exact this

theorem step_seq {s s' : St} {a : Act} (hs : Seq s) (ha : seqAct a) (h : Step s a s') : Seq s' := by
  cases h with
  | serve | serveFail | tCheck | tAlloc | tSend | tReg | prefetchNone | prefetchStart | otherDrop => exact hs
  | seek | readAt | readvNone | readvStart => cases ha
  | read hpc =>
    refine seq_advance _ fun hz => ?_
    have := hs hz
    rw [hpc] at this
    exact this
  | cont hpc => exact seq_advance _ (seq_ctx (s := s) hs (by rw [hpc]; rfl))
  | recvPf hpc | allocSync hpc | sendSync hpc | otherPf hpc => exact seq_ctx (s := s) hs (by rw [hpc]; rfl)
  | dropPf hpc => exact seq_afterCheck (seq_ctx (s := s) hs (by rw [hpc]; rfl))
  | dispPf hpc hres =>
    obtain ⟨off, len, -, rfl⟩ := asyncResponse_some hres
    exact seq_afterCheck (seq_ctx (s := s) hs (by rw [hpc]; rfl))
  | ownEmpty hpc | ownEof hpc =>
    have hctx := seq_ctx hs (by rw [hpc]; rfl)
    exact seq_finish hctx
  | ownData hpc =>
    have hctx := seq_ctx hs (by rw [hpc]; rfl)
    exact seq_advance _ hctx
  | ownErr => intro hz; simp [raiseRead] at hz
  | dispSync hpc hres =>
    obtain ⟨off, len, -, rfl⟩ := asyncResponse_some hres
    exact seq_ctx (s := s) hs (by rw [hpc]; rfl)

theorem init_seq (file : Bytes) (maxReq : Nat) (bufsize : Nat) : Seq (init file maxReq bufsize) :=
  fun _ => ⟨trivial, rfl⟩

theorem run_seq {s : St} (hs : Seq s) (as : List Act) (ha : ∀ a ∈ as, seqAct a) : Seq (run s as) :=
  run_induction (fun _ _ _ => step_seq) hs as ha

/-- consecutive exact reads concatenate to a slice of the file -/
theorem chain_concat {file : Bytes} : ∀ (out : List Entry) (p : Nat), chainFrom p out →
    (∀ e ∈ out, OutOK file e) → IsSl file p ((out.map (·.2.2)).flatten) ∧
      endFrom p out = p + ((out.map (·.2.2)).flatten).length := by
  intro out
  induction out with
  | nil => intro p _ _; exact ⟨isSl_nil _ _, by simp [endFrom]⟩
  | cons e r ih =>
    intro p hc ho
    simp only [chainFrom] at hc
    obtain ⟨i1, i2⟩ := ih (p + e.2.2.length) hc.2 (fun x hx => ho x (List.mem_cons_of_mem _ hx))
    have he := ho e (List.mem_cons_self ..)
    have hsl : IsSl file p e.2.2 := by
      unfold OutOK at he
      rw [← hc.1]
      cases hw : e.2.1 with
      | some w => rw [hw] at he; rw [he]; exact isSl_slice _ _ _
      | none =>
        rw [hw] at he
        rw [he]
        unfold IsSl slice
        rw [List.take_of_length_le (Nat.le_refl _)]
    simp only [List.map_cons, List.flatten_cons, endFrom]
    refine ⟨isSl_append hsl i1, ?_⟩
    rw [i2, List.length_append]; omega


theorem chainFrom_append {p : Nat} {a b : List Entry} (h : chainFrom p (a ++ b)) :
    chainFrom p a ∧ chainFrom (endFrom p a) b := by
  induction a generalizing p with
  | nil => exact ⟨trivial, h⟩
  | cons x xs ih =>
    simp only [List.cons_append, chainFrom, endFrom] at h ⊢
    obtain ⟨i1, i2⟩ := ih h.2
    exact ⟨⟨h.1, i1⟩, i2⟩

/-- the sequential download is complete once a read of a positive size comes back empty -/
theorem sequential_reads_complete {file : Bytes} {out pre : List Entry} {e : Entry} {w : Nat}
    (hc : chainFrom 0 out) (ho : ∀ x ∈ out, OutOK file x) (hout : out = pre ++ [e]) (hw : e.2.1 = some w) (hpos : 0 < w)
    (hempty : e.2.2 = []) : (out.map (·.2.2)).flatten = file := by
  obtain ⟨c1, c2⟩ := chain_concat out 0 hc ho
  subst hout
  obtain ⟨hpre, hlast⟩ := chainFrom_append hc
  simp only [chainFrom] at hlast
  obtain ⟨p1, p2⟩ := chain_concat pre 0 hpre (fun x hx => ho x (List.mem_append_left _ hx))
  have he := ho e (by simp)
  unfold OutOK at he
  rw [hw, hempty] at he
  simp only at he
  -- an empty slice of positive width starts at or past the end of the file
  have hlen : file.length ≤ e.1 := by
    have := congrArg List.length he
    rw [slice_length] at this
    simp at this
    omega
  have hflat : ((pre ++ [e]).map (·.2.2)).flatten = (pre.map (·.2.2)).flatten := by
    simp [hempty]
  rw [hflat] at c1 ⊢
  have hstart : e.1 = ((pre.map (·.2.2)).flatten).length := by
    rw [hlast.1, p2]; simp
  have := (isSl_at_eof c1 (by rw [← hstart]; simpa using hlen)).1
  simpa using this

end PV.Prefetch
