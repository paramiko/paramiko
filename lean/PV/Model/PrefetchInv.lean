/-
  The content invariant of the prefetch model (everything the machine holds or has handed out is the file's bytes at
  the offset it is filed under) together with BufferedFile's read-ahead bookkeeping, kept by every action.
  Both are predicates of the fields they read, so that an action that leaves those fields alone keeps them by `exact`.
-/
import PV.Model.PrefetchLemmas
namespace PV.Prefetch
open PV

abbrev Entry := Nat × Option Nat × Bytes

def respOK (f : Bytes) (off len : Nat) : Resp → Prop
  | .data d => IsSl f off d ∧ 0 < d.length ∧ d.length ≤ len
  | .eof => f.length ≤ off ∨ len = 0
  | .err _ => True

def ThrOK (info : List Info) : TSt → Prop
  | .allocd n o l _ => ∃ w, info[n]? = some ⟨o, l, w⟩
  | .sent n o l _ => ∃ w, info[n]? = some ⟨o, l, w⟩
  | _ => True

def CtxOK (f : Bytes) (pos : Nat) (c : RCtx) : Prop :=
  IsSl f c.start c.acc ∧ pos = c.start + c.acc.length

def OutOK (f : Bytes) (e : Entry) : Prop :=
  e.2.2 = (match e.2.1 with | some w => slice f e.1 w | none => f.drop e.1)

def RespAt (info : List Info) (f : Bytes) (n : Nat) (r : Resp) : Prop :=
  ∃ i, info[n]? = some i ∧ respOK f i.off i.len r
def SyncAt (info : List Info) (pos : Nat) (c : RCtx) (n : Nat) : Prop := ∃ w, info[n]? = some ⟨pos, c.size, w⟩

def PcF (file : Bytes) (info : List Info) (realpos : Nat) : Pc → Prop
  | .idle => True
  | .cont c => CtxOK file realpos c
  | .recvPf c => CtxOK file realpos c
  | .allocSync c => CtxOK file realpos c ∧ 0 < c.size
  | .dispPf c n r => CtxOK file realpos c ∧ RespAt info file n r
  | .sendSync c n => CtxOK file realpos c ∧ 0 < c.size ∧ SyncAt info realpos c n
  | .recvSync c n => CtxOK file realpos c ∧ 0 < c.size ∧ SyncAt info realpos c n
  | .dispSync c n n' r => CtxOK file realpos c ∧ 0 < c.size ∧ SyncAt info realpos c n ∧ RespAt info file n' r

def PcOK (s : St) : Prop := PcF s.file s.info s.realpos s.pc

structure BaseF (file : Bytes) (maxReq bufRead : Nat) (info : List Info) (s2c : List (Nat × Resp))
    (extents : List (Nat × Chunk)) (threads : List Thread) (bufs : List (Nat × Bytes)) (out : List Entry) : Prop where
  pos : 0 < maxReq ∧ 0 < bufRead
  bufs : ∀ e ∈ bufs, IsSl file e.1 e.2
  s2c : ∀ e ∈ s2c, RespAt info file e.1 e.2
  ext : ∀ e ∈ extents, ∃ w, info[e.1]? = some ⟨e.2.1, e.2.2, w⟩
  thr : ∀ t ∈ threads, ThrOK info t.st
  out : ∀ e ∈ out, OutOK file e

def Base (s : St) : Prop := BaseF s.file s.maxReq s.bufRead s.info s.s2c s.extents s.threads s.bufs s.out

structure Inv (s : St) : Prop where
  base : Base s
  pc : PcOK s

def pcCtx : Pc → Option RCtx
  | .idle => none
  | .cont c => some c
  | .recvPf c => some c
  | .dispPf c _ _ => some c
  | .allocSync c => some c
  | .sendSync c _ => some c
  | .recvSync c _ => some c
  | .dispSync c _ _ _ => some c

/-- BufferedFile's read-ahead: `_rbuffer` holds the file's bytes at `_pos`, and between calls
    `_realpos = _pos + len(_rbuffer)` -/
def RbOK (s : St) : Prop :=
  IsSl s.file s.pos s.rbuf ∧ (pcCtx s.pc = none → s.realpos = s.pos + s.rbuf.length)

/-- in the middle of a call only the first half of `RbOK` says anything -/
theorem rb_busy {s : St} {c : RCtx} (hr : IsSl s.file s.pos s.rbuf) (hc : pcCtx s.pc = some c) : RbOK s :=
  ⟨hr, fun h => by rw [hc] at h; cases h⟩

/-! ## the request table only grows -/

theorem getElem?_append_some {α : Type} {l : List α} {n : Nat} {x : α} (h : l[n]? = some x) (m : List α) :
    (l ++ m)[n]? = some x := by
  rw [List.getElem?_append_left (List.getElem?_eq_some_iff.mp h).1]; exact h

theorem respAt_append {info : List Info} {f : Bytes} {n : Nat} {r : Resp} (h : RespAt info f n r) (m : List Info) :
    RespAt (info ++ m) f n r := by
  obtain ⟨i, hi, hok⟩ := h
  exact ⟨i, getElem?_append_some hi m, hok⟩

theorem thrOK_append {info : List Info} {st : TSt} (h : ThrOK info st) (m : List Info) : ThrOK (info ++ m) st := by
  cases st with
  | idle c => trivial
  | checked c => trivial
  | allocd n o l r => obtain ⟨w, hw⟩ := h; exact ⟨w, getElem?_append_some hw m⟩
  | sent n o l r => obtain ⟨w, hw⟩ := h; exact ⟨w, getElem?_append_some hw m⟩

theorem base_append_info {s : St} (hb : Base s) (m : List Info) : Base { s with info := s.info ++ m } :=
  { hb with
    s2c := fun e he => respAt_append (hb.s2c e he) m
    ext := fun e he => by obtain ⟨w, hw⟩ := hb.ext e he; exact ⟨w, getElem?_append_some hw m⟩
    thr := fun t ht => thrOK_append (hb.thr t ht) m }

theorem pcOK_append_info {s : St} (hp : PcOK s) (m : List Info) : PcOK { s with info := s.info ++ m } := by
  unfold PcOK at *
  cases hpc : s.pc with
  | idle => trivial
  | cont c => rw [hpc] at hp; exact hp
  | recvPf c => rw [hpc] at hp; exact hp
  | allocSync c => rw [hpc] at hp; exact hp
  | dispPf c n r => rw [hpc] at hp; exact ⟨hp.1, respAt_append hp.2 m⟩
  | sendSync c n =>
    rw [hpc] at hp
    obtain ⟨a, b, w, hw⟩ := hp
    exact ⟨a, b, w, getElem?_append_some hw m⟩
  | recvSync c n =>
    rw [hpc] at hp
    obtain ⟨a, b, w, hw⟩ := hp
    exact ⟨a, b, w, getElem?_append_some hw m⟩
  | dispSync c n n' r =>
    rw [hpc] at hp
    obtain ⟨a, b, ⟨w, hw⟩, d⟩ := hp
    exact ⟨a, b, ⟨w, getElem?_append_some hw m⟩, respAt_append d m⟩

/-! ## queues, threads, extents -/

theorem base_reply {s : St} (hb : Base s) {num : Nat} {r : Resp} (hr : RespAt s.info s.file num r) (rest : List Nat) :
    Base { s with c2s := rest, s2c := s.s2c ++ [(num, r)] } := by
  refine { hb with s2c := fun e he => ?_ }
  rcases List.mem_append.mp he with he | he
  · exact hb.s2c e he
  · rw [List.mem_singleton.mp he]; exact hr

theorem base_pop {s : St} (hb : Base s) {e : Nat × Resp} {rest : List (Nat × Resp)} (hq : s.s2c = e :: rest) :
    RespAt s.info s.file e.1 e.2 ∧ Base { s with s2c := rest } :=
  ⟨hb.s2c e (by rw [hq]; exact List.mem_cons_self ..),
   { hb with s2c := fun x hx => hb.s2c x (by rw [hq]; exact List.mem_cons_of_mem _ hx) }⟩

theorem base_setThread {s : St} (hb : Base s) (i : Nat) {st : TSt} (cap : Option Nat) (h : ThrOK s.info st) :
    Base (setThread s i st cap) := by
  refine { hb with thr := fun t ht => ?_ }
  rcases List.mem_or_eq_of_mem_set ht with h1 | h1
  · exact hb.thr t h1
  · rw [h1]; exact h

theorem base_startPrefetch {s : St} (hb : Base s) (ch : List Chunk) (cap : Option Nat) :
    Base (startPrefetch s ch cap) := by
  refine { hb with thr := fun t ht => ?_ }
  rcases List.mem_append.mp ht with h | h
  · exact hb.thr t h
  · rw [List.mem_singleton.mp h]; trivial

theorem serve_respOK (f : Bytes) (i : Info) (k : Nat) :
    respOK f i.off i.len (if min i.len (f.length - i.off) = 0 then Resp.eof
      else Resp.data (slice f i.off (max 1 (min k (min i.len (f.length - i.off)))))) := by
  split
  · unfold respOK; omega
  · exact isSl_served _ _ _ _ ‹_›

theorem asyncResponse_base {s s1 : St} {num : Nat} {r : Resp} (hb : Base s) (hr : RespAt s.info s.file num r)
    (h : asyncResponse s num r = some s1) : Base s1 := by
  obtain ⟨off, len, hg, rfl⟩ := asyncResponse_some h
  obtain ⟨w, hw⟩ := hb.ext _ (dictGet_mem hg)
  obtain ⟨i, hi, hok⟩ := hr
  -- the answer is for the request the extent was registered under
  obtain rfl : i = ⟨off, len, w⟩ := Option.some.inj (hi.symm.trans hw)
  refine { hb with ext := fun e he => hb.ext e (mem_dictDel he).1, bufs := ?_ }
  cases r with
  | data d =>
    intro e he
    rcases mem_dictSet he with h1 | h1
    · rw [h1]; exact hok.1
    · exact hb.bufs e h1
  | eof => exact hb.bufs
  | err c => exact hb.bufs

/-! ## the end of a read -/

theorem resultOf_ok {f : Bytes} {c : RCtx} {pos : Nat} (hc : CtxOK f pos c)
    (hdone : wantMet c = true ∨ f.length ≤ pos) : OutOK f (c.start, c.want, resultOf c) := by
  obtain ⟨hsl, hpos⟩ := hc
  unfold OutOK resultOf
  simp only
  cases hwant : c.want with
  | some w =>
    simp only
    by_cases hge : w ≤ c.acc.length
    · have ht := isSl_take hsl w
      unfold IsSl at ht
      rw [List.length_take, Nat.min_eq_left hge] at ht
      exact ht
    · rcases hdone with hm | he
      · unfold wantMet at hm
        simp only [hwant] at hm
        have : c.acc.length ≥ w := by simpa using hm
        omega
      · rw [List.take_of_length_le (by omega)]
        exact (isSl_at_eof hsl (by omega)).2 w (by omega)
  | none =>
    simp only
    rcases hdone with hm | he
    · unfold wantMet at hm; simp [hwant] at hm
    · exact (isSl_at_eof hsl (by omega)).1

theorem resultOf_le (c : RCtx) : (resultOf c).length ≤ c.acc.length := by
  unfold resultOf
  split
  · rw [List.length_take]; omega
  · exact Nat.le_refl _

theorem finish_ok {s : St} {c : RCtx} (hb : Base s) (hc : CtxOK s.file s.realpos c)
    (hdone : wantMet c = true ∨ s.file.length ≤ s.realpos) : Inv (finish s c) ∧ RbOK (finish s c) := by
  refine ⟨⟨{ hb with out := fun e he => ?_ }, trivial⟩, ?_, fun _ => ?_⟩
  · rcases List.mem_append.mp he with he | he
    · exact hb.out e he
    · rw [List.mem_singleton.mp he]; exact resultOf_ok hc hdone
  · exact isSl_drop hc.1 _
  · show s.realpos = c.start + (resultOf c).length + (c.acc.drop (resultOf c).length).length
    have := resultOf_le c
    rw [List.length_drop, hc.2]; omega

/-- a read that raises leaves a consistent state behind -/
theorem raiseRead_ok {s : St} (c : RCtx) (code : Nat) (hb : Base s) :
    Inv (raiseRead s c code) ∧ RbOK (raiseRead s c code) :=
  ⟨⟨hb, trivial⟩, isSl_nil _ _, fun _ => rfl⟩

/-! ## the reader-local computation -/

theorem take_ok (s : St) (c : RCtx) (idx : Nat) (h : Base s ∧ CtxOK s.file s.realpos c) (_ : wantMet c = false)
    (hib : inBuffers s.bufs s.realpos = some idx) :
    Base { s with bufs := (takeBuf s.bufs idx s.realpos (reqSize s c)).1,
                  realpos := s.realpos + (takeBuf s.bufs idx s.realpos (reqSize s c)).2.length } ∧
    CtxOK s.file (s.realpos + (takeBuf s.bufs idx s.realpos (reqSize s c)).2.length)
      { c with size := reqSize s c, acc := c.acc ++ (takeBuf s.bufs idx s.realpos (reqSize s c)).2 } := by
  obtain ⟨hb, hsl, hpos⟩ := h
  obtain ⟨pre, hg, hle, _⟩ := inBuffers_some hib
  obtain ⟨t1, t2⟩ := takeBuf_spec (f := s.file) (size := reqSize s c) hb.bufs hg hle
  refine ⟨{ hb with bufs := t1 }, isSl_append hsl (hpos ▸ t2), ?_⟩
  simp only [List.length_append]; omega

theorem Stop.ok {s t : St} {c : RCtx} (hs : Stop s c t) (hb : Base s) (hc : CtxOK s.file s.realpos c)
    (hr : IsSl s.file s.pos s.rbuf) : Inv t ∧ RbOK t := by
  cases hs with
  | fin h => exact finish_ok hb hc (.inl (h.resolve_right (fun hn => hn hb.pos)))
  | cont => exact ⟨⟨hb, hc⟩, rb_busy hr rfl⟩
  | recvPf hm hz hp hd => exact ⟨⟨hb, hc⟩, rb_busy hr rfl⟩
  | sync hm hz pf hp => exact ⟨⟨hb, hc, hz ▸ reqSize_pos hb.pos hm⟩, rb_busy hr rfl⟩

theorem advance_ok (fuel : Nat) {s : St} {c : RCtx} (hb : Base s) (hc : CtxOK s.file s.realpos c)
    (hr : IsSl s.file s.pos s.rbuf) : Inv (advance fuel s c) ∧ RbOK (advance fuel s c) := by
  obtain ⟨b, p, a, z, ⟨hb2, hc2⟩, hs⟩ :=
    advance_stop (P := fun s c => Base s ∧ CtxOK s.file s.realpos c) take_ok (fun _ _ _ h => h) fuel s c ⟨hb, hc⟩
  exact hs.ok hb2 hc2 hr

theorem afterCheck_ok {s : St} {c : RCtx} (hb : Base s) (hc : CtxOK s.file s.realpos c)
    (hr : IsSl s.file s.pos s.rbuf) : Inv (afterCheck s c) ∧ RbOK (afterCheck s c) := by
  unfold afterCheck
  split
  · exact raiseRead_ok c _ hb
  · exact advance_ok _ hb hc hr

/-! ## every action keeps both -/

theorem own_respOK {info : List Info} {f : Bytes} {pos n : Nat} {c : RCtx} {r : Resp} (hr : RespAt info f n r)
    (hs : SyncAt info pos c n) : respOK f pos c.size r := by
  obtain ⟨i, hi, hok⟩ := hr
  obtain ⟨w, hw⟩ := hs
  obtain rfl : i = ⟨pos, c.size, w⟩ := Option.some.inj (hi.symm.trans hw)
  exact hok

theorem step_ok {s s' : St} {a : Act} (hi : Inv s) (hrb : RbOK s) (h : Step s a s') : Inv s' ∧ RbOK s' := by
  obtain ⟨hb, hp⟩ := hi
  cases h with
  | serve hq hi => exact ⟨⟨base_reply hb ⟨_, hi, serve_respOK _ _ _⟩ _, hp⟩, hrb⟩
  | serveFail hq hi => exact ⟨⟨base_reply hb (r := .err _) ⟨_, hi, trivial⟩ _, hp⟩, hrb⟩
  | tCheck ht hc => exact ⟨⟨base_setThread hb _ _ (by trivial), hp⟩, hrb⟩
  | tAlloc ht =>
    exact ⟨⟨base_setThread (base_append_info hb _) _ _ ⟨_, List.getElem?_concat_length⟩, pcOK_append_info hp _⟩, hrb⟩
  | tSend ht => exact ⟨⟨base_setThread hb _ _ (hb.thr _ (List.mem_of_getElem? ht)), hp⟩, hrb⟩
  | tReg ht =>
    have hth : ThrOK s.info (.sent _ _ _ _) := hb.thr _ (List.mem_of_getElem? ht)
    refine ⟨⟨{ base_setThread hb _ _ (by trivial) with ext := fun e he => ?_ }, hp⟩, hrb⟩
    rcases mem_dictSet he with h1 | h1
    · rw [h1]; exact hth
    · exact hb.ext e h1
  | seek hpc => exact ⟨⟨hb, by rw [PcOK, hpc] at hp ⊢; trivial⟩, isSl_nil _ _, fun _ => rfl⟩
  | read hpc => exact advance_ok _ hb ⟨hrb.1, hrb.2 (by rw [hpc]; rfl)⟩ hrb.1
  | readAt hpc => exact advance_ok _ hb ⟨isSl_nil _ _, rfl⟩ (isSl_nil _ _)
  | prefetchNone | readvNone => exact ⟨⟨hb, hp⟩, hrb⟩
  | prefetchStart | readvStart => exact ⟨⟨base_startPrefetch hb _ _, hp⟩, hrb⟩
  | cont hpc =>
    rw [PcOK, hpc] at hp
    exact advance_ok _ hb hp hrb.1
  | recvPf hpc hq ho =>
    rw [PcOK, hpc] at hp
    obtain ⟨hr, hb1⟩ := base_pop hb hq
    exact ⟨⟨hb1, hp, hr⟩, rb_busy hrb.1 rfl⟩
  | dropPf hpc hq ho =>
    rw [PcOK, hpc] at hp
    exact afterCheck_ok (base_pop hb hq).2 hp hrb.1
  | dispPf hpc ha =>
    rw [PcOK, hpc] at hp
    have hb1 := asyncResponse_base hb hp.2 ha
    obtain ⟨off, len, -, rfl⟩ := asyncResponse_some ha
    exact afterCheck_ok hb1 hp.1 hrb.1
  | allocSync hpc =>
    rw [PcOK, hpc] at hp
    exact ⟨⟨base_append_info hb _, hp.1, hp.2, _, List.getElem?_concat_length⟩, rb_busy hrb.1 rfl⟩
  | sendSync hpc =>
    rw [PcOK, hpc] at hp
    exact ⟨⟨hb, hp⟩, rb_busy hrb.1 rfl⟩
  | ownEmpty hpc hq hd =>
    rw [PcOK, hpc] at hp
    have := (own_respOK (base_pop hb hq).1 hp.2.2).2.1
    omega
  | ownData hpc hq hd =>
    rw [PcOK, hpc] at hp
    obtain ⟨hr, hb1⟩ := base_pop hb hq
    obtain ⟨⟨hsl, hpos⟩, _, hsync⟩ := hp
    refine advance_ok _ hb1 ⟨isSl_append hsl (hpos ▸ (own_respOK hr hsync).1), ?_⟩ hrb.1
    simp only [List.length_append]; omega
  | ownEof hpc hq =>
    rw [PcOK, hpc] at hp
    obtain ⟨hr, hb1⟩ := base_pop hb hq
    exact finish_ok hb1 hp.1 (.inr ((own_respOK hr hp.2.2).resolve_right (Nat.ne_of_gt hp.2.1)))
  | ownErr hpc hq => exact raiseRead_ok _ _ (base_pop hb hq).2
  | otherPf hpc hq hn ho =>
    rw [PcOK, hpc] at hp
    obtain ⟨hr, hb1⟩ := base_pop hb hq
    exact ⟨⟨hb1, hp.1, hp.2.1, hp.2.2, hr⟩, rb_busy hrb.1 rfl⟩
  | otherDrop hpc hq hn ho => exact ⟨⟨(base_pop hb hq).2, hp⟩, rb_busy hrb.1 (by rw [hpc]; rfl)⟩
  | dispSync hpc ha =>
    rw [PcOK, hpc] at hp
    have hb1 := asyncResponse_base hb hp.2.2.2 ha
    obtain ⟨off, len, -, rfl⟩ := asyncResponse_some ha
    exact ⟨⟨hb1, hp.1, hp.2.1, hp.2.2.1⟩, rb_busy hrb.1 rfl⟩

theorem init_ok (file : Bytes) (maxReq : Nat) (h : 0 < maxReq) (bufsize : Nat) :
    Inv (init file maxReq bufsize) ∧ RbOK (init file maxReq bufsize) :=
  ⟨⟨⟨⟨h, by simp [init]⟩, nofun, nofun, nofun, nofun, nofun⟩, trivial⟩, isSl_nil _ _, fun _ => rfl⟩

theorem run_ok {s : St} (h : Inv s ∧ RbOK s) (as : List Act) : Inv (run s as) ∧ RbOK (run s as) :=
  run_induction (ok := fun _ => True) (fun _ _ _ h _ hs => step_ok h.1 h.2 hs) h as (fun _ _ => trivial)

/-! ## the file itself never changes -/

theorem Stop.file {s t : St} {c : RCtx} (hs : Stop s c t) : t.file = s.file := by
  cases hs <;> rfl

theorem advance_file (fuel : Nat) (s : St) (c : RCtx) : (advance fuel s c).file = s.file := by
  obtain ⟨b, p, a, z, hs⟩ := advance_stop_any fuel s c
  exact hs.file

theorem afterCheck_file (s : St) (c : RCtx) : (afterCheck s c).file = s.file := by
  unfold afterCheck
  split
  · rfl
  · exact advance_file _ _ _

theorem step_file {s s' : St} {a : Act} (h : Step s a s') : s'.file = s.file := by
  cases h with
  | read | readAt | cont | ownData => exact advance_file _ _ _
  | dropPf => exact afterCheck_file _ _
  | dispPf _ ha =>
    obtain ⟨off, len, -, rfl⟩ := asyncResponse_some ha
    exact afterCheck_file _ _
  | dispSync _ ha =>
    obtain ⟨off, len, -, rfl⟩ := asyncResponse_some ha
    rfl
  | _ => rfl

theorem run_file (s : St) (as : List Act) : (run s as).file = s.file :=
  run_induction (P := fun t => t.file = s.file) (ok := fun _ => True)
    (fun _ _ _ h _ hs => (step_file hs).trans h) rfl as (fun _ _ => trivial)

end PV.Prefetch
