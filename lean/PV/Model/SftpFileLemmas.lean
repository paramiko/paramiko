/-
  PV.Model.SftpFileLemmas — helpers for PV.Props.C27: overlay algebra, the server handle's reads as an instance of
  the read laws of PV.Model.ReadGeneric (`sftpLaws`), `_write_all` against the server model.
-/
import PV.Model.PyFile
import PV.Model.ReadGeneric
namespace PV.SftpFile
open PV PV.BufFile

theorem toNat_add_nat (x : Int) (k : Nat) (h0 : 0 ≤ x) : (x + (k : Int)).toNat = x.toNat + k := by omega

theorem add_chunk (x : Int) (k n : Nat) (h : k ≤ n) : x + (k : Int) + ((n - k : Nat) : Int) = x + n := by omega

theorem overlay_nil (c : Bytes) (o : Nat) : overlay c o [] = c := by simp [overlay]

theorem overlay_length_ge (c : Bytes) (o : Nat) (d : Bytes) (h : d ≠ []) :
    (overlay c o d).length = max c.length (o + d.length) := by
  have : d.isEmpty = false := by simpa using h
  simp only [overlay, this, Bool.false_eq_true, if_false, List.length_append, List.length_take,
    List.length_replicate, List.length_drop]
  omega

/-- two consecutive overwrites are one overwrite of the concatenation -/
theorem overlay_append (c : Bytes) (o : Nat) (a b : Bytes) :
    overlay (overlay c o a) (o + a.length) b = overlay c o (a ++ b) := by
  by_cases ha : a = []
  · subst ha; simp [overlay_nil]
  by_cases hb : b = []
  · subst hb; simp [overlay_nil]
  have ha' : a.isEmpty = false := by simpa using ha
  have hb' : b.isEmpty = false := by simpa using hb
  have hab : (a ++ b).isEmpty = false := by simp [ha]
  have hlen : (c.take o ++ List.replicate (o - c.length) 0).length = o := by
    simp [List.length_take]; omega
  simp only [overlay, ha', hb', hab, Bool.false_eq_true, if_false]
  -- name the pieces
  generalize hpre : c.take o ++ List.replicate (o - c.length) 0 = pre at hlen
  have e1 : (pre ++ a ++ c.drop (o + a.length)).take (o + a.length) = pre ++ a := by
    rw [List.take_append_of_le_length (by simp [hlen])]
    exact List.take_of_length_le (by simp [hlen])
  have e2 : (o + a.length) - (pre ++ a ++ c.drop (o + a.length)).length = 0 := by
    simp [hlen]
  have e3 : (pre ++ a ++ c.drop (o + a.length)).drop (o + a.length + b.length) = c.drop (o + (a ++ b).length) := by
    have hl : (pre ++ a).length = o + a.length := by simp [hlen]
    rw [List.drop_append, List.drop_of_length_le (by omega), hl, List.drop_drop, List.nil_append]
    congr 1
    simp only [List.length_append]
    omega
  rw [e1, e2, e3]
  simp [List.append_assoc]

/-- the handle's offset cache agrees with the file object's position -/
def Coherent (s : Srv) : Prop := s.tell = none ∨ s.tell = some s.fpos

/-- server-side facts no write changes -/
def srvSame (a b : Srv) : Prop :=
  a.append = b.append ∧ a.hopen = b.hopen ∧ a.truncZero = b.truncZero ∧ a.didRead = b.didRead ∧ a.stale = b.stale

/-- client-side facts `_write_all` does not change -/
def cliSame (a b : BF Srv) : Prop :=
  a.rd = b.rd ∧ a.wr = b.wr ∧ a.app = b.app ∧ a.bin = b.bin ∧ a.buffered = b.buffered ∧ a.lineBuf = b.lineBuf ∧
  a.bufsize = b.bufsize ∧ a.dflt = b.dflt ∧ a.rbuf = b.rbuf ∧ a.wbuf = b.wbuf ∧ a.closed = b.closed

theorem srvSame.trans {a b c : Srv} (h1 : srvSame a b) (h2 : srvSame b c) : srvSame a c :=
  ⟨h1.1.trans h2.1, h1.2.1.trans h2.2.1, h1.2.2.1.trans h2.2.2.1, h1.2.2.2.1.trans h2.2.2.2.1,
    h1.2.2.2.2.trans h2.2.2.2.2⟩

theorem srvWrite_spec (s : Srv) (off : Nat) (d : Bytes) (hc : Coherent s) :
    (srvWrite s off d).content = (if s.append = true then s.content ++ d else overlay s.content off d) ∧
    Coherent (srvWrite s off d) ∧ srvSame (srvWrite s off d) s := by
  unfold srvWrite
  by_cases ha : s.append = true
  · simp [ha, Coherent, srvSame]
  · have ht : s.tell.getD s.fpos = s.fpos := by
      rcases hc with h | h <;> simp [h]
    simp only [ha, Bool.false_eq_true, if_false]
    rw [ht]
    by_cases h : off = s.fpos
    · subst h; simp [Coherent, srvSame, ha]
    · simp [h, Coherent, srvSame, ha]

theorem sftpOps_write (maxReq : Nat) (s : Srv) (p : Int) (d : Bytes) :
    (sftpOps maxReq).write s p d =
      if p < 0 then (s, .error (.stream eStruct))
      else (srvWrite s p.toNat (d.take (min d.length maxReq)), .ok (min d.length maxReq)) := rfl

/-- In append mode `_pos`, `_realpos` and `_size` coincide after the first chunk: hence the one `if` for both. -/
theorem writeAllLoop_sftp (maxReq : Nat) (hm : 1 ≤ maxReq) (fuel : Nat) (f : BF Srv) (data : Bytes)
    (hf : data.length < fuel) (h0 : 0 ≤ f.realpos) (hsz : f.app = true → 0 ≤ f.size) (hc : Coherent f.s)
    (hsa : f.s.append = f.app) :
    ∃ f', writeAllLoop (sftpOps maxReq) fuel f data = (f', .ok ()) ∧
      f'.s.content = (if f.app = true then f.s.content ++ data else overlay f.s.content f.realpos.toNat data) ∧
      f'.pos = (if f.app = true ∧ data ≠ [] then f.size else f.pos) + data.length ∧
      f'.realpos = (if f.app = true ∧ data ≠ [] then f.size else f.realpos) + data.length ∧
      f'.size = (if f.app = true then f.size + data.length else f.size) ∧
      Coherent f'.s ∧ srvSame f'.s f.s ∧ cliSame f' f := by
  induction fuel generalizing f data with
  | zero => omega
  | succ fuel ih =>
    rw [writeAllLoop]
    by_cases he : data.isEmpty = true
    · have : data = [] := by simpa using he
      subst this
      refine ⟨f, rfl, by simp [overlay_nil], by simp, by simp, by simp, hc,
        ⟨rfl, rfl, rfl, rfl, rfl⟩, ⟨rfl, rfl, rfl, rfl, rfl, rfl, rfl, rfl, rfl, rfl, rfl⟩⟩
    · have hne : data ≠ [] := by simpa using he
      have hlen : 0 < data.length := List.length_pos_iff.2 hne
      -- this request carries `k` bytes
      obtain ⟨k, hk, hk1, hk2⟩ : ∃ k, min data.length maxReq = k ∧ 1 ≤ k ∧ k ≤ data.length := ⟨_, rfl, by omega, by omega⟩
      have hk0 : (k == 0) = false := beq_false_of_ne (by omega)
      have hneg : ¬ f.realpos < 0 := by omega
      obtain ⟨w1, w2, w3⟩ := srvWrite_spec f.s f.realpos.toNat (data.take k) hc
      rw [hsa] at w1
      simp only [he, Bool.false_eq_true, if_false, sftpOps_write, hneg, hk, hk0]
      have hd : (data.drop k).length < fuel := by
        simp only [List.length_drop]; omega
      have hdl : (data.drop k).length = data.length - k := List.length_drop
      by_cases ha : f.app = true
      · -- append mode: `_pos`, `_realpos` and `_size` all sit at the end of what has been written
        rw [if_pos ha] at w1 ⊢
        obtain ⟨f', h, i2, i3, i4, i5, i6, i7, i8⟩ := ih
          { f with s := srvWrite f.s f.realpos.toNat (data.take k), size := f.size + (k : Nat),
                   pos := f.size + (k : Nat), realpos := f.size + (k : Nat) }
          (data.drop k) hd (by have := hsz ha; simp only; omega)
          (fun _ => by have := hsz ha; simp only; omega) w2 (w3.1.trans hsa)
        simp only [ha, if_true, ite_self] at i2 i3 i4 i5
        refine ⟨f', h, ?_, ?_, ?_, ?_, i6, i7.trans w3, i8⟩
        · rw [if_pos ha, i2, w1, List.append_assoc, List.take_append_drop]
        · rw [if_pos ⟨ha, hne⟩, i3, hdl]; exact add_chunk _ _ _ hk2
        · rw [if_pos ⟨ha, hne⟩, i4, hdl]; exact add_chunk _ _ _ hk2
        · rw [if_pos ha, i5, hdl]; exact add_chunk _ _ _ hk2
      · rw [if_neg ha] at w1 ⊢
        have hr' : (f.realpos + (k : Nat)).toNat = f.realpos.toNat + (data.take k).length := by
          rw [List.length_take, Nat.min_eq_left hk2]; exact toNat_add_nat _ _ h0
        obtain ⟨f', h, i2, i3, i4, i5, i6, i7, i8⟩ := ih
          { f with s := srvWrite f.s f.realpos.toNat (data.take k), pos := f.pos + (k : Nat),
                   realpos := f.realpos + (k : Nat) }
          (data.drop k) hd (by simp only; omega) (fun h => absurd h ha) w2 (w3.1.trans hsa)
        simp only [ha, Bool.false_eq_true, if_false, false_and] at i2 i3 i4 i5
        refine ⟨f', h, ?_, ?_, ?_, ?_, i6, i7.trans w3, i8⟩
        · rw [if_neg ha, i2, w1, hr', overlay_append, List.take_append_drop]
        · rw [if_neg (fun h => ha h.1), i3, hdl]; exact add_chunk _ _ _ hk2
        · rw [if_neg (fun h => ha h.1), i4, hdl]; exact add_chunk _ _ _ hk2
        · rw [if_neg ha, i5]

theorem flush_sftp_noapp (maxReq : Nat) (hm : 1 ≤ maxReq) (f : BF Srv)
    (h0 : 0 ≤ f.realpos) (hc : Coherent f.s) (ha : f.app = false) (hsa : f.s.append = false) (hrb : f.rbuf = []) :
    (flush (sftpOps maxReq) f).2 = .ok () ∧
    (flush (sftpOps maxReq) f).1.s.content = overlay f.s.content f.realpos.toNat f.wbuf ∧
    (flush (sftpOps maxReq) f).1.pos = f.pos + f.wbuf.length ∧
    (flush (sftpOps maxReq) f).1.realpos = f.realpos + f.wbuf.length ∧
    (flush (sftpOps maxReq) f).1.size = f.size ∧
    Coherent (flush (sftpOps maxReq) f).1.s ∧
    srvSame (flush (sftpOps maxReq) f).1.s f.s ∧
    (flush (sftpOps maxReq) f).1.wbuf = [] ∧
    cliSame (flush (sftpOps maxReq) f).1 { f with wbuf := [] } := by
  have hna : ¬ f.app = true := by simp [ha]
  obtain ⟨f', h, h2, h3, h4, h5, h6, h7, h8⟩ := writeAllLoop_sftp maxReq hm (f.wbuf.length + 1) f f.wbuf
    (by omega) h0 (fun h => absurd h hna) hc (hsa.trans ha.symm)
  rw [if_neg hna] at h2 h5
  rw [if_neg (fun h => hna h.1)] at h3 h4
  unfold flush writeAll
  rw [dropReadAhead_nil _ f _ (Or.inl hrb), h]
  obtain ⟨a, b, c, d, e, g, i, j, k, _, l⟩ := h8
  exact ⟨rfl, h2, h3, h4, h5, h6, h7, rfl, ⟨a, b, c, d, e, g, i, j, k, rfl, l⟩⟩

/-! ## the SFTP read side satisfies the generic read laws -/

theorem srvRead_spec (s : Srv) (off k : Nat) (hc : Coherent s) :
    (srvRead s off k).2 = (s.content.drop off).take k ∧
    (srvRead s off k).1.content = s.content ∧ Coherent (srvRead s off k).1 ∧
    (srvRead s off k).1.append = s.append ∧ (srvRead s off k).1.hopen = s.hopen ∧
    (srvRead s off k).1.truncZero = s.truncZero ∧ (srvRead s off k).1.stale = s.stale := by
  unfold srvRead
  have ht : s.tell.getD s.fpos = s.fpos := by
    rcases hc with h | h <;> simp [h]
  rw [ht]
  by_cases h : off = s.fpos
  · subst h; simp [Coherent]
  · simp [h, Coherent]

/-- what SFTP reads preserve on the server -/
def srvFrame (a b : Srv) : Prop :=
  b.content = a.content ∧ b.append = a.append ∧ b.hopen = a.hopen ∧ b.truncZero = a.truncZero ∧ b.stale = a.stale

def sftpLaws (maxReq : Nat) (hm : 1 ≤ maxReq) : ReadLaws (sftpOps maxReq) where
  rest s rp := s.content.drop rp.toNat
  ok s rp := 0 ≤ rp ∧ Coherent s ∧ s.stale = false
  fr := srvFrame
  fail _ := False
  fr_refl _ := ⟨rfl, rfl, rfl, rfl, rfl⟩
  fr_trans a b c h1 h2 := ⟨h2.1.trans h1.1, h2.2.1.trans h1.2.1, h2.2.2.1.trans h1.2.2.1,
    h2.2.2.2.1.trans h1.2.2.2.1, h2.2.2.2.2.trans h1.2.2.2.2⟩
  read_spec s rp n hok hn := by
    obtain ⟨h0, hc, hst⟩ := hok
    obtain ⟨r1, r2, r3, r4, r5, r6, r7⟩ := srvRead_spec s rp.toNat (min n maxReq) hc
    have hneg : ¬ rp < 0 := by omega
    have hrd : (sftpOps maxReq).read s rp n
        = ((srvRead s rp.toNat (min n maxReq)).1, .ok (srvRead s rp.toNat (min n maxReq)).2) := by
      simp only [sftpOps, hneg, if_false, hst, Bool.false_eq_true]
    refine Or.inl ⟨min n maxReq, by omega, by rw [hrd, r1], ?_, ?_, ?_⟩
    · rw [hrd]; exact ⟨by omega, r3, by rw [r7]; exact hst⟩
    · rw [hrd]
      simp only
      rw [r2]
      rw [toNat_add_nat _ _ h0, ← List.drop_drop, drop_take_length]
    · rw [hrd]; exact ⟨r2, r4, r5, r6, r7⟩
  bound_spec s rp _ := by simp [sftpOps]

theorem sftpLaws_never_fails (maxReq : Nat) (hm : 1 ≤ maxReq) : ∀ e, ¬ (sftpLaws maxReq hm).fail e := fun _ => id

/-! ## `_write_all` as the refinement needs it (read-ahead dropped first; append or not) -/

/-- position / server facts every write relies on -/
structure WPre (f : BF Srv) : Prop where
  pos0 : 0 ≤ f.pos
  rp : f.realpos = f.pos + f.rbuf.length
  coh : Coherent f.s
  sapp : f.s.append = f.app
  asize : f.app = true → f.size = f.s.content.length

/-- `WPre` reads only `_pos`, `_realpos`, the read-ahead buffer, the server side, the append flag and `_size` -/
theorem WPre.congr {f g : BF Srv} (w : WPre f) (hp : g.pos = f.pos) (hr : g.realpos = f.realpos)
    (hb : g.rbuf = f.rbuf) (hs : g.s = f.s) (ha : g.app = f.app) (hz : g.size = f.size) : WPre g :=
  ⟨hp ▸ w.pos0, by rw [hp, hr, hb]; exact w.rp, hs ▸ w.coh, by rw [hs, ha]; exact w.sapp,
    fun h => by rw [hz, hs]; exact w.asize (ha ▸ h)⟩

theorem dropReadAhead_sftp (maxReq : Nat) (f : BF Srv) (data : Bytes) (hne : data ≠ [])
    (hrp : f.realpos = f.pos + f.rbuf.length) :
    dropReadAhead (sftpOps maxReq) f data = { f with rbuf := [], realpos := f.pos } := by
  have he : data.isEmpty = false := by simpa using hne
  unfold dropReadAhead
  by_cases hr : f.rbuf = []
  · -- nothing to drop, and `_realpos` is `_pos` already
    have : f.realpos = f.pos := by rw [hrp, hr]; simp
    simp only [he, hr, List.isEmpty_nil, Bool.not_true, Bool.and_false, Bool.false_and, Bool.false_eq_true, if_false]
    cases f; simp_all
  · have hr' : f.rbuf.isEmpty = false := by simpa using hr
    simp [he, hr', sftpOps]

theorem writeAll_sftp (maxReq : Nat) (hm : 1 ≤ maxReq) (f : BF Srv) (data : Bytes) (h : WPre f) (hne : data ≠ []) :
    ∃ f', writeAll (sftpOps maxReq) f data = (f', .ok ()) ∧
      f'.s.content = (if f.app = true then f.s.content ++ data else overlay f.s.content f.pos.toNat data) ∧
      f'.pos = (if f.app = true then ((f.s.content.length + data.length : Nat) : Int) else f.pos + data.length) ∧
      f'.realpos = f'.pos ∧
      (f.app = true → f'.size = (f.s.content.length + data.length : Nat)) ∧
      Coherent f'.s ∧ srvSame f'.s f.s ∧ cliSame f' { f with rbuf := [] } := by
  unfold writeAll
  rw [dropReadAhead_sftp maxReq f data hne h.rp]
  obtain ⟨f', hw, i2, j1, j2, i5, i6, i7, hcli⟩ :=
    writeAllLoop_sftp maxReq hm (data.length + 1) { f with rbuf := [], realpos := f.pos } data (by omega) h.pos0
      (fun ha => by have := h.asize ha; simp only; omega) h.coh h.sapp
  simp only at i2 j1 j2 i5
  refine ⟨f', hw, i2, ?_, j2.trans j1.symm, fun ha => ?_, i6, i7, hcli⟩
  · rw [j1]
    by_cases ha : f.app = true
    · rw [if_pos ⟨ha, hne⟩, if_pos ha, h.asize ha]; push_cast; rfl
    · rw [if_neg (fun h => ha h.1), if_neg ha]
  · rw [i5, if_pos ha, h.asize ha]; push_cast; rfl

end PV.SftpFile
