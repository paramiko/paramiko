/-
  PV.Model.PacketFrag — `read_all` over a fragmenting socket (arbitrary `recv` return sizes and timeouts)
  returns exactly what reading from the concatenated stream returns.
-/
import PV.Model.Packet
namespace PV.Packet
open PV

/-- what the `read_all` loop owes for `n` more bytes of `data`: them appended to `out`, or EOF iff there are fewer -/
def ReadPost (n : Nat) (out data : Bytes) (R : LoopRes) : Prop :=
  (n ≤ data.length → ∃ sc, R = .ok (out ++ data.take n) (data.drop n) sc) ∧ (data.length < n → R = .err .eof)

theorem ReadPost.zero (out data : Bytes) (sc : List Ev) : ReadPost 0 out data (.ok out data sc) :=
  ⟨fun _ => ⟨sc, by rw [List.take_zero, List.append_nil, List.drop_zero]⟩, fun h => absurd h (Nat.not_lt_zero _)⟩

theorem ReadPost.nil (n : Nat) (out : Bytes) : ReadPost (n + 1) out [] (.err .eof) :=
  ⟨fun h => absurd h (Nat.not_succ_le_zero n), fun _ => rfl⟩

/-- one `recv` that returned the next `m ≤ n` bytes at most: the loop still owes the rest -/
theorem ReadPost.chunk {n m : Nat} {out data : Bytes} {R : LoopRes} (hmn : m ≤ n)
    (h : ReadPost (n - (data.take m).length) (out ++ data.take m) (data.drop (data.take m).length) R) :
    ReadPost n out data R := by
  have hxl : (data.take m).length = min m data.length := List.length_take
  constructor
  · intro hn
    rw [hxl, Nat.min_eq_left (Nat.le_trans hmn hn)] at h
    obtain ⟨sc, hsc⟩ := h.1 (by rw [List.length_drop]; omega)
    refine ⟨sc, ?_⟩
    rw [hsc, List.append_assoc, ← List.take_add, List.drop_drop, Nat.add_sub_cancel' hmn]
  · intro hn
    exact h.2 (by rw [List.length_drop, hxl]; omega)

theorem recvLoop_spec (cr : Bool) (fuel : Nat) : ∀ (n : Nat) (out data : Bytes) (sched : List Ev),
    n + sched.length ≤ fuel →
    (∃ sc, recvLoop cr fuel n out data sched = .rekey sc ∧ cr = true ∧ out = [] ∧ sc.length < sched.length) ∨
    ReadPost n out data (recvLoop cr fuel n out data sched) := by
  induction fuel with
  | zero =>
    intro n out data sched hf
    obtain rfl : n = 0 := by omega
    exact .inr (.zero ..)
  | succ fuel ih =>
    intro n out data sched hf
    cases n with
    | zero => exact .inr (.zero ..)
    | succ n =>
      -- a `recv` that returned data: the accumulator is no longer empty, so no `NeedRekeyException` from here on
      have consume : ∀ (m : Nat) (t : List Ev), 1 ≤ m → m ≤ n + 1 → data ≠ [] → t.length ≤ sched.length →
          ReadPost (n + 1) out data (recvLoop cr fuel (n + 1 - (data.take m).length) (out ++ data.take m)
            (data.drop (data.take m).length) t) := by
        intro m t hm hmn hd ht
        have hx : 1 ≤ (data.take m).length := by
          have := List.length_pos_iff.2 hd
          rw [List.length_take]; omega
        rcases ih (n + 1 - (data.take m).length) (out ++ data.take m) (data.drop (data.take m).length) t (by omega) with ⟨_, _, _, hout, _⟩ | h
        · have := congrArg List.length hout
          rw [List.length_append, List.length_nil] at this
          omega
        · exact .chunk hmn h
      cases sched with
      | nil =>
        cases data with
        | nil => exact .inr (.nil ..)
        | cons x xs => exact .inr (consume (n + 1) [] (Nat.succ_pos _) (Nat.le_refl _) (List.cons_ne_nil _ _) (Nat.le_refl _))
      | cons ev t =>
        cases ev with
        | timeout nr =>
          simp only [recvLoop]
          by_cases hc : (cr && out.isEmpty && nr) = true
          · rw [if_pos hc]
            simp only [Bool.and_eq_true, List.isEmpty_iff] at hc
            exact .inl ⟨t, rfl, hc.1.1, hc.1.2, Nat.lt_succ_self _⟩
          · rw [if_neg hc]
            rcases ih (n + 1) out data t (by rw [List.length_cons] at hf; omega) with ⟨sc, h1, h2, h3, h4⟩ | h
            · exact .inl ⟨sc, h1, h2, h3, Nat.lt_succ_of_lt h4⟩
            · exact .inr h
        | recv k =>
          cases data with
          | nil => exact .inr (.nil ..)
          | cons x xs =>
            exact .inr (consume (min (n + 1) (k + 1)) t (by omega) (Nat.min_le_left ..) (List.cons_ne_nil _ _)
              (Nat.le_succ _))
/-- `read_all(n, check_rekey)` with an empty `__remainder`: whatever the `recv` sizes, timeouts and values of the
need-rekey flag, either `NeedRekeyException` is raised — only with `check_rekey`, with NOTHING consumed, and a
timeout of the schedule used up — or the result is the next `n` bytes of the stream (EOF iff the stream is shorter) -/
theorem readAll_spec (data : Bytes) (sched : List Ev) (n : Int) (cr : Bool) :
    (∃ sc, readAll ⟨[], data, sched⟩ n cr = .rekey ⟨[], data, sc⟩ ∧ cr = true ∧ sc.length < sched.length) ∨
    ((n.toNat ≤ data.length →
      ∃ sc, readAll ⟨[], data, sched⟩ n cr = .ok (data.take n.toNat) ⟨[], data.drop n.toNat, sc⟩) ∧
     (data.length < n.toNat → readAll ⟨[], data, sched⟩ n cr = .err .eof)) := by
  have hs := recvLoop_spec cr (n.toNat + sched.length) n.toNat [] data sched (Nat.le_refl _)
  unfold readAll
  simp only [List.isEmpty_nil, if_true, List.length_nil, Int.natCast_zero, Int.sub_zero]
  rcases hs with ⟨sc, h1, h2, -, h4⟩ | hs
  · exact .inl ⟨sc, by rw [h1], h2, h4⟩
  · refine .inr ⟨fun h => ?_, fun h => by rw [hs.2 h]⟩
    obtain ⟨sc, hsc⟩ := hs.1 h
    exact ⟨sc, by rw [hsc]; rfl⟩

/-- socket run and stream run agree (a propagated `NeedRekeyException` never agrees) -/
def SimRes {α : Type} : SRes α → Res α → Prop
  | .ok a s, .ok b rest => a = b ∧ s.rem = [] ∧ s.data = rest
  | .err e, .err e' => e = e'
  | _, _ => False

/-- no `read_all` of the computation passes `check_rekey=True` -/
inductive NoCheck {α : Type} : Rd α → Prop
  | ret (a : α) : NoCheck (.ret a)
  | fail (e : Err) : NoCheck (.fail e)
  | read (n : Int) (k : Bytes → Rd α) : (∀ b, NoCheck (k b)) → NoCheck (.read n false k)

theorem SimRes.not_rekey {α : Type} {s : Sock} {x : Res α} : ¬ SimRes (.rekey s) x := by
  cases x <;> exact id

theorem SimRes.err_inv {α : Type} {e : Err} {x : Res α} (h : SimRes (.err e) x) : x = .err e := by
  cases x with
  | ok b rest => exact h.elim
  | err e' => exact congrArg Res.err (Eq.symm h)

theorem SimRes.ok_inv {α : Type} {a : α} {s : Sock} {x : Res α} (h : SimRes (.ok a s) x) :
    x = .ok a s.data ∧ s.rem = [] := by
  cases x with
  | err e => exact h.elim
  | ok b rest =>
    obtain ⟨rfl, hrem, rfl⟩ := h
    exact ⟨rfl, hrem⟩

/-- one `read_all` in front of continuations that agree with the stream run: `NeedRekeyException` — only with
`check_rekey`, with the stream untouched and a shorter schedule — or agreement -/
theorem runSock_read {α : Type} (n : Int) (cr : Bool) (k : Bytes → Rd α)
    (hk : ∀ b data sched, SimRes (runSock (k b) ⟨[], data, sched⟩) (runBuf (k b) data))
    (data : Bytes) (sched : List Ev) :
    (∃ sc, runSock (.read n cr k) ⟨[], data, sched⟩ = .rekey ⟨[], data, sc⟩ ∧ cr = true ∧
      sc.length < sched.length) ∨
    SimRes (runSock (.read n cr k) ⟨[], data, sched⟩) (runBuf (.read n cr k) data) := by
  rcases readAll_spec data sched n cr with ⟨sc, h1, h2, h3⟩ | ⟨h1, h2⟩
  · exact .inl ⟨sc, by unfold runSock; rw [h1], h2, h3⟩
  · refine .inr ?_
    unfold runSock runBuf
    by_cases h0 : n ≤ 0
    · obtain ⟨sc, hsc⟩ := h1 (by rw [Int.toNat_of_nonpos h0]; exact Nat.zero_le _)
      rw [hsc, if_pos h0, Int.toNat_of_nonpos h0]
      exact hk [] data sc
    · rw [if_neg h0]
      by_cases hl : n.toNat ≤ data.length
      · obtain ⟨sc, hsc⟩ := h1 hl
        rw [hsc, if_pos hl]
        exact hk _ _ sc
      · rw [h2 (Nat.lt_of_not_le hl), if_neg hl]
        rfl

theorem runSock_sim {α : Type} {m : Rd α} (hm : NoCheck m) : ∀ (data : Bytes) (sched : List Ev),
    SimRes (runSock m ⟨[], data, sched⟩) (runBuf m data) := by
  induction hm with
  | ret a => intro data sched; exact ⟨rfl, rfl, rfl⟩
  | fail e => intro data sched; exact rfl
  | read n k _ ih =>
    intro data sched
    rcases runSock_read n false k ih data sched with ⟨_, _, h, _⟩ | h
    · cases h
    · exact h

theorem noCheck_liftE {α : Type} (e : Except Err α) : NoCheck (liftE e) := by
  cases e with
  | error x => exact .fail x
  | ok v => exact .ret v

theorem noCheck_ite {α : Type} {c : Prop} [Decidable c] {a b : Rd α} (ha : NoCheck a) (hb : NoCheck b) :
    NoCheck (if c then a else b) := by
  split <;> assumption

theorem noCheck_readEtm {p : Prims} (r : Receiver p) (st : p.CSt) (mk : p.MKey) (hdr : Bytes) :
    NoCheck (readEtm r st mk hdr) :=
  noCheck_ite (.fail _) (.read _ _ fun _ => .read _ _ fun _ => noCheck_ite (noCheck_liftE _) (.fail _))

theorem noCheck_readAead {p : Prims} (r : Receiver p) (k : p.AKey) (iv hdr : Bytes) :
    NoCheck (readAead r k iv hdr) := by
  refine noCheck_ite (.fail _) (.read _ _ fun more => ?_)
  simp only
  split
  · exact .fail _
  · split
    · exact .fail _
    · exact noCheck_liftE _

theorem noCheck_readPlain {p : Prims} (r : Receiver p) (hdr : Bytes) : NoCheck (readPlain r hdr) :=
  noCheck_ite (.fail _) (noCheck_ite (.fail _) (.read _ _ fun _ => noCheck_liftE _))

theorem noCheck_readClassic {p : Prims} (r : Receiver p) (st : p.CSt) (mk : p.MKey) (hdr : Bytes) :
    NoCheck (readClassic r st mk hdr) :=
  noCheck_ite (.fail _) (noCheck_ite (.fail _) (.read _ _ fun _ =>
    noCheck_ite (noCheck_ite (noCheck_liftE _) (.fail _)) (noCheck_liftE _)))

/-- only the first `read_all` of `read_message` passes `check_rekey=True` -/
theorem readMessage_first {p : Prims} (r : Receiver p) (data : Bytes) (sched : List Ev) :
    (∃ sc, runSock (readMessage r) ⟨[], data, sched⟩ = .rekey ⟨[], data, sc⟩ ∧ sc.length < sched.length) ∨
    SimRes (runSock (readMessage r) ⟨[], data, sched⟩) (runBuf (readMessage r) data) := by
  have hk : ∀ hdr, NoCheck (match r.ciph with
      | .etm st mk => readEtm r st mk hdr
      | .aead k iv => readAead r k iv hdr
      | .plain => readPlain r hdr
      | .classic st mk => readClassic r st mk hdr) := by
    intro hdr
    cases r.ciph with
    | plain => exact noCheck_readPlain r hdr
    | classic st mk => exact noCheck_readClassic r st mk hdr
    | etm st mk => exact noCheck_readEtm r st mk hdr
    | aead k iv => exact noCheck_readAead r k iv hdr
  rcases runSock_read (r.block : Int) true _ (fun hdr => runSock_sim (hk hdr)) data sched with ⟨sc, h1, -, h2⟩ | h
  · exact .inl ⟨sc, h1, h2⟩
  · exact .inr h

/-- `read_message` retried after every `NeedRekeyException` (as `Transport.run` does) agrees with reading from the
plain stream — for every `recv` fragmentation, every placement of timeouts and every value of the need-rekey flag
at each of them -/
theorem readRetry_sim {p : Prims} (r : Receiver p) (data : Bytes) : ∀ (f : Nat) (sched : List Ev), sched.length < f →
    SimRes (readRetry r f ⟨[], data, sched⟩) (runBuf (readMessage r) data) := by
  intro f
  induction f with
  | zero => intro sched h; exact absurd h (Nat.not_lt_zero _)
  | succ f ih =>
    intro sched h
    unfold readRetry
    rcases readMessage_first r data sched with ⟨sc, h1, h2⟩ | hs
    · rw [h1]
      exact ih sc (by omega)
    · cases hrs : runSock (readMessage r) ⟨[], data, sched⟩ with
      | rekey s' => rw [hrs] at hs; exact absurd hs SimRes.not_rekey
      | ok a s' => rw [hrs] at hs; exact hs
      | err e => rw [hrs] at hs; exact hs

/-- the message sequence delivered over a fragmenting socket is the one delivered from the plain stream,
and the receiver stops for the same reason -/
theorem recvAllSock_eq {p : Prims} (ops : List (Op p)) : ∀ (r : Receiver p) (data : Bytes) (sched : List Ev),
    (recvAllSock r ops ⟨[], data, sched⟩).1 = (recvAll r ops data).msgs ∧
    (recvAllSock r ops ⟨[], data, sched⟩).2.1 = (recvAll r ops data).stop := by
  induction ops with
  | nil => intro r data sched; exact ⟨rfl, rfl⟩
  | cons op ops ih =>
    intro r data sched
    cases op with
    | msg d rnd =>
      have hsim := readRetry_sim r data (sched.length + 1) sched (Nat.lt_succ_self _)
      cases hs : readRetry r (sched.length + 1) ⟨[], data, sched⟩ with
      | rekey s' => exact absurd (hs ▸ hsim) SimRes.not_rekey
      | err e =>
        have hb := SimRes.err_inv (hs ▸ hsim)
        simp only [recvAllSock, recvAll, hs, hb, and_self]
      | ok a s' =>
        obtain ⟨srem, sdata, ssched⟩ := s'
        obtain ⟨hb, rfl⟩ := SimRes.ok_inv (hs ▸ hsim)
        obtain ⟨i1, i2⟩ := ih a.st sdata ssched
        simp only [recvAllSock, recvAll, hs, hb]
        exact ⟨by rw [i1], i2⟩
    | _ => exact ih _ _ _

end PV.Packet
