/-
  Invariant of the SFTP client bookkeeping model and its preservation.
  `Good wf ex s`: `wf` = the request number a synchronous call is waiting for (none between calls),
  `ex` = a file whose "rejected write ⇒ still on the wire or saved" clause is suspended (its exception has just
  been raised and the operation is about to reset the ghost counter).
-/
import PV.Model.SftpClient
namespace PV.SftpClient
open PV

def nums (w : List Slot) : List Nat := w.map (·.num)
def keys (e : List (Nat × Option Nat)) : List Nat := e.map (·.1)

def OwnOK (wf : Option Nat) (nfiles : Nat) (sl : Slot) : Prop :=
  match sl.owner with
  | some f => f < nfiles ∧ ∃ off data, sl.kind = .write f off data
  | none => wf = some sl.num

def IsBad (f : Nat) (sl : Slot) : Prop := sl.owner = some f ∧ ∃ c, sl.resp = some c ∧ c ≠ 0

def BadOK (badSince : List Nat) (files : List FileSt) (wire : List Slot) (f : Nat) : Prop :=
  badSince.getD f 0 > 0 → (∃ sl ∈ wire, IsBad f sl) ∨ ((files.getD f newFile).saved.isSome = true)

/-- The first six fields of `Good` below: request numbers, `_expecting` and the wire.  It reads the wire only
    through the (number, owner) pairs on it, in any order. -/
structure Wired (nextNum : Nat) (expecting : List (Nat × Option Nat)) (wire : List Slot) : Prop where
  nd : (nums wire).Nodup
  lt : ∀ sl ∈ wire, sl.num < nextNum
  ekeys : (keys expecting).Nodup
  elt : ∀ e ∈ expecting, e.1 < nextNum
  e2w : ∀ e ∈ expecting, e.1 ∈ nums wire
  w2e : ∀ sl ∈ wire, (sl.num, sl.owner) ∈ expecting

structure Good (wf ex : Option Nat) (s : St) : Prop where
  nd : (nums s.wire).Nodup
  lt : ∀ sl ∈ s.wire, sl.num < s.nextNum
  ekeys : (keys s.expecting).Nodup
  elt : ∀ e ∈ s.expecting, e.1 < s.nextNum
  e2w : ∀ e ∈ s.expecting, e.1 ∈ nums s.wire
  w2e : ∀ sl ∈ s.wire, (sl.num, sl.owner) ∈ s.expecting
  own : ∀ sl ∈ s.wire, OwnOK wf s.files.length sl
  bad : ∀ f, ex ≠ some f → BadOK s.badSince s.files s.wire f
  rq : ∀ sl ∈ s.wire, ∀ f, sl.owner = some f → sl.num ∈ (getFile s f).reqs

/-! ## `List.modify`, and a file update seen through `getFile` -/

theorem getD_modify_self {α : Type} {l : List α} {i : Nat} (g : α → α) {d : α} (h : i < l.length) :
    (l.modify i g).getD i d = g (l.getD i d) := by
  simp [List.getD_eq_getElem?_getD, List.getElem?_eq_getElem h]

theorem getD_modify_ne {α : Type} {l : List α} {i j : Nat} (g : α → α) {d : α} (h : i ≠ j) :
    (l.modify i g).getD j d = l.getD j d := by
  simp only [List.getD_eq_getElem?_getD, List.getElem?_modify_ne _ _ h]

theorem getD_modify_zero (l : List Nat) (f : Nat) : (l.modify f (fun _ => 0)).getD f 0 = 0 := by
  by_cases h : f < l.length
  · rw [getD_modify_self _ h]
  · simp only [List.getD_eq_getElem?_getD, List.getElem?_modify]
    simp [List.getElem?_eq_none (Nat.le_of_not_lt h)]

theorem getFile_setFile_ne {s : St} {f g : Nat} {h : FileSt → FileSt} (hne : f ≠ g) :
    getFile (setFile s f h) g = getFile s g :=
  getD_modify_ne h hne

theorem getFile_setFile_self {s : St} {f : Nat} {h : FileSt → FileSt} (hlt : f < s.files.length) :
    getFile (setFile s f h) f = h (getFile s f) :=
  getD_modify_self h hlt

theorem getFile_setFile (s : St) (f g : Nat) (h : FileSt → FileSt) :
    getFile (setFile s f h) g = getFile s g ∨ getFile (setFile s f h) g = h (getFile s g) := by
  by_cases hfg : f = g
  · subst hfg
    by_cases hlt : f < s.files.length
    · exact .inr (getFile_setFile_self hlt)
    · left; unfold getFile setFile; rw [List.modify_eq_self (Nat.le_of_not_lt hlt)]
  · exact .inl (getFile_setFile_ne hfg)

theorem files_setFile_length (s : St) (f : Nat) (h : FileSt → FileSt) :
    (setFile s f h).files.length = s.files.length :=
  List.length_modify ..

/-- updating a file in a way that never clears a saved exception keeps every `BadOK` -/
theorem badOK_setFile {s : St} {f g : Nat} {h : FileSt → FileSt} {wire : List Slot}
    (hs : ∀ x : FileSt, x.saved.isSome = true → (h x).saved.isSome = true)
    (hb : BadOK s.badSince s.files wire g) : BadOK s.badSince (setFile s f h).files wire g := by
  intro hp
  refine (hb hp).imp id fun h1 => ?_
  show (getFile (setFile s f h) g).saved.isSome = true
  rcases getFile_setFile s f g h with e | e <;> rw [e]
  · exact h1
  · exact hs _ h1

/-- `BadOK` reads the wire only through its rejected slots of `f`, the counters only at `f` -/
theorem BadOK.mono {bs bs' : List Nat} {files : List FileSt} {w w' : List Slot} {f : Nat} (h : BadOK bs files w f)
    (hb : bs'.getD f 0 = bs.getD f 0) (hw : ∀ x ∈ w, IsBad f x → x ∈ w') : BadOK bs' files w' f :=
  fun hp => (h (hb ▸ hp)).imp (fun ⟨x, hx, hbx⟩ => ⟨x, hw x hx hbx, hbx⟩) id

theorem own_setFile {wf : Option Nat} {s : St} {w : List Slot} (f : Nat) (g : FileSt → FileSt)
    (h : ∀ sl ∈ w, OwnOK wf s.files.length sl) : ∀ sl ∈ w, OwnOK wf (setFile s f g).files.length sl := by
  rw [files_setFile_length]; exact h

/-! ## numbers, `_expecting` and the wire -/

theorem Good.wired {wf ex : Option Nat} {s : St} (hg : Good wf ex s) : Wired s.nextNum s.expecting s.wire :=
  ⟨hg.nd, hg.lt, hg.ekeys, hg.elt, hg.e2w, hg.w2e⟩

theorem Wired.good {wf ex : Option Nat} {s : St} (hw : Wired s.nextNum s.expecting s.wire)
    (own : ∀ sl ∈ s.wire, OwnOK wf s.files.length sl) (bad : ∀ f, ex ≠ some f → BadOK s.badSince s.files s.wire f)
    (rq : ∀ sl ∈ s.wire, ∀ f, sl.owner = some f → sl.num ∈ (getFile s f).reqs) : Good wf ex s :=
  ⟨hw.nd, hw.lt, hw.ekeys, hw.elt, hw.e2w, hw.w2e, own, bad, rq⟩

def ids (w : List Slot) : List (Nat × Option Nat) := w.map fun x => (x.num, x.owner)

theorem Wired.of_perm {n : Nat} {e : List (Nat × Option Nat)} {w w' : List Slot} (hw : Wired n e w)
    (hp : (ids w').Perm (ids w)) : Wired n e w' := by
  have hnums : (nums w').Perm (nums w) := by
    have := hp.map Prod.fst
    simpa [ids, nums, List.map_map, Function.comp_def] using this
  have hmem : ∀ x ∈ w', ∃ y ∈ w, y.num = x.num ∧ y.owner = x.owner := by
    intro x hx
    have : (x.num, x.owner) ∈ ids w := hp.mem_iff.mp (List.mem_map.mpr ⟨x, hx, rfl⟩)
    obtain ⟨y, hy, e⟩ := List.mem_map.mp this
    exact ⟨y, hy, congrArg Prod.fst e, congrArg Prod.snd e⟩
  refine ⟨hnums.nodup_iff.mpr hw.nd, ?_, hw.ekeys, hw.elt, fun x hx => hnums.mem_iff.mpr (hw.e2w x hx), ?_⟩
  · intro x hx
    obtain ⟨y, hy, e1, _⟩ := hmem x hx
    exact e1 ▸ hw.lt y hy
  · intro x hx
    obtain ⟨y, hy, e1, e2⟩ := hmem x hx
    exact e1 ▸ e2 ▸ hw.w2e y hy

theorem nodup_snoc_key {α : Type} (k : α → Nat) {l : List α} {a : α} (hnd : (l.map k).Nodup)
    (hlt : ∀ x ∈ l, k x < k a) : ((l ++ [a]).map k).Nodup := by
  rw [List.map_append]
  refine List.nodup_append.mpr ⟨hnd, by simp, fun x hx y hy => ?_⟩
  obtain ⟨z, hz, rfl⟩ := List.mem_map.mp hx
  rw [List.mem_singleton.mp hy]
  exact Nat.ne_of_lt (hlt z hz)

theorem lt_snoc_key {α : Type} (k : α → Nat) {l : List α} {a : α} (hlt : ∀ x ∈ l, k x < k a) :
    ∀ x ∈ l ++ [a], k x < k a + 1 := by
  intro x hx
  rcases List.mem_append.mp hx with h | h
  · exact Nat.lt_succ_of_lt (hlt x h)
  · rw [List.mem_singleton.mp h]; exact Nat.lt_succ_self _

/-- `_async_request`: the fresh number goes to the end of both lists -/
theorem Wired.send {n : Nat} {e : List (Nat × Option Nat)} {w : List Slot} (hw : Wired n e w) (owner : Option Nat)
    (kind : Kind) : Wired (n + 1) (e ++ [(n, owner)]) (w ++ [⟨n, owner, kind, none⟩]) := by
  refine ⟨nodup_snoc_key Slot.num (a := ⟨n, owner, kind, none⟩) hw.nd hw.lt, lt_snoc_key Slot.num hw.lt,
    nodup_snoc_key Prod.fst (a := (n, owner)) hw.ekeys hw.elt, lt_snoc_key Prod.fst hw.elt, ?_, ?_⟩
  · intro x hx
    simp only [nums, List.map_append, List.mem_append]
    rcases List.mem_append.mp hx with h | h
    · exact Or.inl (hw.e2w x h)
    · rw [List.mem_singleton.mp h]; right; simp
  · intro x hx
    rcases List.mem_append.mp hx with h | h
    · exact List.mem_append_left _ (hw.w2e x h)
    · rw [List.mem_singleton.mp h]; simp

theorem Wired.pop {n : Nat} {e : List (Nat × Option Nat)} {sl : Slot} {rest : List Slot} (hw : Wired n e (sl :: rest)) :
    Wired n (e.filter (fun x => x.1 != sl.num)) rest ∧ sl.num ∉ nums rest := by
  have hnd := hw.nd
  simp only [nums, List.map_cons, List.nodup_cons] at hnd
  have hrest : ∀ x ∈ rest, x ∈ sl :: rest := fun x hx => List.mem_cons_of_mem _ hx
  refine ⟨⟨hnd.2, fun x hx => hw.lt x (hrest x hx), ?_, ?_, ?_, ?_⟩, hnd.1⟩
  · exact List.Nodup.sublist (List.Sublist.map _ (List.filter_sublist ..)) hw.ekeys
  · intro x hx
    exact hw.elt x (List.mem_filter.mp hx).1
  · intro x hx
    obtain ⟨h1, h2⟩ := List.mem_filter.mp hx
    have := hw.e2w x h1
    simp only [nums, List.map_cons, List.mem_cons] at this
    rcases this with h | h
    · simp [h] at h2
    · exact h
  · intro x hx
    refine List.mem_filter.mpr ⟨hw.w2e x (hrest x hx), ?_⟩
    have : x.num ≠ sl.num := fun hc => hnd.1 (hc ▸ List.mem_map.mpr ⟨x, hx, rfl⟩)
    simpa using this

/-! ## the server -/

/-- the server answers a slot (whatever it is) and touches only its own counters, the destination and the two
    ghost counters; `badSince g` grows only for a rejected pipelined write of `g` -/
theorem serveSlot_eq (s : St) (sl : Slot) : ∃ c nw ns dest rejTot badSince,
    serveSlot s sl = ({ sl with resp := some c },
      { s with nw := nw, ns := ns, dest := dest, rejTot := rejTot, badSince := badSince }) ∧
    ∀ g, badSince.getD g 0 = s.badSince.getD g 0 ∨
      (sl.owner.isSome = true ∧ (∃ off data, sl.kind = .write g off data) ∧ c ≠ 0) := by
  unfold serveSlot
  split
  · rename_i f off data hk
    split
    · exact ⟨_, _, _, _, _, _, rfl, fun _ => .inl rfl⟩
    · rename_i hc
      refine ⟨_, _, _, _, _, _, rfl, fun g => ?_⟩
      by_cases ho : sl.owner.isSome = true
      · by_cases hfg : f = g
        · exact .inr ⟨ho, ⟨off, data, hfg ▸ hk⟩, hc⟩
        · left
          simp only [bumpIf, ho, if_true]
          exact getD_modify_ne _ hfg
      · left
        simp only [bumpIf, ho]
        rfl
  · exact ⟨_, _, _, _, _, _, rfl, fun _ => .inl rfl⟩
  · exact ⟨_, _, _, _, _, _, rfl, fun _ => .inl rfl⟩

theorem serveWire_spec {s s' : St} {w w' : List Slot} (h : serveWire s w = some (w', s')) :
    ∃ pre sl post, w = pre ++ sl :: post ∧ (∀ y ∈ pre, y.resp ≠ none) ∧ sl.resp = none ∧
      w' = pre ++ (serveSlot s sl).1 :: post ∧ s' = (serveSlot s sl).2 := by
  induction w generalizing w' with
  | nil => simp [serveWire] at h
  | cons x xs ih =>
    simp only [serveWire] at h
    cases hx : x.resp with
    | some c =>
      simp only [hx] at h
      cases hr : serveWire s xs with
      | none => simp [hr] at h
      | some p =>
        obtain ⟨r', s1⟩ := p
        simp only [hr] at h
        cases h
        obtain ⟨pre, sl, post, h1, h2, h3, h4, h5⟩ := ih hr
        refine ⟨x :: pre, sl, post, by simp [h1], ?_, h3, by simp [h4], h5⟩
        intro y hy
        rcases List.mem_cons.mp hy with hy | hy
        · rw [hy, hx]; simp
        · exact h2 y hy
    | none =>
      simp only [hx] at h
      cases h
      exact ⟨[], x, xs, rfl, by simp, hx, rfl, rfl⟩

/-- replacing one unanswered slot by its answered version -/
theorem good_serve_at {wf ex : Option Nat} {s : St} {pre post : List Slot} {sl : Slot}
    (hg : Good wf ex s) (hw : s.wire = pre ++ sl :: post) (hr : sl.resp = none) :
    Good wf ex { (serveSlot s sl).2 with wire := pre ++ (serveSlot s sl).1 :: post } := by
  obtain ⟨c, nw, ns, dest, rejTot, badSince, heq, hbs⟩ := serveSlot_eq s sl
  rw [heq]
  have hslmem : sl ∈ s.wire := by rw [hw]; simp
  -- an answered slot stands for the slot it answers
  have hmem : ∀ x ∈ pre ++ { sl with resp := some c } :: post,
      ∃ y ∈ s.wire, x.num = y.num ∧ x.owner = y.owner ∧ x.kind = y.kind ∧ (x = y ∨ y = sl ∧ x.resp = some c) := by
    intro x hx
    rw [List.mem_append, List.mem_cons] at hx
    rcases hx with hx | hx | hx
    · exact ⟨x, by rw [hw]; simp [hx], rfl, rfl, rfl, .inl rfl⟩
    · exact ⟨sl, hslmem, by rw [hx], by rw [hx], by rw [hx], .inr ⟨rfl, by rw [hx]⟩⟩
    · exact ⟨x, by rw [hw]; simp [hx], rfl, rfl, rfl, .inl rfl⟩
  refine Wired.good ?_ ?_ ?_ ?_
  · exact hg.wired.of_perm (by rw [hw]; simp [ids])
  · intro x hx
    obtain ⟨y, hy, e1, e2, e3, _⟩ := hmem x hx
    have := hg.own y hy
    unfold OwnOK at this ⊢
    rw [e1, e2, e3]; exact this
  · intro g hex hp
    show (∃ x ∈ pre ++ { sl with resp := some c } :: post, IsBad g x) ∨ _
    rcases hbs g with hb | ⟨hos, ⟨off, data, hkind⟩, hne⟩
    · refine (hg.bad g hex).mono hb (fun x hx hbx => ?_) hp
      rw [hw, List.mem_append, List.mem_cons] at hx
      rw [List.mem_append, List.mem_cons]
      refine hx.imp id (Or.imp (fun hx => ?_) id)
      -- a bad slot has been answered
      obtain ⟨_, c2, hc2, _⟩ := hbx
      rw [hx, hr] at hc2; cases hc2
    · left
      refine ⟨{ sl with resp := some c }, by simp, ?_, c, rfl, hne⟩
      have hown := hg.own _ hslmem
      unfold OwnOK at hown
      cases hso : sl.owner with
      | none => rw [hso] at hos; cases hos
      | some f =>
        rw [hso] at hown
        obtain ⟨_, off', data', hk'⟩ := hown
        rw [hkind] at hk'
        cases hk'
        rfl
  · intro x hx f hxo
    obtain ⟨y, hy, e1, e2, _⟩ := hmem x hx
    rw [e1]; exact hg.rq y hy f (e2 ▸ hxo)

theorem serveOne_spec {s s' : St} (h : serveOne s = some s') :
    ∃ pre sl post, s.wire = pre ++ sl :: post ∧ (∀ y ∈ pre, y.resp ≠ none) ∧ sl.resp = none ∧
      s' = { (serveSlot s sl).2 with wire := pre ++ (serveSlot s sl).1 :: post } := by
  unfold serveOne at h
  cases hs : serveWire s s.wire with
  | none => simp [hs] at h
  | some p =>
    obtain ⟨w, s1⟩ := p
    simp only [hs] at h
    cases h
    obtain ⟨pre, sl, post, h1, h2, h3, rfl, rfl⟩ := serveWire_spec hs
    exact ⟨pre, sl, post, h1, h2, h3, rfl⟩

theorem good_serveOne {wf ex : Option Nat} {s s' : St} (hg : Good wf ex s) (h : serveOne s = some s') :
    Good wf ex s' ∧ s'.files = s.files ∧ s'.maxReq = s.maxReq := by
  obtain ⟨pre, sl, post, h1, _, h2, rfl⟩ := serveOne_spec h
  refine ⟨good_serve_at hg h1 h2, ?_⟩
  obtain ⟨c, nw, ns, dest, rejTot, badSince, heq, -⟩ := serveSlot_eq s sl
  rw [heq]
  exact ⟨rfl, rfl⟩

theorem serveMany_induction {P : St → Prop} (hstep : ∀ s s', P s → serveOne s = some s' → P s') (k : Nat) {s : St}
    (h : P s) : P (serveMany k s) := by
  induction k generalizing s with
  | zero => exact h
  | succ k ih =>
    simp only [serveMany]
    cases hs : serveOne s with
    | none => exact h
    | some s' => exact ih (hstep s s' h hs)

theorem good_serveMany {wf ex : Option Nat} (k : Nat) {s : St} (hg : Good wf ex s) :
    Good wf ex (serveMany k s) ∧ (serveMany k s).files = s.files ∧ (serveMany k s).maxReq = s.maxReq :=
  serveMany_induction (P := fun t => Good wf ex t ∧ t.files = s.files ∧ t.maxReq = s.maxReq)
    (fun _ _ ⟨g, hf, hm⟩ hs => (good_serveOne g hs).imp id (.imp (·.trans hf) (·.trans hm))) k ⟨hg, rfl, rfl⟩

/-! ## taking one response off the wire and dispatching it -/

theorem find_unique {l : List (Nat × Option Nat)} {k : Nat} {v : Option Nat}
    (hnd : (keys l).Nodup) (hm : (k, v) ∈ l) : l.find? (fun e => e.1 == k) = some (k, v) := by
  induction l with
  | nil => cases hm
  | cons x xs ih =>
    simp only [keys, List.map_cons, List.nodup_cons] at hnd
    rw [List.find?_cons]
    rcases List.mem_cons.mp hm with h | h
    · subst h; simp
    · have hne : x.1 ≠ k := by
        intro hc
        apply hnd.1
        rw [hc]
        exact List.mem_map.mpr ⟨(k, v), h, rfl⟩
      have : (x.1 == k) = false := by simpa using hne
      rw [this]
      exact ih hnd.2 h

theorem expOwner_of_good {wf ex : Option Nat} {s : St} {sl : Slot} {rest : List Slot}
    (hg : Good wf ex s) (hw : s.wire = sl :: rest) : expOwner { s with wire := rest } sl.num = some sl.owner := by
  unfold expOwner
  have hm := hg.w2e sl (by rw [hw]; simp)
  show Option.map (·.2) (s.expecting.find? (fun e => e.1 == sl.num)) = some sl.owner
  rw [find_unique hg.ekeys hm]
  rfl

theorem good_pop_none {wf ex : Option Nat} {s : St} {sl : Slot} {rest : List Slot}
    (hg : Good wf ex s) (hw : s.wire = sl :: rest) (ho : sl.owner = none) :
    wf = some sl.num ∧ Good none ex (expDel { s with wire := rest } sl.num) := by
  obtain ⟨hwd, c7⟩ := (hw ▸ hg.wired).pop
  have hsub : ∀ x ∈ rest, x ∈ s.wire := fun x hx => hw ▸ List.mem_cons_of_mem _ hx
  have hown := hg.own sl (by rw [hw]; simp)
  unfold OwnOK at hown
  rw [ho] at hown
  refine ⟨hown, Wired.good hwd ?_ ?_ fun x hx f hxo => hg.rq x (hsub x hx) f hxo⟩
  · intro x hx
    have := hg.own x (hsub x hx)
    unfold OwnOK at this ⊢
    cases hxo : x.owner with
    | some f => rw [hxo] at this; exact this
    | none =>
      rw [hxo] at this
      exfalso
      rw [hown] at this
      apply c7
      have : sl.num = x.num := by simpa using this
      rw [this]
      exact List.mem_map.mpr ⟨x, hx, rfl⟩
  · refine fun g hex => (hg.bad g hex).mono rfl fun x hx hbx => ?_
    refine (List.mem_cons.mp (hw ▸ hx)).resolve_left fun h1 => ?_
    rw [h1, IsBad, ho] at hbx
    cases hbx.1

theorem good_pop_some {wf ex : Option Nat} {s : St} {sl : Slot} {rest : List Slot} {f c : Nat}
    (hg : Good wf ex s) (hw : s.wire = sl :: rest) (ho : sl.owner = some f) (hc : sl.resp = some c) :
    Good wf ex (asyncResponse (expDel { s with wire := rest } sl.num) f sl.num c) := by
  obtain ⟨hwd, c7⟩ := (hw ▸ hg.wired).pop
  have hsub : ∀ x ∈ rest, x ∈ s.wire := fun x hx => hw ▸ List.mem_cons_of_mem _ hx
  have hown := hg.own sl (by rw [hw]; simp)
  unfold OwnOK at hown
  rw [ho] at hown
  refine Wired.good hwd ?_ ?_ ?_
  · exact own_setFile f _ fun x hx => hg.own x (hsub x hx)
  · intro g hex
    show BadOK s.badSince (setFile (expDel { s with wire := rest } sl.num) f _).files rest g
    intro hp
    rcases hg.bad g hex hp with ⟨x, hx, hbx⟩ | h
    · rw [hw] at hx
      rcases List.mem_cons.mp hx with h1 | h1
      · -- the popped slot was the rejected write: its error is saved now
        right
        obtain ⟨hog, c', hc', hne⟩ := h1 ▸ hbx
        obtain rfl : f = g := Option.some.inj (ho.symm.trans hog)
        obtain rfl : c = c' := Option.some.inj (hc.symm.trans hc')
        show (getFile (asyncResponse _ f sl.num c) f).saved.isSome = true
        unfold asyncResponse
        rw [getFile_setFile_self (by exact hown.1)]
        simp [hne]
      · exact Or.inl ⟨x, h1, hbx⟩
    · have hb : BadOK s.badSince (expDel { s with wire := rest } sl.num).files rest g := fun _ => Or.inr h
      exact (badOK_setFile (s := expDel { s with wire := rest } sl.num) (f := f) (g := g) (wire := rest)
        (by intro x hx; simp only; split <;> simp [hx]) hb) hp
  · intro x hx g hxo
    have hold : x.num ∈ (getFile s g).reqs := hg.rq x (hsub x hx) g hxo
    have hne : x.num ≠ sl.num := by
      intro hc
      apply c7
      rw [← hc]
      exact List.mem_map.mpr ⟨x, hx, rfl⟩
    unfold asyncResponse
    rcases getFile_setFile (expDel { s with wire := rest } sl.num) f g
      (fun fs => { fs with reqs := fs.reqs.filter (· != sl.num), saved := if c = 0 then fs.saved else some c })
      with e | e <;> rw [e]
    · exact hold
    · exact List.mem_filter.mpr ⟨hold, by simpa using hne⟩

/-- slots of `w'` are slots of `w` up to their answer -/
def SubW (w' w : List Slot) : Prop := ∀ x' ∈ w', ∃ x ∈ w, x'.num = x.num ∧ x'.owner = x.owner

theorem noOwner_sub {w' w : List Slot} {g : Nat} (hs : SubW w' w) (h : ∀ sl ∈ w, sl.owner ≠ some g) :
    ∀ sl ∈ w', sl.owner ≠ some g := by
  intro x hx
  obtain ⟨y, hy, _, e2⟩ := hs x hx
  rw [e2]; exact h y hy

/-- the number of files and the request limit never change -/
def Sized (s s' : St) : Prop := s'.files.length = s.files.length ∧ s'.maxReq = s.maxReq

theorem Sized.refl (s : St) : Sized s s := ⟨rfl, rfl⟩
theorem sized_setFile (s : St) (f : Nat) (h : FileSt → FileSt) : Sized s (setFile s f h) :=
  ⟨files_setFile_length s f h, rfl⟩
theorem Sized.trans {a b c : St} (h1 : Sized a b) (h2 : Sized b c) : Sized a c :=
  ⟨h2.1.trans h1.1, h2.2.trans h1.2⟩

/-- What reading responses can make of a state: besides `Sized`, only files that own a request on the wire are
    touched, and the wire only loses slots (or has them answered).  A preorder: calls compose by `trans`. -/
structure Later (s s' : St) : Prop where
  sized : Sized s s'
  frame : ∀ g, (∀ sl ∈ s.wire, sl.owner ≠ some g) → getFile s' g = getFile s g
  sub : SubW s'.wire s.wire

theorem Later.refl (s : St) : Later s s := ⟨.refl s, fun _ _ => rfl, fun x hx => ⟨x, hx, rfl, rfl⟩⟩

theorem Later.trans {a b c : St} (h1 : Later a b) (h2 : Later b c) : Later a c := by
  refine ⟨h1.sized.trans h2.sized, fun g hg => ?_, fun x hx => ?_⟩
  · rw [h2.frame g (noOwner_sub h1.sub hg), h1.frame g hg]
  · obtain ⟨y, hy, e1, e2⟩ := h2.sub x hx
    obtain ⟨z, hz, e3, e4⟩ := h1.sub y hy
    exact ⟨z, hz, e1.trans e3, e2.trans e4⟩

theorem later_pop {s : St} {sl : Slot} {rest : List Slot} (hw : s.wire = sl :: rest) (num : Nat) :
    Later s (expDel { s with wire := rest } num) :=
  ⟨.refl s, fun _ _ => rfl, fun x hx => ⟨x, hw ▸ List.mem_cons_of_mem _ hx, rfl, rfl⟩⟩

theorem later_pop_some {s : St} {sl : Slot} {rest : List Slot} {f : Nat} (hw : s.wire = sl :: rest)
    (ho : sl.owner = some f) (c : Nat) :
    Later s (asyncResponse (expDel { s with wire := rest } sl.num) f sl.num c) :=
  ⟨sized_setFile ..,
   fun _ hg => getFile_setFile_ne fun hc => hg sl (hw ▸ List.mem_cons_self ..) (hc ▸ ho),
   (later_pop hw sl.num).sub⟩

theorem recvOne_some {s s1 : St} {sl : Slot} {c : Nat} (h : recvOne s = some (sl, c, s1)) :
    ∃ x rest, s.wire = x :: rest ∧
      ((x.resp = some c ∧ sl = x ∧ s1 = { s with wire := rest }) ∨
       (x.resp = none ∧ sl = (serveSlot s x).1 ∧ c = (serveSlot s x).1.resp.getD 0 ∧
        s1 = { (serveSlot s x).2 with wire := rest })) := by
  unfold recvOne at h
  cases hw : s.wire with
  | nil => simp [hw] at h
  | cons x rest =>
    simp only [hw] at h
    refine ⟨x, rest, rfl, ?_⟩
    cases hr : x.resp with
    | some c' =>
      simp only [hr] at h
      cases h
      exact .inl ⟨rfl, rfl, rfl⟩
    | none =>
      simp only [hr] at h
      cases h
      exact .inr ⟨rfl, rfl, rfl, rfl⟩

theorem recvOne_spec {wf ex : Option Nat} {s s1 : St} {sl : Slot} {c : Nat} (hg : Good wf ex s)
    (h : recvOne s = some (sl, c, s1)) :
    ∃ s0 rest, Good wf ex s0 ∧ s0.wire = sl :: rest ∧ sl.resp = some c ∧ s1 = { s0 with wire := rest } ∧
      Later s s0 ∧ s0.wire.length = s.wire.length ∧ nums s0.wire = nums s.wire := by
  obtain ⟨x, rest, hw, ⟨hr, rfl, rfl⟩ | ⟨hr, rfl, rfl, rfl⟩⟩ := recvOne_some h
  · exact ⟨s, rest, hg, hw, hr, rfl, .refl s, rfl, rfl⟩
  · have hgood := good_serve_at (pre := []) hg hw hr
    obtain ⟨c', nw, ns, dest, rejTot, badSince, heq, -⟩ := serveSlot_eq s x
    rw [heq] at hgood ⊢
    refine ⟨_, rest, hgood, rfl, rfl, rfl, ⟨.refl s, fun _ _ => rfl, fun y hy => ?_⟩, by simp [hw], by simp [nums, hw]⟩
    rw [hw]
    rcases List.mem_cons.mp hy with hy | hy
    · exact ⟨x, by simp, by rw [hy], by rw [hy]⟩
    · exact ⟨y, by simp [hy], rfl, rfl⟩

theorem recvOne_none {s : St} (h : recvOne s = none) : s.wire = [] := by
  unfold recvOne at h
  cases hw : s.wire with
  | nil => rfl
  | cons x rest =>
    simp only [hw] at h
    cases hr : x.resp <;> simp [hr] at h

structure ReadOK (ex : Option Nat) (s : St) (r : St × Res) : Prop where
  noHang : r.2 ≠ .hang
  good : Good none ex r.1
  later : Later s r.1
  shorter : r.1.wire.length < s.wire.length

theorem ReadOK.of_later {ex : Option Nat} {s s' : St} {r : St × Res} (h : ReadOK ex s' r) (hl : Later s s')
    (hlen : s'.wire.length ≤ s.wire.length) : ReadOK ex s r :=
  ⟨h.noHang, h.good, hl.trans h.later, Nat.lt_of_lt_of_le h.shorter hlen⟩

/-- what `_read_response(waitfor)` needs in order not to wait for ever: something on the wire (and one round of
    fuel) when it reads a single response; when it waits for `n`: the request `n` on the wire, sent without an owner,
    and fuel for every slot -/
def Awaited (wf : Option Nat) (s : St) (fuel : Nat) : Prop :=
  match wf with
  | none => s.wire ≠ [] ∧ 1 ≤ fuel
  | some n => n ∈ nums s.wire ∧ (∀ sl ∈ s.wire, sl.num = n → sl.owner = none) ∧ s.wire.length ≤ fuel

theorem Awaited.nonempty {wf : Option Nat} {s : St} {fuel : Nat} (h : Awaited wf s fuel) : s.wire ≠ [] := by
  cases wf with
  | none => exact h.1
  | some n => intro h0; have := h.1; rw [h0] at this; simp [nums] at this

theorem readResponse_good : ∀ (fuel : Nat) (wf ex : Option Nat) (s : St), Good wf ex s → Awaited wf s fuel →
    ReadOK ex s (readResponse fuel s wf) := by
  intro fuel
  induction fuel with
  | zero =>
    intro wf ex s hg ha
    exfalso
    cases wf with
    | none => have := ha.2; omega
    | some n => exact ha.nonempty (List.eq_nil_of_length_eq_zero (Nat.le_zero.mp ha.2.2))
  | succ fuel ih =>
    intro wf ex s hg ha
    unfold readResponse
    cases hr : recvOne s with
    | none => exact absurd (recvOne_none hr) ha.nonempty
    | some p =>
      obtain ⟨sl, c, s1⟩ := p
      simp only
      obtain ⟨s0, rest, hg0, hw0, hresp, rfl, hl0, hlen0, hnums0⟩ := recvOne_spec hg hr
      rw [expOwner_of_good hg0 hw0]
      simp only
      have hlen1 : rest.length < s.wire.length := by rw [← hlen0, hw0]; simp
      cases hown : sl.owner with
      | none =>
        -- a synchronous answer: it is the one we wait for
        obtain ⟨hwfeq, hgood⟩ := good_pop_none hg0 hw0 hown
        simp only [hwfeq, if_true]
        exact ⟨by split <;> simp, hgood, hl0.trans (later_pop hw0 _), hlen1⟩
      | some f =>
        have hgood := good_pop_some hg0 hw0 hown hresp
        have hl3 := hl0.trans (later_pop_some hw0 hown c)
        cases wf with
        | none => exact ⟨by simp, hgood, hl3, hlen1⟩
        | some n =>
          obtain ⟨hn1, hn2, hn3⟩ := ha
          -- the awaited slot has no owner, this one has
          have hnotwf : some n ≠ some sl.num := by
            intro hc
            obtain ⟨y, hy, e1, e2⟩ := hl0.sub sl (by rw [hw0]; simp)
            have := hn2 y hy (e1.symm.trans (Option.some.inj hc).symm)
            rw [← e2, hown] at this; cases this
          simp only [hnotwf, if_false]
          have hnrest : n ∈ nums rest := by
            have : n ∈ nums s0.wire := by rw [hnums0]; exact hn1
            rw [hw0] at this
            simp only [nums, List.map_cons, List.mem_cons] at this
            exact this.resolve_left fun h => hnotwf (by rw [h])
          refine (ih (some n) ex _ hgood ⟨hnrest, fun y hy hyn => ?_, ?_⟩).of_later hl3 (Nat.le_of_lt hlen1)
          · obtain ⟨z, hz, e1, e2⟩ := hl3.sub y hy
            rw [e2]; exact hn2 z hz (by rw [← e1]; exact hyn)
          · show rest.length ≤ fuel
            omega

/-! ## sending -/

theorem good_asyncRequest_sync {ex : Option Nat} {s : St} (hg : Good none ex s) (kind : Kind) :
    Good (some s.nextNum) ex (asyncRequest s none kind).1 ∧ (asyncRequest s none kind).2 = s.nextNum := by
  refine ⟨Wired.good (hg.wired.send none kind) ?_ ?_ ?_, rfl⟩
  · intro x hx
    rcases List.mem_append.mp hx with h | h
    · -- between calls every slot on the wire belongs to a file
      have := hg.own x h
      unfold OwnOK at this ⊢
      cases hxo : x.owner with
      | some f => rw [hxo] at this; exact this
      | none => rw [hxo] at this; cases this
    · rw [List.mem_singleton.mp h]; exact rfl
  · exact fun g hex => (hg.bad g hex).mono rfl fun x hx _ => List.mem_append_left _ hx
  · intro x hx f hxo
    rcases List.mem_append.mp hx with h | h
    · exact hg.rq x h f hxo
    · rw [List.mem_singleton.mp h] at hxo; cases hxo

/-- a pipelined write: allocate, register under the file, send, remember the number in `_reqs` -/
theorem good_pipelinedSend {ex : Option Nat} {s : St} {f off : Nat} {data : Bytes} (hg : Good none ex s)
    (hf : f < s.files.length) :
    Good none ex (setFile (asyncRequest s (some f) (.write f off data)).1 f
      (fun x => { x with reqs := x.reqs ++ [(asyncRequest s (some f) (.write f off data)).2] })) := by
  refine Wired.good (hg.wired.send (some f) (.write f off data)) ?_ ?_ ?_
  · refine own_setFile f _ fun x hx => ?_
    rcases List.mem_append.mp hx with h | h
    · exact hg.own x h
    · rw [List.mem_singleton.mp h]; exact ⟨hf, off, data, rfl⟩
  · exact fun g hex => badOK_setFile (s := (asyncRequest s (some f) (.write f off data)).1) (fun _ hx => hx)
      ((hg.bad g hex).mono rfl fun x hx _ => List.mem_append_left _ hx)
  · intro x hx g hxo
    replace hx : x ∈ s.wire ++ [⟨s.nextNum, some f, .write f off data, none⟩] := hx
    by_cases hfg : f = g
    · subst hfg
      rw [getFile_setFile_self (by exact hf)]
      show x.num ∈ (getFile s f).reqs ++ [s.nextNum]
      rcases List.mem_append.mp hx with h | h
      · exact List.mem_append_left _ (hg.rq x h f hxo)
      · rw [List.mem_singleton.mp h]; simp
    · rw [getFile_setFile_ne hfg]
      rcases List.mem_append.mp hx with h | h
      · exact hg.rq x h g hxo
      · rw [List.mem_singleton.mp h] at hxo
        exact absurd (Option.some.inj hxo) hfg

/-! ## `_request`, `_check_exception`, `_finish_responses` -/

theorem request_good {ex : Option Nat} {s : St} (hg : Good none ex s) (kind : Kind) :
    (request s kind).2 ≠ .hang ∧ Good none ex (request s kind).1 ∧ Later s (request s kind).1 := by
  unfold request
  obtain ⟨hg1, hnum⟩ := good_asyncRequest_sync hg kind
  simp only [hnum]
  have hmem : ∀ x ∈ (asyncRequest s none kind).1.wire, x ∈ s.wire ∨ x = ⟨s.nextNum, none, kind, none⟩ :=
    fun x hx => (List.mem_append.mp hx).imp id List.mem_singleton.mp
  have hr := readResponse_good (fuelOf (asyncRequest s none kind).1) (some s.nextNum) ex (asyncRequest s none kind).1 hg1
    ⟨by simp [nums, asyncRequest], fun x hx hxn => by
        rcases hmem x hx with h | h
        · exact absurd hxn (Nat.ne_of_lt (hg.lt x h))
        · rw [h],
      by unfold fuelOf; omega⟩
  refine ⟨hr.noHang, hr.good, hr.later.sized, fun g hgw => ?_, fun x hx => ?_⟩
  · refine hr.later.frame g fun x hx => ?_
    rcases hmem x hx with h | h
    · exact hgw x h
    · rw [h]; nofun
  · -- the request just sent has been answered and popped: it had no owner, and nobody waits any more
    obtain ⟨y, hy, e1, e2⟩ := hr.later.sub x hx
    rcases hmem y hy with h | h
    · exact ⟨y, h, e1, e2⟩
    · have := hr.good.own x hx
      unfold OwnOK at this
      rw [e2, h] at this
      cases this

theorem checkException_good {s : St} (f : Nat) (hg : Good none none s) :
    ((checkException s f).2 = .ok → (checkException s f).1 = s ∧ (getFile s f).saved = none) ∧
    (∀ c, (checkException s f).2 = .raised c → Good none (some f) (checkException s f).1) ∧
    (checkException s f).2 ≠ .hang ∧ Sized s (checkException s f).1 := by
  unfold checkException
  split
  · rename_i hsv
    exact ⟨fun _ => ⟨rfl, hsv⟩, nofun, nofun, .refl s⟩
  · rename_i c hsv
    refine ⟨nofun, fun c' _ => ?_, nofun, sized_setFile ..⟩
    refine Wired.good hg.wired ?_ ?_ ?_
    · exact own_setFile f _ hg.own
    · intro g hex hp
      have hgf : f ≠ g := fun hc => hex (hc ▸ rfl)
      refine (hg.bad g nofun hp).imp id fun h => ?_
      show (getFile (setFile s f _) g).saved.isSome = true
      rw [getFile_setFile_ne hgf]; exact h
    · intro x hx g hxo
      rcases getFile_setFile s f g (fun fs => { fs with saved := none }) with e | e <;> rw [e] <;> exact hg.rq x hx g hxo

theorem good_weaken {wf : Option Nat} {s : St} (f : Nat) (hg : Good wf none s) : Good wf (some f) s :=
  { hg with bad := fun g _ => hg.bad g nofun }

/-- a file update that leaves `_reqs` and the saved exception alone keeps the invariant -/
theorem good_setFile {wf ex : Option Nat} {s : St} (f : Nat) (h : FileSt → FileSt)
    (hh : ∀ x, (h x).reqs = x.reqs ∧ (h x).saved = x.saved) (hg : Good wf ex s) : Good wf ex (setFile s f h) := by
  refine Wired.good hg.wired ?_ ?_ ?_
  · exact own_setFile f h hg.own
  · exact fun g hex => badOK_setFile (fun x hx => (hh x).2 ▸ hx) (hg.bad g hex)
  · intro x hx g hxo
    rcases getFile_setFile s f g h with e | e <;> rw [e]
    · exact hg.rq x hx g hxo
    · rw [(hh _).1]; exact hg.rq x hx g hxo

theorem expects_of_owned {wf ex : Option Nat} {s : St} {f : Nat} (hg : Good wf ex s)
    (he : expectsFile s f = false) : ∀ sl ∈ s.wire, sl.owner ≠ some f := by
  intro x hx hc
  have hm := hg.w2e x hx
  rw [hc] at hm
  unfold expectsFile at he
  rw [Bool.eq_false_iff] at he
  apply he
  rw [List.any_eq_true]
  exact ⟨_, hm, by simp⟩

/-- How an operation on file `f` ends: it does not hang; if it returns, the invariant holds; if it raises, the
    invariant holds with `f`'s rejected-write clause suspended (the caller resets the ghost counter next). -/
def Outcome (f : Nat) (s : St) (r : St × Res) : Prop :=
  r.2 ≠ .hang ∧ (r.2 = .ok → Good none none r.1) ∧ (∀ c, r.2 = .raised c → Good none (some f) r.1) ∧ Sized s r.1

theorem Outcome.of_sized {f : Nat} {s s' : St} {r : St × Res} (h : Outcome f s' r) (hs : Sized s s') : Outcome f s r :=
  ⟨h.1, h.2.1, h.2.2.1, hs.trans h.2.2.2⟩

theorem outcome_ok {f : Nat} {s s' : St} (hg : Good none none s') (hs : Sized s s') : Outcome f s (s', .ok) :=
  ⟨nofun, fun _ => hg, nofun, hs⟩

theorem outcome_raised {f : Nat} {s s' : St} {c : Nat} (hg : Good none (some f) s') (hs : Sized s s') :
    Outcome f s (s', .raised c) :=
  ⟨nofun, nofun, fun _ _ => hg, hs⟩

theorem finishResponses_good : ∀ (fuel : Nat) (s : St) (f : Nat), Good none none s → s.wire.length < fuel →
    Outcome f s (finishResponses fuel s f) ∧
    ((finishResponses fuel s f).2 = .ok → expectsFile (finishResponses fuel s f).1 f = false) := by
  intro fuel
  induction fuel with
  | zero => intro s f _ h; omega
  | succ fuel ih =>
    intro s f hg hlen
    unfold finishResponses
    by_cases he : expectsFile s f = true
    · simp only [he, if_true]
      have hne : s.wire ≠ [] := by
        unfold expectsFile at he
        rw [List.any_eq_true] at he
        obtain ⟨e, hem, _⟩ := he
        have := hg.e2w e hem
        intro h0; rw [h0] at this; simp [nums] at this
      obtain ⟨r1, r2, r3, r7⟩ := readResponse_good 1 none none s hg ⟨hne, Nat.le_refl 1⟩
      generalize readResponse 1 s none = rr at r1 r2 r3 r7
      obtain ⟨s1, res1⟩ := rr
      simp only at r1 r2 r3 r7 ⊢
      cases res1 with
      | hang => exact absurd rfl r1
      | raised c => exact ⟨outcome_raised (good_weaken f r2) r3.sized, nofun⟩
      | ok =>
        simp only
        obtain ⟨k1, k2, k3, k4⟩ := checkException_good f r2
        generalize checkException s1 f = cc at k1 k2 k3 k4
        obtain ⟨s2, res2⟩ := cc
        simp only at k1 k2 k3 k4 ⊢
        cases res2 with
        | hang => exact absurd rfl k3
        | raised c => exact ⟨outcome_raised (k2 c rfl) (r3.sized.trans k4), nofun⟩
        | ok =>
          simp only
          obtain ⟨rfl, _⟩ := k1 rfl
          obtain ⟨i1, i2⟩ := ih s2 f r2 (by omega)
          exact ⟨i1.of_sized r3.sized, i2⟩
    · rw [if_neg he]
      exact ⟨outcome_ok hg (.refl s), fun _ => by simpa using he⟩

/-! ## operations -/

theorem outcome_of_request {s : St} (f : Nat) (hg : Good none none s) (kind : Kind) : Outcome f s (request s kind) := by
  obtain ⟨r1, r2, r3⟩ := request_good hg kind
  exact ⟨r1, fun _ => r2, fun _ _ => good_weaken f r2, r3.sized⟩

theorem writeChunk_good {s : St} {f : Nat} (chunk : Bytes) (hg : Good none none s) (hf : f < s.files.length) :
    Outcome f s (writeChunk s f chunk) := by
  unfold writeChunk
  simp only
  split
  · exact outcome_of_request f hg _
  · have hg2 := good_pipelinedSend (off := (getFile s f).pos) (data := chunk) hg hf
    have hs2 : Sized s (setFile (asyncRequest s (some f) (.write f (getFile s f).pos chunk)).1 f
        (fun x => { x with reqs := x.reqs ++ [(asyncRequest s (some f) (.write f (getFile s f).pos chunk)).2] })) :=
      sized_setFile ..
    split
    · exact (finishResponses_good _ _ f hg2 (by unfold fuelOf; omega)).1.of_sized hs2
    · exact outcome_ok hg2 hs2

theorem writeAll_good : ∀ (fuel : Nat) (s : St) (f : Nat) (data : Bytes), Good none none s → f < s.files.length →
    Outcome f s (writeAll fuel s f data) := by
  intro fuel
  induction fuel with
  | zero => intro s f data hg _; exact outcome_ok hg (.refl s)
  | succ fuel ih =>
    intro s f data hg hf
    unfold writeAll
    split
    · exact outcome_ok hg (.refl s)
    · simp only
      have hw := writeChunk_good (data.take (min data.length s.maxReq)) hg hf
      generalize writeChunk s f (data.take (min data.length s.maxReq)) = cc at hw
      obtain ⟨s1, r⟩ := cc
      obtain ⟨a, b, c, d⟩ := hw
      cases r with
      | hang => exact absurd rfl a
      | raised code => exact ⟨nofun, nofun, c, d⟩
      | ok =>
        simp only
        have hs2 : Sized s (setFile s1 f (fun x => { x with pos := x.pos + min data.length s.maxReq })) :=
          d.trans (sized_setFile ..)
        have hg2 := good_setFile f (fun x => { x with pos := x.pos + min data.length s.maxReq }) (fun x => ⟨rfl, rfl⟩) (b rfl)
        exact (ih _ f _ hg2 (by rw [hs2.1]; exact hf)).of_sized hs2

theorem resetBad_files (s : St) (f : Nat) (r : Res) : (resetBad s f r).files = s.files := by
  cases r <;> rfl

theorem good_resetBad {s : St} {f : Nat} (r : Res)
    (hok : r = .ok → Good none none s) (hr : ∀ c, r = .raised c → Good none (some f) s) (hh : r ≠ .hang) :
    Good none none (resetBad s f r) := by
  cases r with
  | ok => exact hok rfl
  | hang => exact absurd rfl hh
  | raised c =>
    have hg := hr c rfl
    refine { hg with bad := ?_ }
    intro g _
    show BadOK (s.badSince.modify f (fun _ => 0)) s.files s.wire g
    by_cases hfg : f = g
    · subst hfg
      intro hp
      rw [getD_modify_zero] at hp
      omega
    · intro hp
      rw [getD_modify_ne _ hfg] at hp
      exact hg.bad g (by intro hc; exact hfg (by simpa using hc)) hp

theorem drainCheck_good {s : St} (f : Nat) (hg : Good none none s) :
    Outcome f s (drainCheck s f) ∧
    ((drainCheck s f).2 = .ok → (∀ sl ∈ (drainCheck s f).1.wire, sl.owner ≠ some f) ∧
      (getFile (drainCheck s f).1 f).saved = none) := by
  unfold drainCheck
  obtain ⟨⟨r1, r2, r3, r4⟩, hexp⟩ := finishResponses_good (fuelOf s) s f hg (by unfold fuelOf; omega)
  generalize finishResponses (fuelOf s) s f = rr at r1 r2 r3 r4 hexp
  obtain ⟨a, res⟩ := rr
  cases res with
  | hang => exact absurd rfl r1
  | raised c => exact ⟨⟨nofun, nofun, r3, r4⟩, nofun⟩
  | ok =>
    simp only
    have hga := r2 rfl
    obtain ⟨k1, k2, k3, k4⟩ := checkException_good f hga
    refine ⟨⟨k3, fun h => (k1 h).1 ▸ hga, k2, r4.trans k4⟩, fun h => ?_⟩
    obtain ⟨e1, e2⟩ := k1 h
    rw [e1]
    exact ⟨expects_of_owned hga (hexp rfl), e2⟩

/-- the drain/check phase of `close()`: what `closeFile` does between marking the file closed and CMD_CLOSE -/
def closePhase (s : St) (f : Nat) : St × Res :=
  if (getFile s f).pipelined || (getFile s f).reqs.length > 0 then
    drainCheck (setFile s f (fun x => { x with closed := true })) f
  else checkException (setFile s f (fun x => { x with closed := true })) f

theorem closeFile_open {s : St} {f : Nat} (hc : (getFile s f).closed = false) :
    closeFile s f =
      if (closePhase s f).2 = .hang then ((closePhase s f).1, .hang)
      else if (request (closePhase s f).1 (.close f)).2 = .hang then ((request (closePhase s f).1 (.close f)).1, .hang)
      else ((request (closePhase s f).1 (.close f)).1, (closePhase s f).2) := by
  unfold closeFile closePhase drainCheck
  simp only [hc, Bool.false_eq_true, if_false]
  generalize (if ((getFile s f).pipelined || decide ((getFile s f).reqs.length > 0)) = true then _ else _) = p
  obtain ⟨s1, pending⟩ := p
  cases pending <;> simp only
  all_goals
    generalize request s1 (Kind.close f) = q
    obtain ⟨s2, r⟩ := q
    cases r <;> rfl

theorem closePhase_good {s : St} {f : Nat} (hg : Good none none s) (hf : f < s.files.length) :
    Outcome f s (closePhase s f) ∧
    ((closePhase s f).2 = .ok →
      (∀ sl ∈ (closePhase s f).1.wire, sl.owner ≠ some f) ∧ (getFile (closePhase s f).1 f).saved = none) := by
  have hg0 : Good none none (setFile s f (fun x => { x with closed := true })) :=
    good_setFile f _ (fun x => ⟨rfl, rfl⟩) hg
  have hs0 := sized_setFile s f (fun x => { x with closed := true })
  unfold closePhase
  split
  · obtain ⟨o, hclean⟩ := drainCheck_good f hg0
    exact ⟨o.of_sized hs0, hclean⟩
  · rename_i hcond
    obtain ⟨k1, k2, k3, k4⟩ := checkException_good f hg0
    refine ⟨⟨k3, fun h => by rw [(k1 h).1]; exact hg0, k2, hs0.trans k4⟩, fun h => ?_⟩
    obtain ⟨e1, e2⟩ := k1 h
    rw [e1]
    refine ⟨fun x hx hxo => ?_, e2⟩
    -- `_reqs` is empty, so no slot on the wire is the file's
    have := hg0.rq x hx f hxo
    rw [getFile_setFile_self hf] at this
    have hz : (getFile s f).reqs.length = 0 := by
      simp only [Bool.or_eq_true, decide_eq_true_eq, not_or] at hcond
      omega
    rw [List.eq_nil_of_length_eq_zero hz] at this
    cases this

theorem closeFile_good {s : St} {f : Nat} (hg : Good none none s) (hf : f < s.files.length) :
    Outcome f s (closeFile s f) ∧
    ((getFile s f).closed = false → (closeFile s f).2 = .ok →
      (closeFile s f).1.badSince.getD f 0 = 0 ∧ ∀ sl ∈ (closeFile s f).1.wire, sl.owner ≠ some f) := by
  by_cases hc : (getFile s f).closed = true
  · unfold closeFile
    simp only [hc, if_true]
    exact ⟨outcome_ok hg (.refl s), (fun h => by cases h)⟩
  · rw [closeFile_open (by simpa using hc)]
    obtain ⟨⟨o1, o2, o3, o4⟩, hclean⟩ := closePhase_good hg hf
    generalize closePhase s f = p at o1 o2 o3 o4 hclean ⊢
    obtain ⟨s1, pending⟩ := p
    simp only at o1 o2 o3 o4 hclean ⊢
    rw [if_neg o1]
    cases pending with
    | hang => exact absurd rfl o1
    | ok =>
      obtain ⟨hnone, hsaved⟩ := hclean rfl
      obtain ⟨q1, q2, q3⟩ := request_good (o2 rfl) (.close f)
      rw [if_neg q1]
      -- nothing of `f` is on the wire or saved, so the ghost counter must be zero
      have hfin : (request s1 (.close f)).1.badSince.getD f 0 = 0 := by
        refine Nat.eq_zero_of_not_pos fun h0 => ?_
        rcases q2.bad f nofun h0 with ⟨x, hx, hb⟩ | hsv
        · exact noOwner_sub q3.sub hnone x hx hb.1
        · replace hsv : (getFile (request s1 (.close f)).1 f).saved.isSome = true := hsv
          rw [q3.frame f hnone, hsaved] at hsv
          cases hsv
      exact ⟨outcome_ok q2 (o4.trans q3.sized), fun _ _ => ⟨hfin, noOwner_sub q3.sub hnone⟩⟩
    | raised code =>
      obtain ⟨q1, q2, q3⟩ := request_good (o3 code rfl) (.close f)
      rw [if_neg q1]
      exact ⟨outcome_raised q2 (o4.trans q3.sized), nofun⟩

/-! ## answers overtaking each other -/

theorem deliverFirst_perm (w : List Slot) (k : Nat) : (deliverFirst w k).Perm w := by
  unfold deliverFirst
  cases hk : w[k]? with
  | none => exact .refl _
  | some sl =>
    simp only
    split
    · obtain ⟨hlt, hget⟩ := List.getElem?_eq_some_iff.mp hk
      have hsplit : w.take k ++ sl :: w.drop (k + 1) = w := by
        rw [← hget, ← List.drop_eq_getElem_cons hlt, List.take_append_drop]
      exact List.perm_middle.symm.trans (.of_eq hsplit)
    · exact .refl _

theorem good_deliver {wf ex : Option Nat} {s : St} (k : Nat) (hg : Good wf ex s) :
    Good wf ex { s with wire := deliverFirst s.wire k } := by
  have hp := deliverFirst_perm s.wire k
  have hmem : ∀ x, x ∈ deliverFirst s.wire k → x ∈ s.wire := fun x hx => hp.mem_iff.mp hx
  exact Wired.good (hg.wired.of_perm (hp.map _)) (fun x hx => hg.own x (hmem x hx))
    (fun f hex => (hg.bad f hex).mono rfl fun x hx _ => hp.mem_iff.mpr hx)
    (fun x hx f hxo => hg.rq x (hmem x hx) f hxo)

/-! ## whole programs -/

def OpOK (nfiles : Nat) : Op → Prop
  | .write f _ => f < nfiles
  | .close f => f < nfiles
  | .setPipelined f _ => f < nfiles
  | _ => True

theorem stepOp_good {s : St} {op : Op} (hg : Good none none s) (hop : OpOK s.files.length op) :
    (stepOp s op).2 ≠ .hang ∧ Good none none (stepOp s op).1 ∧ Sized s (stepOp s op).1 := by
  have hrb : ∀ (t : St) (f : Nat) (r : Res), Sized t (resetBad t f r) := by
    intro t f r; cases r <;> exact .refl t
  -- the operations on a file end with `resetBad`
  have hfile : ∀ {f : Nat} {r : St × Res}, Outcome f s r →
      r.2 ≠ .hang ∧ Good none none (resetBad r.1 f r.2) ∧ Sized s (resetBad r.1 f r.2) :=
    fun ⟨a, b, c, d⟩ => ⟨a, good_resetBad _ b c a, d.trans (hrb _ _ _)⟩
  cases op with
  | write f data =>
    simp only [stepOp]
    split
    · exact ⟨nofun, hg, .refl s⟩
    · exact hfile (writeAll_good (data.length + 1) s f data hg hop)
  | sync =>
    obtain ⟨r1, r2, r3⟩ := request_good hg .sync
    exact ⟨r1, r2, r3.sized⟩
  | close f => exact hfile (closeFile_good hg hop).1
  | setPipelined f b =>
    simp only [stepOp]
    have hg0 : Good none none (setFile s f (fun x => { x with pipelined := b })) :=
      good_setFile f _ (fun x => ⟨rfl, rfl⟩) hg
    have hs0 := sized_setFile s f (fun x => { x with pipelined := b })
    split
    · exact hfile ((drainCheck_good f hg0).1.of_sized hs0)
    · exact ⟨nofun, hg0, hs0⟩
  | serve k =>
    obtain ⟨a, b, c⟩ := good_serveMany k hg
    exact ⟨nofun, a, by rw [stepOp]; exact ⟨by rw [b], c⟩⟩
  | deliver k => exact ⟨nofun, good_deliver k hg, .refl s⟩

theorem runOps_good : ∀ (ops : List Op) (s : St), Good none none s → (∀ op ∈ ops, OpOK s.files.length op) →
    (∀ r ∈ (runOps s ops).2, r ≠ .hang) ∧ Good none none (runOps s ops).1 ∧
    (runOps s ops).1.files.length = s.files.length := by
  intro ops
  induction ops with
  | nil => intro s hg _; exact ⟨by simp [runOps], hg, rfl⟩
  | cons op ops ih =>
    intro s hg hops
    simp only [runOps]
    obtain ⟨a, b, c, _⟩ := stepOp_good hg (hops op (List.mem_cons_self ..))
    obtain ⟨i1, i2, i3⟩ := ih (stepOp s op).1 b (by
      intro o ho; rw [c]; exact hops o (List.mem_cons_of_mem _ ho))
    refine ⟨?_, i2, by rw [i3, c]⟩
    intro r hr
    rcases List.mem_cons.mp hr with h | h
    · rw [h]; exact a
    · exact i1 r h

theorem init_good (maxReq nfiles : Nat) (wf sf : List Nat) : Good none none (init maxReq nfiles wf sf) := by
  refine Wired.good ⟨?_, ?_, ?_, ?_, ?_, ?_⟩ ?_ (fun f _ hp => ?bad) ?_
  -- no ghost counter is positive yet
  case bad =>
    simp only [init, List.getD_eq_getElem?_getD, List.getElem?_replicate] at hp
    split at hp <;> simp at hp
  all_goals simp [init, nums, keys]

theorem runOps_init_good (maxReq nfiles : Nat) (wf sf : List Nat) (ops : List Op) (hops : ∀ op ∈ ops, OpOK nfiles op) :
    (∀ r ∈ (runOps (init maxReq nfiles wf sf) ops).2, r ≠ .hang) ∧ Good none none (runOps (init maxReq nfiles wf sf) ops).1 ∧
    (runOps (init maxReq nfiles wf sf) ops).1.files.length = nfiles := by
  have hlen0 : (init maxReq nfiles wf sf).files.length = nfiles := by simp [init]
  obtain ⟨a, b, c⟩ := runOps_good ops _ (init_good maxReq nfiles wf sf) (by rw [hlen0]; exact hops)
  exact ⟨a, b, c.trans hlen0⟩

theorem runOps_append (s : St) (a b : List Op) :
    runOps s (a ++ b) = ((runOps (runOps s a).1 b).1, (runOps s a).2 ++ (runOps (runOps s a).1 b).2) := by
  induction a generalizing s with
  | nil => simp [runOps]
  | cons op a ih =>
    simp only [List.cons_append, runOps]
    rw [ih]

end PV.SftpClient
