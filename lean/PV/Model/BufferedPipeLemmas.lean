/-
  Helper lemmas for PV.Model.BufferedPipe: the regions as a transition relation (`Step`, one walk over `stepG`), and
  what is read off it: what a region does to log and buffer (`Effect`: the FIFO equations and the per-step theorems
  of C26), to the parked readers and to the attached event.
-/
import PV.Model.BufferedPipe
namespace PV.BufferedPipe
open PV

@[simp] theorem clearEvent_buf (s : St) : (clearEvent s).buf = s.buf := by
  unfold clearEvent; split <;> (try split) <;> rfl
@[simp] theorem clearEvent_log (s : St) : (clearEvent s).log = s.log := by
  unfold clearEvent; split <;> (try split) <;> rfl
@[simp] theorem clearEvent_closed (s : St) : (clearEvent s).closed = s.closed := by
  unfold clearEvent; split <;> (try split) <;> rfl
@[simp] theorem clearEvent_waiting (s : St) : (clearEvent s).waiting = s.waiting := by
  unfold clearEvent; split <;> (try split) <;> rfl
@[simp] theorem setEventFlag_buf (s : St) : (setEventFlag s).buf = s.buf := by
  unfold setEventFlag; split <;> rfl
@[simp] theorem setEventFlag_log (s : St) : (setEventFlag s).log = s.log := by
  unfold setEventFlag; split <;> rfl
@[simp] theorem setEventFlag_closed (s : St) : (setEventFlag s).closed = s.closed := by
  unfold setEventFlag; split <;> rfl
@[simp] theorem setEventFlag_waiting (s : St) : (setEventFlag s).waiting = s.waiting := by
  unfold setEventFlag; split <;> rfl

@[simp] theorem dropWaiter_buf (s : St) (t : Nat) : (dropWaiter s t).buf = s.buf := rfl
@[simp] theorem dropWaiter_log (s : St) (t : Nat) : (dropWaiter s t).log = s.log := rfl
@[simp] theorem dropWaiter_closed (s : St) (t : Nat) : (dropWaiter s t).closed = s.closed := rfl

@[simp] theorem takenOf_append (a b : List Ev) : takenOf (a ++ b) = takenOf a ++ takenOf b := by
  simp [takenOf]
@[simp] theorem fedOf_append (a b : List Ev) : fedOf (a ++ b) = fedOf a ++ fedOf b := by
  simp [fedOf]
@[simp] theorem takenOf_single (e : Ev) : takenOf [e] = e.taken := by simp [takenOf]
@[simp] theorem fedOf_single (e : Ev) : fedOf [e] = e.fedBytes := by simp [fedOf]

@[simp] theorem deliver_closed (s : St) (tid n : Nat) : (deliver s tid n).closed = s.closed := by
  unfold deliver; split <;> simp

@[simp] theorem deliver_waiting (s : St) (tid n : Nat) : (deliver s tid n).waiting = s.waiting := by
  unfold deliver; split <;> simp

theorem deliver_log (s : St) (tid n : Nat) :
    (deliver s tid n).log = s.log ++ [.got tid (.data (s.buf.take n))] := by
  unfold deliver
  split
  · rename_i h; simp [List.take_of_length_le h]
  · rfl

theorem deliver_buf (s : St) (tid n : Nat) : (deliver s tid n).buf = s.buf.drop n := by
  unfold deliver
  split
  · rename_i h; simp [List.drop_of_length_le h]
  · rfl

theorem findWaiter_mem (s : St) (tid : Nat) (w : Waiter) (h : findWaiter s tid = some w) : w ∈ s.waiting :=
  List.mem_of_find?_eq_some h

/-! ## the regions as a transition relation

`Step f s a s'` lists what a region can do, each case with its target written out, so that what it does to the log,
the buffer, the parked readers and the attached event is read off the target.  `step_sound` is the one walk over
`stepG`. -/

/-- `s0` is `s`, or `s` with the woken reader taken off the list -/
def Rest (s s0 : St) : Prop := s0 = s ∨ ∃ tid, s0 = dropWaiter s tid

inductive Step (f : Bool) (s : St) : Act → St → Prop
  /-- a call by a parked thread, the wake-up of a thread that is not parked -/
  | skip {a : Act} : a.fedBytes = [] → Step f s a s
  | feed (d : Bytes) :
      Step f s (.feed d)
        (let s1 := if d.isEmpty then s else setEventFlag s
         { s1 with buf := s1.buf ++ d, log := s1.log ++ [.fed d] })
  | eof {tid n : Nat} {t : Option Int} : s.buf = [] → s.closed = true →
      Step f s (.read tid n t) { s with log := s.log ++ [.got tid (.data [])] }
  | park {tid n : Nat} {t : Option Int} :
      Step f s (.read tid n t) { s with waiting := s.waiting ++ [{ tid := tid, n := n, timeout := t }] }
  | repark {w : Waiter} {tid : Nat} {e : Int} : w ∈ s.waiting →
      Step f s (.wake tid e)
        { s with waiting := (dropWaiter s w.tid).waiting ++ [{ w with timeout := w.timeout.map (· - e) }] }
  /-- PipeTimeout; with the deadline fix only from an empty open pipe -/
  | timeout {a : Act} {tid : Nat} {s0 : St} : a.fedBytes = [] → Rest s s0 →
      (f = true → s.buf = [] ∧ s.closed = false) → Step f s a (raiseTimeout s0 tid)
  /-- a read returns the first `n` bytes, from a pipe that holds data or is closed; `n` is the size the reader
  asked for, on entry or when it parked -/
  | deliver {a : Act} {tid n : Nat} {s0 : St} : a.fedBytes = [] → Rest s s0 →
      (s.buf ≠ [] ∨ s.closed = true) → (WaitersOk s → a.sizeOk → 1 ≤ n) → Step f s a (deliver s0 tid n)
  | empty (tid : Nat) :
      Step f s (.empty tid)
        (let s1 := clearEvent { s with buf := [] }
         { s1 with log := s1.log ++ [.emptied tid s.buf] })
  | close :
      Step f s .close
        (let s1 := setEventFlag { s with closed := true }
         { s1 with log := s1.log ++ [.closedEv] })
  | setEvent : Step f s .setEvent { s with event := some (s.closed || !s.buf.isEmpty) }

theorem step_sound (f : Bool) (s : St) (a : Act) : Step f s a (stepG f s a) := by
  cases a with
  | feed d => exact .feed d
  | read tid n t =>
    simp only [stepG]
    split
    · exact .skip rfl
    · split
      · next hb =>
        have hb : s.buf = [] := List.isEmpty_iff.1 hb
        split
        · next hc => exact .eof hb hc
        · next hc =>
          split
          · exact .timeout rfl (.inl rfl) fun _ => ⟨hb, Bool.eq_false_iff.2 hc⟩
          · exact .park
      · next hb => exact .deliver rfl (.inl rfl) (.inl fun e => hb (List.isEmpty_iff.2 e)) (fun _ ha => ha)
  | wake tid e =>
    simp only [stepG]
    split
    · exact .skip rfl
    · next w hw =>
      have hm := findWaiter_mem s tid w hw
      have hn : WaitersOk s → (Act.wake tid e).sizeOk → 1 ≤ w.n := fun hs _ => hs w hm
      simp only [wakeWith]
      split
      · split
        · next hd =>
          simp only [Bool.and_eq_true, Bool.or_eq_true, Bool.not_eq_true', List.isEmpty_eq_false_iff] at hd
          exact .deliver rfl (.inr ⟨_, rfl⟩) hd.2 hn
        · next hd => exact .timeout rfl (.inr ⟨_, rfl⟩) fun hf => by simpa [hf] using hd
      · split
        · exact .repark hm
        · next hd =>
          refine .deliver rfl (.inr ⟨_, rfl⟩) ?_ hn
          simp only [Bool.and_eq_true, Bool.not_eq_true', List.isEmpty_iff, not_and, Bool.not_eq_false] at hd
          exact (Classical.em (s.buf = [])).elim (fun h => .inr (hd h)) .inl
  | empty tid =>
    simp only [stepG]
    split
    · exact .skip rfl
    · exact .empty tid
  | close => exact .close
  | setEvent => exact .setEvent

theorem Rest.core {s s0 : St} (h : Rest s s0) :
    s0.buf = s.buf ∧ s0.log = s.log ∧ s0.closed = s.closed ∧ s0.event = s.event ∧
      ∀ w ∈ s0.waiting, w ∈ s.waiting := by
  rcases h with rfl | ⟨tid, rfl⟩
  · exact ⟨rfl, rfl, rfl, rfl, fun _ h => h⟩
  · exact ⟨rfl, rfl, rfl, rfl, fun _ h => (List.mem_filter.1 h).1⟩

/-! ## what one region does to the log and the buffer

Every region appends at most one event to the log; `Effect` lists the cases with what each says about the buffer. -/

inductive Effect (f : Bool) (s : St) (a : Act) (s' : St) : Prop
  /-- nothing handed out: a call by a parked thread, a reader that parks (again), `set_event` -/
  | silent (hf : a.fedBytes = []) (hl : s'.log = s.log) (hb : s'.buf = s.buf)
  | fed (d : Bytes) (ha : a = .feed d) (hl : s'.log = s.log ++ [.fed d]) (hb : s'.buf = s.buf ++ d)
  | data (tid n : Nat) (hf : a.fedBytes = []) (hl : s'.log = s.log ++ [.got tid (.data (s.buf.take n))])
      (hb : s'.buf = s.buf.drop n) (hd : s.buf ≠ [] ∨ s.closed = true) (hn : WaitersOk s → a.sizeOk → 1 ≤ n)
  | timeout (tid : Nat) (hf : a.fedBytes = []) (hl : s'.log = s.log ++ [.got tid .timeout]) (hb : s'.buf = s.buf)
      (he : f = true → s.buf = [] ∧ s.closed = false)
  | emptied (tid : Nat) (hf : a.fedBytes = []) (hl : s'.log = s.log ++ [.emptied tid s.buf]) (hb : s'.buf = [])
  | closed (hf : a.fedBytes = []) (hl : s'.log = s.log ++ [.closedEv]) (hb : s'.buf = s.buf)

theorem Step.effect {f : Bool} {s s' : St} {a : Act} (h : Step f s a s') : Effect f s a s' := by
  cases h with
  | skip hf => exact .silent hf rfl rfl
  | feed d => exact .fed d rfl (by simp [apply_ite St.log]) (by simp [apply_ite St.buf])
  | @eof tid n t hb hc =>
    exact .data tid n rfl (by rw [hb, List.take_nil]) (by rw [hb, List.drop_nil]) (.inr hc) (fun _ ha => ha)
  | park | repark _ | setEvent => exact .silent rfl rfl rfl
  | timeout hf hr he => exact .timeout _ hf (by rw [raiseTimeout, hr.core.2.1]) hr.core.1 he
  | deliver hf hr hd hn =>
    exact .data _ _ hf (by rw [deliver_log, hr.core.1, hr.core.2.1]) (by rw [deliver_buf, hr.core.1]) hd hn
  | empty tid => exact .emptied tid rfl (by simp) (by simp)
  | close => exact .closed rfl (by simp) (by simp)

theorem stepG_effect (f : Bool) (s : St) (a : Act) : Effect f s a (stepG f s a) := (step_sound f s a).effect

/-- one step: what was taken plus what is buffered grows exactly by what the step fed -/
theorem step_taken (f : Bool) (s : St) (a : Act) :
    takenOf (stepG f s a).log ++ (stepG f s a).buf = takenOf s.log ++ s.buf ++ a.fedBytes := by
  cases stepG_effect f s a with
  | fed d ha hl hb => rw [hl, hb, ha]; simp [Ev.taken, Act.fedBytes]
  | data tid n hf hl hb => rw [hl, hb, hf]; simp [Ev.taken]
  | emptied tid hf hl hb => rw [hl, hb, hf]; simp [Ev.taken]
  | silent hf hl hb => rw [hl, hb, hf]; simp
  | timeout tid hf hl hb => rw [hl, hb, hf]; simp [Ev.taken]
  | closed hf hl hb => rw [hl, hb, hf]; simp [Ev.taken]

theorem step_fed (f : Bool) (s : St) (a : Act) :
    fedOf (stepG f s a).log = fedOf s.log ++ a.fedBytes := by
  cases stepG_effect f s a with
  | fed d ha hl => rw [hl, ha]; simp [Ev.fedBytes, Act.fedBytes]
  | silent hf hl => rw [hl, hf]; simp
  | data tid n hf hl => rw [hl, hf]; simp [Ev.fedBytes]
  | emptied tid hf hl => rw [hl, hf]; simp [Ev.fedBytes]
  | timeout tid hf hl => rw [hl, hf]; simp [Ev.fedBytes]
  | closed hf hl => rw [hl, hf]; simp [Ev.fedBytes]

theorem run_eq_runG (s : St) (acts : List Act) : run s acts = runG true s acts := rfl

theorem runG_inv {f : Bool} {P : St → Prop} {Q : Act → Prop} (hstep : ∀ s a, P s → Q a → P (stepG f s a))
    (s : St) (acts : List Act) (h : P s) (hq : ∀ a ∈ acts, Q a) : P (runG f s acts) := by
  induction acts generalizing s with
  | nil => exact h
  | cons a as ih =>
    exact ih _ (hstep s a h (hq a List.mem_cons_self)) fun x hx => hq x (List.mem_cons_of_mem _ hx)

theorem runG_fed {f : Bool} {g : St → Bytes} (hstep : ∀ s a, g (stepG f s a) = g s ++ a.fedBytes)
    (s : St) (acts : List Act) : g (runG f s acts) = g s ++ fedOfActs acts := by
  induction acts generalizing s with
  | nil => simp [runG, fedOfActs]
  | cons a as ih =>
    have := ih (stepG f s a)
    simp only [runG, List.foldl_cons] at this ⊢
    rw [this, hstep]
    simp [fedOfActs, List.append_assoc]

theorem run_taken (f : Bool) (s : St) (acts : List Act) :
    takenOf (runG f s acts).log ++ (runG f s acts).buf = takenOf s.log ++ s.buf ++ fedOfActs acts :=
  runG_fed (g := fun s => takenOf s.log ++ s.buf) (step_taken f) s acts

theorem run_fed (f : Bool) (s : St) (acts : List Act) :
    fedOf (runG f s acts).log = fedOf s.log ++ fedOfActs acts :=
  runG_fed (g := fun s => fedOf s.log) (step_fed f) s acts

/-! ## waiters keep `n ≥ 1` -/

theorem WaitersOk.step {f : Bool} {s s' : St} {a : Act} (h : Step f s a s') (hs : WaitersOk s) (ha : a.sizeOk) :
    WaitersOk s' := by
  cases h with
  | skip | eof => exact hs
  | feed d => intro w hw; exact hs w (by simpa [apply_ite St.waiting] using hw)
  | park =>
    intro w hw
    rcases List.mem_append.1 hw with h | h
    · exact hs w h
    · rw [List.mem_singleton.1 h]; exact ha
  | repark hm =>
    intro w hw
    rcases List.mem_append.1 hw with h | h
    · exact hs w (List.mem_filter.1 h).1
    · rw [List.mem_singleton.1 h]; exact (hs _ hm :)    -- the reader parks again with the size it had
  | timeout _ hr => exact fun w hw => hs w (hr.core.2.2.2.2 w hw)
  | deliver _ hr => exact fun w hw => hs w (hr.core.2.2.2.2 w (by rwa [deliver_waiting] at hw))
  | empty | close | setEvent => intro w hw; exact hs w (by simpa using hw)

theorem waitersOk_run (f : Bool) (s : St) (acts : List Act) (hs : WaitersOk s) (ha : ∀ a ∈ acts, a.sizeOk) :
    WaitersOk (runG f s acts) :=
  runG_inv (fun s a h hq => h.step (step_sound f s a) hq) s acts hs ha

/-! ## the attached event mirrors "closed or data buffered" at every lock-free point -/

/-- `event.is_set()` ⇔ closed ∨ buffer non-empty (when an event is attached) -/
def EvOk (s : St) : Prop := ∀ b, s.event = some b → b = (s.closed || !s.buf.isEmpty)

theorem evOk_clearEvent_nil (s : St) (h : EvOk s) : EvOk (clearEvent { s with buf := [] }) := by
  intro b hb
  unfold clearEvent at hb
  cases he : s.event with
  | none => simp [he] at hb
  | some b0 =>
    have h0 := h b0 he
    simp only [he] at hb
    cases hc : s.closed with
    | true =>
      simp [hc] at hb
      subst hb
      simp [hc] at h0 ⊢
      exact h0
    | false =>
      simp [hc] at hb
      subst hb
      simp

theorem evOk_deliver (s : St) (tid n : Nat) (h : EvOk s) : EvOk (deliver s tid n) := by
  unfold deliver
  split
  · intro b hb
    exact evOk_clearEvent_nil s h b (by simpa using hb)
  · rename_i hlen
    intro b hb
    simp only [] at hb ⊢
    have h0 := h b hb
    have hne : s.buf ≠ [] := by intro e; simp [e] at hlen
    have hd : s.buf.drop n ≠ [] := by
      intro e
      have := congrArg List.length e
      simp at this
      omega
    have e1 : s.buf.isEmpty = false := by simpa using hne
    have e2 : (s.buf.drop n).isEmpty = false := by simpa using hd
    rw [h0, e1, e2]

theorem evOk_congr (s s' : St) (h : EvOk s) (he : s'.event = s.event) (hb : s'.buf = s.buf) (hc : s'.closed = s.closed) :
    EvOk s' := by
  intro b hb'
  rw [he] at hb'
  rw [hb, hc]
  exact h b hb'

theorem EvOk.step {f : Bool} {s s' : St} {a : Act} (h : Step f s a s') (hi : EvOk s) : EvOk s' := by
  cases h with
  | skip => exact hi
  | eof | park | repark => exact evOk_congr s _ hi rfl rfl rfl
  | feed d =>
    by_cases hd : d = []
    · subst hd; exact evOk_congr s _ hi rfl (List.append_nil _) rfl
    · have hd' : d.isEmpty = false := by simpa using hd
      simp only [hd', Bool.false_eq_true, if_false]
      intro b hb
      unfold setEventFlag at hb ⊢
      cases he : s.event with
      | none => simp [he] at hb
      | some b0 =>
        simp [he] at hb
        subst hb
        simp [hd]
  | timeout _ hr => exact evOk_congr s _ hi hr.core.2.2.2.1 hr.core.1 hr.core.2.2.1
  | deliver _ hr => exact evOk_deliver _ _ _ (evOk_congr s _ hi hr.core.2.2.2.1 hr.core.1 hr.core.2.2.1)
  | empty tid => exact fun b hb => evOk_clearEvent_nil s hi b (by simpa using hb)
  | close =>
    intro b hb
    unfold setEventFlag at hb
    cases he : s.event with
    | none => simp [he] at hb
    | some b0 =>
      simp [he] at hb
      subst hb
      simp [setEventFlag]
  | setEvent =>
    intro b hb
    simp at hb
    subst hb
    simp

theorem evOk_run (f : Bool) (s : St) (acts : List Act) (h : EvOk s) : EvOk (runG f s acts) :=
  runG_inv (Q := fun _ => True) (fun s a h _ => h.step (step_sound f s a)) s acts h fun _ _ => trivial

end PV.BufferedPipe
