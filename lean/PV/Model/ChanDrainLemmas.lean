/-
  Draining (C20, liveness skeleton): the actions by which the network, the reader and threads that already
  hold a message make progress — wire writes, deliveries, reads of buffered data, `_check_add_window` — strictly
  decrease a natural-number measure, so only finitely many of them can happen in a row; when none is enabled any
  more the system is quiescent (PV.Props.C20.stuck_impossible then says the sender's window is open).
-/
import PV.Model.ChanPairLemmas
namespace PV.ChanPair
open PV.Chan

/-! The weights.  Every drain action moves something one stage further along the way a byte takes, and each stage
weighs less than the one before: a message held by its writer `2 + 4n` > in flight `1 + 4n` > its `n` bytes buffered
at the receiver `4n` > read but not yet accounted `3` (a read takes at least one byte, and 4 > 3) > the
acknowledgement held `2` > in flight `1` > handled `0`.  The one action that makes messages out of nothing, the answer
to the peer's CLOSE (EOF and CLOSE: `2 + 2`), is paid from the `10` an open channel carries. -/

def wl (m : Msg) : Nat := 1 + 4 * m.dataLen          -- a message in flight
def wh (m : Msg) : Nat := 2 + 4 * m.dataLen          -- a message a thread still has to write

def whSum : List Msg → Nat
  | [] => 0
  | m :: ms => wh m + whSum ms

def wlSum : List Msg → Nat
  | [] => 0
  | m :: ms => wl m + wlSum ms

def heldW : TSt → Nat
  | .hold ms _ => whSum ms
  | .gotBytes _ => 3
  | _ => 0

/-- an open channel may still answer a CLOSE with two messages -/
def openW (closed : Bool) : Nat := bif closed then 0 else 10

@[simp] theorem openW_true : openW true = 0 := rfl
@[simp] theorem openW_false : openW false = 10 := rfl

/-- measure of one side -/
def muS (s : St) : Nat := sumBy heldW s.thr + 4 * (s.inBuf + s.errBuf) + openW s.closed

def mu (y : Sys) : Nat := muS y.a + muS y.b + wlSum y.ab + wlSum y.ba

theorem wlSum_append (a b : List Msg) : wlSum (a ++ b) = wlSum a + wlSum b := by
  induction a with
  | nil => simp [wlSum]
  | cons m ms ih => simp only [List.cons_append, wlSum, ih]; omega

theorem heldW_holdState (ms : List Msg) (k : Kont) : heldW (holdState ms k) = whSum ms :=
  holdState_of heldW whSum (fun _ _ => rfl) (fun _ => rfl) (fun _ _ => rfl) ms k

/-- drain actions of one side and when they are enabled -/
inductive SideDrain (s : St) : Act → Prop where
  | emit (t : Nat) (m : Msg) (ms : List Msg) (k : Kont) : s.thr[t]? = some (.hold (m :: ms) k) → SideDrain s (.emit t)
  | recv (t k : Nat) (err : Bool) : idleOf s t = true → 0 < k →
      0 < (if err then s.errBuf else s.inBuf) → SideDrain s (.recv t k err)
  | check (t n : Nat) : s.thr[t]? = some (.gotBytes n) → SideDrain s (.check t)

theorem muS_setThr {s s0 : St} {t : Nat} {old : TSt} (x : TSt) (hr : s.thr[t]? = some old) (hthr : s0.thr = s.thr) :
    muS (setThr s0 t x) + heldW old + 4 * (s.inBuf + s.errBuf) + openW s.closed =
      muS s + heldW x + 4 * (s0.inBuf + s0.errBuf) + openW s0.closed := by
  have := sumBy_set heldW s.thr t old x hr
  simp only [muS, setThr, hthr]; omega

/-- a local drain action: the side's measure plus the weight of what it wrote goes down by at least one -/
theorem sideDrain_decreases (cfg : Cfg) (s : St) (x : Act) (h : SideDrain s x) :
    muS (step cfg s x) + wlSum ((step cfg s x).wire.drop s.wire.length) + 1 ≤ muS s := by
  cases h with
  | emit t m ms k hr =>
    simp only [step, hr]
    rw [holdOrDone_eq]
    have := muS_setThr (s0 := { s with wire := s.wire ++ [m] }) (holdState ms k) hr rfl
    rw [heldW_holdState] at this
    simp only [setThr, heldW, whSum, wh, List.drop_left, wlSum, wl] at this ⊢
    omega
  | recv t k err hid hk hb =>
    obtain ⟨r, hr⟩ := idleOf_spec hid
    simp only [step, hid, if_true]
    cases err
    · simp only [Bool.false_eq_true, if_false] at hb ⊢
      rw [if_neg (by omega)]
      generalize hg : (if s.inBuf ≤ k then s.inBuf else k) = got
      have hg0 : 0 < got ∧ got ≤ s.inBuf := by rw [← hg]; split <;> omega
      have := muS_setThr (s0 := { s with inBuf := s.inBuf - got, consumed := s.consumed + got }) (.gotBytes got) hr rfl
      simp only [setThr, heldW, List.drop_length, wlSum] at this ⊢
      omega
    · simp only [if_true] at hb ⊢
      rw [if_neg (by omega)]
      generalize hg : (if s.errBuf ≤ k then s.errBuf else k) = got
      have hg0 : 0 < got ∧ got ≤ s.errBuf := by rw [← hg]; split <;> omega
      have := muS_setThr (s0 := { s with errBuf := s.errBuf - got, consumed := s.consumed + got }) (.gotBytes got) hr rfl
      simp only [setThr, heldW, List.drop_length, wlSum] at this ⊢
      omega
  | check t n hr =>
    simp only [step, hr]
    obtain ⟨v, e, _⟩ := checkAdd_credit s n
    rw [e]
    split
    · have := muS_setThr (s0 := { s with inSofar := v }) (.idle (.bytes n)) hr rfl
      simp only [setThr, heldW, List.drop_length, wlSum] at this ⊢
      omega
    · have := muS_setThr (s0 := { s with inSofar := v }) (.hold [.adjust (checkAdd s n).2] (.retBytes n)) hr rfl
      simp only [setThr, heldW, whSum, wh, Msg.dataLen, List.drop_length, wlSum] at this ⊢
      omega

/-- a delivery: the receiving side's measure grows by less than the weight of the delivered message -/
theorem handler_decreases (cfg : Cfg) (s : St) (t code : Nat) (m : Msg) (hid : idleOf s t = true)
    (hs : SofarInv s) :
    muS (step cfg s (handlerAct t code m)) + 1 ≤ muS s + wl m ∧
    (step cfg s (handlerAct t code m)).wire = s.wire := by
  refine ⟨?_, handler_wire cfg s t code m⟩
  obtain ⟨r, hr⟩ := idleOf_spec hid
  cases m with
  | data n => simp only [handlerAct, step, muS, wl, Msg.dataLen]; omega
  | adjust n => simp only [handlerAct, step, muS, wl, Msg.dataLen]; omega
  | eof => simp only [handlerAct, step]; split <;> (simp only [muS, wl, Msg.dataLen]; omega)
  | close =>
    simp only [handlerAct, step, hid, if_true]
    rw [holdOrDone_eq]
    rcases closeInternal_cases s with ⟨_, e⟩ | ⟨_, hc, _, e⟩ | ⟨_, hc, _, e⟩ <;> rw [e]
    · have := muS_setThr (s0 := { s with linked := false }) (holdState [] .retNone) hr rfl
      simp only [holdState, kontState, heldW, wl, Msg.dataLen] at this ⊢
      omega
    · have := muS_setThr (s0 := { setClosed s with linked := false }) (holdState [.close] .retNone) hr rfl
      simp only [setClosed, holdState, heldW, whSum, wh, wl, Msg.dataLen, hc, openW_true, openW_false] at this ⊢
      omega
    · have := muS_setThr (s0 := { setClosed { s with eofSent := true, raced := s.raced || s.thr.any TSt.holdsData }
          with linked := false })
        (holdState [.eof, .close] .retNone) hr rfl
      simp only [setClosed, holdState, heldW, whSum, wh, wl, Msg.dataLen, hc, openW_true, openW_false] at this ⊢
      omega
  | ext n =>
    simp only [handlerAct, step]
    split
    · split <;> (simp only [muS, wl, Msg.dataLen]; omega)
    · split
      · obtain ⟨v, e, hk⟩ := checkAdd_credit { s with recvd := s.recvd + n, discarded := s.discarded + n } n
        rw [e]
        split
        · simp only [muS, wl, Msg.dataLen]; omega
        · next hack =>
          -- an empty message cannot lift `in_window_sofar` over the threshold
          have hn : n ≠ 0 := by
            intro h0
            have := hk.le
            have hs : s.inSofar ≤ s.inThreshold := hs
            rcases hk.big with h | h
            · exact hack h
            · simp only [h0] at this h; omega
          have := muS_setThr (s0 := { s with recvd := s.recvd + n, discarded := s.discarded + n, inSofar := v })
            (.hold [.adjust (checkAdd { s with recvd := s.recvd + n, discarded := s.discarded + n } n).2] .retNone)
            hr rfl
          simp only [setThr, heldW, whSum, wh, wl, Msg.dataLen] at this ⊢
          omega
      · simp only [muS, wl, Msg.dataLen]; omega

/-- the drain actions of the two-sided system -/
inductive Drain (y : Sys) : PAct → Prop where
  | left (x : Act) : SideDrain y.a x → Drain y (.left x)
  | right (x : Act) : SideDrain y.b x → Drain y (.right x)
  | deliverAB (t code : Nat) (m : Msg) (rest : List Msg) : y.ab = m :: rest → idleOf y.b t = true →
      Drain y (.deliverAB t code)
  | deliverBA (t code : Nat) (m : Msg) (rest : List Msg) : y.ba = m :: rest → idleOf y.a t = true →
      Drain y (.deliverBA t code)

theorem sideDrain_local (s : St) (x : Act) (h : SideDrain s x) : localAct x = true := by
  cases h <;> rfl

theorem drain_decreases (y : Sys) (p : PAct) (h : Drain y p) (ha : SofarInv y.a) (hb : SofarInv y.b) :
    mu (pstep fixedCfg y p) < mu y := by
  cases h with
  | left x hx =>
    have := sideDrain_decreases fixedCfg y.a x hx
    simp only [pstep, sideDrain_local _ _ hx, if_true, sideStep, mu, wlSum_append] at *
    omega
  | right x hx =>
    have := sideDrain_decreases fixedCfg y.b x hx
    simp only [pstep, sideDrain_local _ _ hx, if_true, sideStep, mu, wlSum_append] at *
    omega
  | deliverAB t code m rest hab hid =>
    simp only [pstep, hab, hid, if_true, deliverTo, mu, wlSum]
    split
    · have := (handler_decreases fixedCfg y.b t code m hid hb).1
      omega
    · simp only [wl]; omega
  | deliverBA t code m rest hba hid =>
    simp only [pstep, hba, hid, if_true, deliverTo, mu, wlSum]
    split
    · have := (handler_decreases fixedCfg y.a t code m hid ha).1
      omega
    · simp only [wl]; omega

/-- a run made of enabled drain actions only -/
inductive DrainRun : Sys → List PAct → Prop where
  | nil (y : Sys) : DrainRun y []
  | cons (y : Sys) (p : PAct) (ps : List PAct) : Drain y p → DrainRun (pstep fixedCfg y p) ps → DrainRun y (p :: ps)

/-- only finitely many drain actions can happen in a row: at most `mu y` -/
theorem drainRun_bounded (y : Sys) (ps : List PAct) (h : DrainRun y ps) (ha : SofarInv y.a) (hb : SofarInv y.b) :
    ps.length + mu (prun fixedCfg y ps) ≤ mu y := by
  induction h with
  | nil y => simp [prun]
  | cons y p ps hd _ ih =>
    have hdec := drain_decreases y p hd ha hb
    obtain ⟨ha', hb'⟩ := pstep_sides fixedCfg (step_sofar fixedCfg) (step_sofar fixedCfg) y p ⟨ha, hb⟩
    have := ih ha' hb'
    simp only [List.length_cons]
    show ps.length + 1 + mu (prun fixedCfg (pstep fixedCfg y p) ps) ≤ mu y
    omega

end PV.ChanPair
