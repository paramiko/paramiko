/-
  Invariant of PV.Model.PipeAtomic and its preservation by every action (helper lemmas for PV.Props.C24).

  Every action of the model rewrites one buffer record, the pipe state or the channel holder's `todo` list and leaves
  the rest alone, and each conjunct of the invariant reads only a few of those.  So the invariant is carried across
  an action by `Inv.setB` (one buffer and the pipe state replaced) and by `CInv.pop` / `CInv.begin` (the `todo` list
  shortened / started); the actions themselves only say what they write.
-/
import PV.Model.PipeAtomic
namespace PV.PipeAtomic
open PV.Pipe

/-- the consistent pipe states: flag = s1 ∨ s2 ∨ forever, exactly one byte in the OS pipe iff the flag is up,
all pipe.py locks free -/
def canon (a b f : Bool) : PSt :=
  { pSet := a || b || f, pForever := f, os := if a || b || f then 1 else 0, s1 := a, s2 := b }

def PInv (p : PSt) : Prop := p = canon p.s1 p.s2 p.pForever

/-! ### what the (generated-equal) pipe.py code does when a call runs alone, on every consistent state

The interpreter is run on each of the eight consistent states. -/

theorem call_set_canon : ∀ a b f i : Bool, callAtomic fixedCode (canon a b f) (orObj i) .set
    = canon (if i then a else true) (if i then true else b) f := by decide

theorem call_clear_canon : ∀ a b f i : Bool, callAtomic fixedCode (canon a b f) (orObj i) .clear
    = canon (if i then a else false) (if i then false else b) f := by decide

theorem call_forever_canon : ∀ a b f : Bool, callAtomic fixedCode (canon a b f) .pipe .setForever = canon a b true := by
  decide

theorem canon_inv (a b f : Bool) : PInv (canon a b f) := rfl

theorem readable_canon : ∀ a b f : Bool, decide (0 < (canon a b f).os) = (a || b || f) := by decide

theorem call_set_spec (p : PSt) (hP : PInv p) (i : Bool) :
    callAtomic fixedCode p (orObj i) .set = canon (if i then p.s1 else true) (if i then true else p.s2) p.pForever := by
  rw [hP]; exact call_set_canon ..

theorem call_clear_spec (p : PSt) (hP : PInv p) (i : Bool) :
    callAtomic fixedCode p (orObj i) .clear = canon (if i then p.s1 else false) (if i then false else p.s2) p.pForever := by
  rw [hP]; exact call_clear_canon ..

theorem call_forever_spec (p : PSt) (hP : PInv p) :
    callAtomic fixedCode p .pipe .setForever = canon p.s1 p.s2 true := by
  rw [hP]; exact call_forever_canon ..

theorem call_event (p : PSt) (hP : PInv p) (i : Bool) :
    (let p' := callAtomic fixedCode p (orObj i) .set
     PInv p' ∧ sOf p' i = true ∧ sOf p' (!i) = sOf p (!i) ∧ p'.pForever = p.pForever) ∧
    (let p' := callAtomic fixedCode p (orObj i) .clear
     PInv p' ∧ sOf p' i = false ∧ sOf p' (!i) = sOf p (!i) ∧ p'.pForever = p.pForever) := by
  rw [call_set_spec p hP, call_clear_spec p hP]
  cases i <;> exact ⟨⟨rfl, rfl, rfl, rfl⟩, rfl, rfl, rfl, rfl⟩

/-! ### the invariant -/

/-- Buffer `b` (half `i` of the OrPipe) against the pipe state `p`.  With no event call pending, the half's flag in the
    pipe is exactly "event attached and the buffer readable" (`ev ∧ (ne ∨ cl)`) and nobody owns the buffer.  With a
    call pending, what is recorded is what made `bstart` issue it, i.e. what will make the flag right again once the
    call is performed (see `BInv.bstartB`). -/
def BInv (p : PSt) (i : Bool) (b : Buf) : Prop :=
  match b.pend with
  | .none => sOf p i = (b.ev && (b.ne || b.cl)) ∧ b.own = false
  | .feedSet => b.ev = true
  | .set => b.ev = true ∧ (b.ne || b.cl) = true
  | .clear => b.ev = true ∧ b.ne = false ∧ b.cl = false

/-- The channel against its two buffers and its list of macros still to run: what EOF / close and attaching a pipe
    have to bring about in each buffer (`cl`, `ev`) has happened or is still on `todo`; conversely a buffer is closed,
    the pipe set for ever, or either of these queued on `todo`, only after EOF / close. -/
structure CInv (a : ASt) : Prop where
  closing1 : (a.eof || a.chClosed) = true → a.b1.cl = true ∨ Macro.closeB false ∈ a.todo
  closing2 : (a.eof || a.chClosed) = true → a.b2.cl = true ∨ Macro.closeB true ∈ a.todo
  attach1 : a.hasPipe = true → a.b1.ev = true ∨ Macro.setEvB false ∈ a.todo
  attach2 : a.hasPipe = true → a.b2.ev = true ∨ Macro.setEvB true ∈ a.todo
  cl1 : a.b1.cl = true → (a.eof || a.chClosed) = true
  cl2 : a.b2.cl = true → (a.eof || a.chClosed) = true
  fe : a.p.pForever = true → (a.eof || a.chClosed) = true
  todoClose1 : Macro.closeB false ∈ a.todo → (a.eof || a.chClosed) = true
  todoClose2 : Macro.closeB true ∈ a.todo → (a.eof || a.chClosed) = true
  todoForever : Macro.forever ∈ a.todo → (a.eof || a.chClosed) = true

structure Inv (a : ASt) : Prop where
  pipe : PInv a.p
  buf1 : BInv a.p false a.b1
  buf2 : BInv a.p true a.b2
  chan : CInv a

theorem inv_init : Inv {} :=
  ⟨rfl, ⟨rfl, rfl⟩, ⟨rfl, rfl⟩, by constructor <;> simp⟩

theorem inv_quiescent (a : ASt) (h : Inv a) (hq : quiescent a = true) (hp : a.hasPipe = true) :
    readable a = shouldBeReadable a := by
  obtain ⟨hP, h1, h2, hc⟩ := h
  simp only [quiescent, Bool.and_eq_true, beq_iff_eq, List.isEmpty_iff] at hq
  obtain ⟨⟨hq1, hq2⟩, hq3⟩ := hq
  -- nothing is left to do, so both events are attached and both buffers are closed iff EOF/close was seen
  have e1 : a.b1.ev = true := (hc.attach1 hp).resolve_right (by simp [hq3])
  have e2 : a.b2.ev = true := (hc.attach2 hp).resolve_right (by simp [hq3])
  have c1 : a.b1.cl = (a.eof || a.chClosed) :=
    Bool.eq_iff_iff.2 ⟨hc.cl1, fun d => (hc.closing1 d).resolve_right (by simp [hq3])⟩
  have c2 : a.b2.cl = (a.eof || a.chClosed) :=
    Bool.eq_iff_iff.2 ⟨hc.cl2, fun d => (hc.closing2 d).resolve_right (by simp [hq3])⟩
  simp only [BInv, hq1, hq2, e1, e2, c1, c2, Bool.true_and] at h1 h2
  have key : ∀ n1 n2 d f : Bool, (f = true → d = true) → ((n1 || d) || (n2 || d) || f) = (n1 || n2 || d) := by decide
  unfold readable shouldBeReadable
  rw [hP, readable_canon, Bool.or_assoc _ a.eof, show a.p.s1 = _ from h1.1, show a.p.s2 = _ from h2.1]
  exact key _ _ _ _ hc.fe

/-! ### frame lemmas -/

theorem setB_getB (a : ASt) (i : Bool) : setB a i (getB a i) = a := by cases i <;> rfl

theorem Inv.buf {a : ASt} (h : Inv a) (i : Bool) : BInv a.p i (getB a i) := by
  cases i
  · exact h.buf1
  · exact h.buf2

theorem BInv.congr {p p' : PSt} {i : Bool} {b : Buf} (h : BInv p i b) (hs : sOf p' i = sOf p i) : BInv p' i b := by
  unfold BInv
  rw [hs]
  exact h

theorem CInv.setB {a : ASt} (h : CInv a) (i : Bool) (b' : Buf)
    (hcl : (getB a i).cl = true → b'.cl = true) (hev : (getB a i).ev = true → b'.ev = true)
    (hd : b'.cl = true → (getB a i).cl = true ∨ (a.eof || a.chClosed) = true) : CInv (setB a i b') := by
  cases i
  · exact { h with
      closing1 := fun d => (h.closing1 d).imp_left hcl
      attach1 := fun d => (h.attach1 d).imp_left hev
      cl1 := fun c => (hd c).elim h.cl1 id }
  · exact { h with
      closing2 := fun d => (h.closing2 d).imp_left hcl
      attach2 := fun d => (h.attach2 d).imp_left hev
      cl2 := fun c => (hd c).elim h.cl2 id }

theorem Inv.setB {a : ASt} (h : Inv a) (i : Bool) (p' : PSt) (b' : Buf)
    (hP : PInv p') (ho : sOf p' (!i) = sOf a.p (!i)) (hf : p'.pForever = a.p.pForever) (hb : BInv p' i b')
    (hcl : (getB a i).cl = true → b'.cl = true) (hev : (getB a i).ev = true → b'.ev = true)
    (hd : b'.cl = true → (getB a i).cl = true ∨ (a.eof || a.chClosed) = true) :
    Inv (setB { a with p := p' } i b') := by
  have hb' := (h.buf (!i)).congr ho
  have hc : CInv { a with p := p' } := { h.chan with fe := fun f => h.chan.fe (hf ▸ f) }
  have hc' := hc.setB i b' hcl hev hd
  cases i
  · exact ⟨hP, hb, hb', hc'⟩
  · exact ⟨hP, hb', hb, hc'⟩

/-! ### buffer operations -/

/-- What `bstart` does to the buffer record it works on.  `bstart` itself rebuilds the whole `ASt` in every branch;
    stated on the `Buf` alone (`bstart_eq`), the invariants need to look at one record only. -/
def bstartB (g : Bool) (b : Buf) (op : BOp) (own : Bool) : Buf :=
  match op with
  | .feed => if b.ev then { b with pend := .feedSet, own := own } else { b with ne := true }
  | .feedEmpty => if g then b else if b.ev then { b with pend := .set, own := own } else b
  | .drain =>
    if b.ne then
      if b.ev && !b.cl then { b with ne := false, pend := .clear, own := own } else { b with ne := false }
    else b
  | .empty => if b.ev && !b.cl then { b with ne := false, pend := .clear, own := own } else { b with ne := false }
  | .close => if b.ev then { b with cl := true, pend := .set, own := own } else { b with cl := true }
  | .setEv =>
    if b.cl || b.ne then { b with ev := true, pend := .set, own := own }
    else { b with ev := true, pend := .clear, own := own }

theorem bstart_eq (g : Bool) (a : ASt) (i : Bool) (op : BOp) (own : Bool) :
    bstart g a i op own = setB a i (bstartB g (getB a i) op own) := by
  cases op <;> simp only [bstart, bstartB, apply_ite (setB a i), setB_getB]

theorem bstartB_cl (g : Bool) (b : Buf) (op : BOp) (own : Bool) :
    (bstartB g b op own).cl = (b.cl || op == .close) := by
  cases op <;> simp [bstartB, apply_ite Buf.cl]

theorem bstartB_ev (g : Bool) (b : Buf) (op : BOp) (own : Bool) :
    (bstartB g b op own).ev = (b.ev || op == .setEv) := by
  cases op <;> simp [bstartB, apply_ite Buf.ev]

/-- the call that `bstart` leaves pending is the one that brings the OrPipe half back to `ev ∧ (ne ∨ cl)` -/
theorem BInv.bstartB {p : PSt} {i : Bool} {b : Buf} (h : BInv p i b) (hp : b.pend = .none) (op : BOp) (own : Bool) :
    BInv p i (bstartB true b op own) := by
  obtain ⟨ne, cl, ev, _, _⟩ := b
  cases hp
  obtain ⟨hs, rfl⟩ : sOf p i = (ev && (ne || cl)) ∧ _ := h
  cases op <;> simp only [PipeAtomic.bstartB]
  case feed => cases ev <;> simp_all [BInv]
  case feedEmpty => exact ⟨hs, rfl⟩
  case drain => cases ne <;> cases ev <;> cases cl <;> simp_all [BInv]
  case empty => cases ev <;> cases cl <;> simp_all [BInv]
  case close => cases ev <;> simp_all [BInv]
  case setEv => cases ne <;> cases cl <;> simp_all [BInv]

/-- first region of a buffer operation.  `close` needs the channel to be in EOF/closed state (it is only called
from there), which keeps `cl → eof ∨ closed`. -/
theorem inv_bstart (a : ASt) (i : Bool) (op : BOp) (own : Bool) (h : Inv a) (hp : (getB a i).pend = .none)
    (hcl : op = .close → (a.eof || a.chClosed) = true) : Inv (bstart true a i op own) := by
  rw [bstart_eq]
  refine h.setB i a.p _ h.pipe rfl rfl ((h.buf i).bstartB hp op own) ?_ ?_ ?_
  · intro c; rw [bstartB_cl, c]; rfl
  · intro e; rw [bstartB_ev, e]; rfl
  · intro c
    rw [bstartB_cl, Bool.or_eq_true, beq_iff_eq] at c
    exact c.imp_right hcl

theorem inv_bfinish (a : ASt) (i : Bool) (h : Inv a) : Inv (bfinish a i) := by
  have hb := h.buf i
  obtain ⟨⟨hP1, hs1, ho1, hf1⟩, hP0, hs0, ho0, hf0⟩ := call_event a.p h.pipe i
  unfold BInv at hb
  simp only [bfinish]
  split <;> rename_i hpend <;> simp only [hpend] at hb
  · exact h
  · exact h.setB i _ _ hP1 ho1 hf1 ⟨by rw [hs1, hb]; rfl, rfl⟩ id id .inl
  · exact h.setB i _ _ hP1 ho1 hf1 ⟨by rw [hs1, hb.1, hb.2]; rfl, rfl⟩ id id .inl
  · exact h.setB i _ _ hP0 ho0 hf0 ⟨by rw [hs0, hb.1, hb.2.1, hb.2.2]; rfl, rfl⟩ id id .inl

/-! ### the channel-lock holder -/

/-- what a macro at the head of `todo` must have achieved before it is dropped -/
def Macro.doneOn (a : ASt) : Macro → Prop
  | .closeB i => (getB a i).cl = true
  | .setEvB i => (getB a i).ev = true
  | _ => True

theorem CInv.pop {a : ASt} (h : CInv a) {x : Macro} {rest : List Macro} (ht : a.todo = x :: rest)
    (hx : x.doneOn a) : CInv { a with todo := rest } :=
  have keep {m : Macro} {P : Prop} (hm : P ∨ m ∈ a.todo) (hd : m = x → P) : P ∨ m ∈ rest :=
    hm.elim .inl fun hm => (List.mem_cons.1 (ht ▸ hm)).imp_left hd
  have tail {m : Macro} (hm : m ∈ rest) : m ∈ a.todo := ht ▸ List.mem_cons_of_mem x hm
  { h with
    closing1 := fun d => keep (h.closing1 d) fun e => by subst e; exact hx
    closing2 := fun d => keep (h.closing2 d) fun e => by subst e; exact hx
    attach1 := fun d => keep (h.attach1 d) fun e => by subst e; exact hx
    attach2 := fun d => keep (h.attach2 d) fun e => by subst e; exact hx
    todoClose1 := fun m => h.todoClose1 (tail m)
    todoClose2 := fun m => h.todoClose2 (tail m)
    todoForever := fun m => h.todoForever (tail m) }

/-- `CInv` says nothing of `feedB` macros -/
theorem CInv.push_feed {a : ASt} (h : CInv a) (i : Bool) : CInv { a with todo := .feedB i :: a.todo } :=
  have tail {m : Macro} (hm : m ∈ Macro.feedB i :: a.todo) (hne : m ≠ .feedB i) : m ∈ a.todo :=
    (List.mem_cons.1 hm).resolve_left hne
  { h with
    closing1 := fun d => (h.closing1 d).imp_right (List.mem_cons_of_mem _)
    closing2 := fun d => (h.closing2 d).imp_right (List.mem_cons_of_mem _)
    attach1 := fun d => (h.attach1 d).imp_right (List.mem_cons_of_mem _)
    attach2 := fun d => (h.attach2 d).imp_right (List.mem_cons_of_mem _)
    todoClose1 := fun m => h.todoClose1 (tail m nofun)
    todoClose2 := fun m => h.todoClose2 (tail m nofun)
    todoForever := fun m => h.todoForever (tail m nofun) }

theorem bstart_todo (g : Bool) (a : ASt) (rest : List Macro) (i : Bool) (op : BOp) (own : Bool) :
    bstart g { a with todo := rest } i op own = { bstart g a i op own with todo := rest } := by
  rw [bstart_eq, bstart_eq]; cases i <;> rfl

theorem inv_cmacro_bstart {a : ASt} (h : Inv a) {x : Macro} {rest : List Macro} (ht : a.todo = x :: rest)
    (i : Bool) (op : BOp) (hp : (getB a i).pend = .none) (hcl : op = .close → (a.eof || a.chClosed) = true)
    (hx : x.doneOn (bstart true a i op true)) : Inv (bstart true { a with todo := rest } i op true) := by
  have hb := inv_bstart a i op true h hp hcl
  rw [bstart_todo]
  exact ⟨hb.pipe, hb.buf1, hb.buf2, hb.chan.pop (by rw [bstart_eq]; cases i <;> exact ht) hx⟩

theorem getB_bstart_self (g : Bool) (a : ASt) (i : Bool) (op : BOp) (own : Bool) :
    getB (bstart g a i op own) i = bstartB g (getB a i) op own := by
  rw [bstart_eq]; cases i <;> rfl

theorem inv_cmacro (a a' : ASt) (h : Inv a) (hm : cmacro a = some a') : Inv a' := by
  unfold cmacro at hm
  cases ht : a.todo with
  | nil => rw [ht] at hm; cases hm; exact h
  | cons x rest =>
    rw [ht] at hm
    cases x with
    | forever =>
      cases hm
      have hd : (a.eof || a.chClosed) = true := h.chan.todoForever (by rw [ht]; exact List.mem_cons_self ..)
      rw [call_forever_spec a.p h.pipe]
      exact ⟨rfl, h.buf1, h.buf2, { h.chan.pop ht trivial with fe := fun _ => hd }⟩
    | closeB i =>
      obtain ⟨hp, he⟩ := Option.ite_none_right_eq_some.1 hm
      cases he
      have hd : (a.eof || a.chClosed) = true := by
        cases i
        · exact h.chan.todoClose1 (by rw [ht]; exact List.mem_cons_self ..)
        · exact h.chan.todoClose2 (by rw [ht]; exact List.mem_cons_self ..)
      refine inv_cmacro_bstart h ht i .close (beq_iff_eq.1 hp) (fun _ => hd) ?_
      show (getB _ i).cl = true
      rw [getB_bstart_self, bstartB_cl]; exact Bool.or_true _
    | setEvB i =>
      obtain ⟨hp, he⟩ := Option.ite_none_right_eq_some.1 hm
      cases he
      refine inv_cmacro_bstart h ht i .setEv (beq_iff_eq.1 hp) nofun ?_
      show (getB _ i).ev = true
      rw [getB_bstart_self, bstartB_ev]; exact Bool.or_true _
    | feedB i =>
      obtain ⟨hp, he⟩ := Option.ite_none_right_eq_some.1 hm
      cases he
      exact inv_cmacro_bstart h ht i .feed (beq_iff_eq.1 hp) nofun trivial
    | emptyMove =>
      obtain ⟨hp, he⟩ := Option.ite_none_right_eq_some.1 hm
      cases he
      have hb := inv_cmacro_bstart h ht true .empty (beq_iff_eq.1 hp) nofun trivial
      -- if the stderr buffer held data, a `feedB` for stdout goes in front of what is left to do
      split
      · rw [bstart_todo] at hb ⊢
        exact ⟨hb.pipe, hb.buf1, hb.buf2, hb.chan.push_feed false⟩
      · exact hb

theorem inv_cadvance (fuel : Nat) (a : ASt) (h : Inv a) : Inv (cadvance fuel a) := by
  induction fuel generalizing a with
  | zero => exact h
  | succ n ih =>
    simp only [cadvance]
    split
    · split
      · rename_i a' hm
        exact ih a' (inv_cmacro a a' h hm)
      · exact h
    · exact h

/-- the channel lock is taken with nothing left to do: `todo` and the channel flags are set afresh.  Flags only go
up; a flag that goes up brings the macros that will establish what it promises; close/forever macros come only
with EOF/close. -/
theorem CInv.begin {a : ASt} (h : CInv a) (ht : a.todo = []) (e c hp k : Bool) (t : List Macro)
    (hd : (a.eof || a.chClosed) = true → (e || c) = true)
    (hclose : (e || c) = true → (a.eof || a.chClosed) = true ∨ (Macro.closeB false ∈ t ∧ Macro.closeB true ∈ t))
    (hattach : hp = true → a.hasPipe = true ∨ (Macro.setEvB false ∈ t ∧ Macro.setEvB true ∈ t))
    (htodo : (e || c) = true ∨ ∀ m ∈ t, (∀ i, m ≠ .closeB i) ∧ m ≠ .forever) :
    CInv { a with eof := e, chClosed := c, hasPipe := hp, combine := k, todo := t } :=
  have old {P : Prop} {m : Macro} (hm : P ∨ m ∈ a.todo) : P := hm.resolve_right (ht ▸ List.not_mem_nil)
  { closing1 := fun d => (hclose d).elim (fun d => .inl (old (h.closing1 d))) (fun m => .inr m.1)
    closing2 := fun d => (hclose d).elim (fun d => .inl (old (h.closing2 d))) (fun m => .inr m.2)
    attach1 := fun d => (hattach d).elim (fun d => .inl (old (h.attach1 d))) (fun m => .inr m.1)
    attach2 := fun d => (hattach d).elim (fun d => .inl (old (h.attach2 d))) (fun m => .inr m.2)
    cl1 := fun x => hd (h.cl1 x)
    cl2 := fun x => hd (h.cl2 x)
    fe := fun x => hd (h.fe x)
    todoClose1 := fun m => htodo.elim id fun n => absurd rfl ((n _ m).1 false)
    todoClose2 := fun m => htodo.elim id fun n => absurd rfl ((n _ m).1 true)
    todoForever := fun m => htodo.elim id fun n => absurd rfl (n _ m).2 }

theorem inv_cbegin (a : ASt) (op : COp) (h : Inv a) (hf : chFree a = true) : Inv (cbegin a op) := by
  have ht : a.todo = [] := by
    simp only [chFree, Bool.and_eq_true, List.isEmpty_iff] at hf
    exact hf.1
  have hc := h.chan
  cases op <;> simp only [cbegin]
  case eof =>
    split
    · exact h
    · exact ⟨h.pipe, h.buf1, h.buf2, hc.begin ht true a.chClosed a.hasPipe a.combine _
        (fun _ => rfl) (fun _ => .inr ⟨by simp, by simp⟩) .inl (.inl rfl)⟩
  case close =>
    split
    · exact h
    · exact ⟨h.pipe, h.buf1, h.buf2, hc.begin ht a.eof true a.hasPipe a.combine _
        (fun _ => Bool.or_true _) (fun _ => .inr ⟨by simp, by simp⟩) .inl (.inl (Bool.or_true _))⟩
  case fileno =>
    split
    · exact h
    · exact ⟨h.pipe, h.buf1, h.buf2, hc.begin ht a.eof a.chClosed true a.combine _
        id .inl (fun _ => .inr ⟨by simp, by simp⟩) (.inr (by simp))⟩
  case combineOn =>
    split
    · exact h
    · exact ⟨h.pipe, h.buf1, h.buf2, hc.begin ht a.eof a.chClosed a.hasPipe true _ id .inl .inl (.inr (by simp))⟩
  case combineOff =>
    exact ⟨h.pipe, h.buf1, h.buf2, hc.begin ht a.eof a.chClosed a.hasPipe false _ id .inl .inl
      (.inr (by simp [ht]))⟩
  case feedErr =>
    exact ⟨h.pipe, h.buf1, h.buf2, hc.begin ht a.eof a.chClosed a.hasPipe a.combine _ id .inl .inl (.inr (by simp))⟩

theorem inv_step (a : ASt) (act : Act) (h : Inv a) : Inv (step true a act) := by
  cases act with
  | bstart i op =>
    simp only [step]
    split
    · rename_i hc
      simp only [Bool.and_eq_true, beq_iff_eq] at hc
      exact inv_bstart a i op false h hc.1 (by intro e; rw [e] at hc; simp [clientOp] at hc)
    · exact h
  | bstep i =>
    simp only [step]
    split
    · exact inv_cadvance 4 _ (inv_bfinish a i h)
    · exact inv_bfinish a i h
  | cstart op =>
    simp only [step]
    split
    · rename_i hf
      exact inv_cadvance 4 _ (inv_cbegin a op h hf)
    · exact h
  | cstep =>
    simp only [step, cstepA]
    split
    · split
      · rename_i a' hm
        exact inv_cadvance 4 a' (inv_cmacro a a' h hm)
      · exact h
    · exact inv_cadvance 4 a h

theorem inv_run (a : ASt) (acts : List Act) (h : Inv a) : Inv (run true a acts) := by
  induction acts generalizing a with
  | nil => exact h
  | cons x xs ih => exact ih _ (inv_step a x h)

end PV.PipeAtomic
