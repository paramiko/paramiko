/-
  The `sendall` loop of PV.Model.ChanWindow (used by C25): the bookkeeping every thread inside a `sendall` call
  carries — remainder + bytes handed over = length given — is an invariant of the channel.
-/
import PV.Model.ChanWindowLemmas
namespace PV.Chan

def TSt.loopOK : TSt → Prop
  | .idle (.doneAll h tot) => h = tot
  | .idle _ => True
  | .waiting want _ _ (some l) => want = l.rem ∧ 0 < l.rem ∧ l.rem + l.handed = l.total
  | .waiting _ _ _ none => True
  | .hold ms (.loop l ext n) => ms = [mkData ext n] ∧ 0 < n ∧ n ≤ l.rem ∧ l.rem + l.handed = l.total
  | .hold _ _ => True
  | .gotBytes _ => True
  | .loopHead l _ => 0 < l.rem ∧ l.rem + l.handed = l.total

def LoopInv (s : St) : Prop := ∀ x ∈ s.thr, x.loopOK

theorem loopinv_setThr {s s0 : St} (t : Nat) {x : TSt} (hthr : s0.thr = s.thr) (hx : x.loopOK) (hi : LoopInv s) :
    LoopInv (setThr s0 t x) := by
  intro y hy
  simp only [setThr, hthr] at hy
  rcases List.mem_or_eq_of_mem_set hy with h | rfl
  · exact hi y h
  · exact hx

theorem SendOut.loopOK {cfg : Cfg} {s : St} {want : Nat} {ext : Bool} {lp : Option Loop} {x : TSt} {d : Nat}
    (h : SendOut cfg s want ext lp x d)
    (hl : ∀ l, lp = some l → want = l.rem ∧ 0 < l.rem ∧ l.rem + l.handed = l.total) : x.loopOK := by
  cases h with
  | sockClosed | timeout | zeroPlain _ => trivial
  | wait left _ =>
    cases lp with
    | none => trivial
    | some l => exact hl l rfl
  | zeroLoopOld l e _ => exact (hl l e).2
  | granted n h1 h2 =>
    cases lp with
    | none => trivial
    | some l =>
      obtain ⟨e, _, h4⟩ := hl l rfl
      exact ⟨rfl, h1, by omega, h4⟩

theorem holdState_loopOK (ms : List Msg) {k : Kont} (h : ∀ l e n, k ≠ .loop l e n) : (holdState ms k).loopOK := by
  cases k with
  | loop l e n => exact absurd rfl (h l e n)
  | _ => cases ms <;> trivial

theorem LoopInv.step {cfg : Cfg} {s s' : St} {a : Act} (h : Step cfg s a s') (hi : LoopInv s) : LoopInv s' := by
  cases h with
  | sends hc hr ho =>
    have hok := hi _ (List.mem_of_getElem? hr)
    refine loopinv_setThr _ rfl (ho.loopOK ?_) hi
    intro l hl
    cases hc with
    | send => cases hl
    | iter => cases hl; exact ⟨rfl, hok⟩
    | wake => subst hl; exact hok
  | quiet hr hq =>
    refine loopinv_setThr _ rfl ?_ hi
    cases hq with
    | sendall hn => exact ⟨Nat.pos_of_ne_zero hn, rfl⟩
    | _ => trivial
  | recv hr _ => exact loopinv_setThr _ rfl trivial hi
  | emit hr =>
    have hok := hi _ (List.mem_of_getElem? hr)
    refine loopinv_setThr _ rfl ?_ hi
    rename_i t m ms k
    cases k with
    | loop l e n =>
      -- the one data message of this iteration has gone out: back to the loop head, or done
      obtain ⟨h1, h2, h3, h4⟩ := hok
      cases (List.cons.inj h1).2
      simp only [holdState, kontState]
      split
      · show l.handed + n = l.total; omega
      · exact ⟨by simp only; omega, by simp only; omega⟩
    | _ => exact holdState_loopOK _ (by intro l e n h; cases h)
  | emitFail hr => exact loopinv_setThr _ rfl trivial hi
  | check hr _ => exact loopinv_setThr _ rfl (holdState_loopOK _ (by intro l e n h; cases h)) hi
  | creditAck hr _ _ => exact loopinv_setThr _ rfl trivial hi
  | ends _ hr he _ =>
    obtain ⟨c, e, r, p, rfl⟩ := he.shape
    exact loopinv_setThr _ rfl (holdState_loopOK _ (by intro l e n h; cases h)) hi
  | _ => exact hi

theorem run_loopinv (cfg : Cfg) (s : St) (as : List Act) (hi : LoopInv s) : LoopInv (run cfg s as) :=
  run_inv cfg (fun s a => LoopInv.step (step_sound cfg s a)) s as hi

end PV.Chan
