/-
  PV.Model.BufFileULemmas — universal-newline `readline()` over the short-read stream: the returned line and
  what is left are functions of the pending bytes and the `_at_trailing_cr` flag only (not of the chunking).
-/
import PV.Model.BufFileU
import PV.Model.BufFileLemmas
namespace PV.BufFile
open PV

/-- a pending bare CR makes a leading LF disappear (it is the second half of a CRLF) -/
def eff (atCR : Bool) (p : Bytes) : Bytes := if atCR && p.head? == some LF then p.tail else p

/-- first universal-newline line of `p` (terminator translated to LF) and the rest -/
def uSplit (p : Bytes) : Bytes × Bytes :=
  match p.findIdx? isNL with
  | none => (p, [])
  | some i => (p.take i ++ [LF],
               if p[i]? == some CR && p[i + 1]? == some LF then p.drop (i + 2) else p.drop (i + 1))

/-- bytes a U-mode caller has still to receive, as lines will see them -/
def upend (u : UF Chan) : Bytes := eff u.atCR (u.f.rbuf ++ u.f.s.inp)

theorem recordNL_f {σ : Type} (u : UF σ) (x : Bytes) : (recordNL u x).f = u.f := by
  unfold recordNL; split <;> rfl

theorem recordNL_atCR {σ : Type} (u : UF σ) (x : Bytes) : (recordNL u x).atCR = u.atCR := by
  unfold recordNL; split <;> rfl

/-- the "edge case" block: the effective pending bytes do not change, the file part does not change, and a flag
    that is still set afterwards means nothing has been accumulated yet -/
theorem resolveCR_spec (u : UF Chan) (line inp : Bytes) :
    eff (resolveCR u line).1.atCR ((resolveCR u line).2 ++ inp) = eff u.atCR (line ++ inp) ∧
    (resolveCR u line).1.f = u.f ∧
    ((resolveCR u line).1.atCR = true → (resolveCR u line).2 = []) := by
  unfold resolveCR
  by_cases ha : u.atCR = true
  · cases line with
    | nil => simp [ha]
    | cons b t =>
      by_cases hb : b = LF
      · subst hb
        simp [ha, eff, recordNL_f]
      · have hb' : ¬ (some b == some LF) = true := by simpa using hb
        simp [ha, eff, hb, recordNL_f]
  · have ha' : u.atCR = false := by simpa using ha
    simp [ha']

theorem eff_false (p : Bytes) : eff false p = p := by simp [eff]

theorem eff_nil (b : Bool) : eff b [] = [] := by cases b <;> simp [eff]

theorem uSplit_nil : uSplit [] = ([], []) := by simp [uSplit]

theorem uSplit_noNL (p : Bytes) (h : p.any isNL = false) : uSplit p = (p, []) := by
  have : p.findIdx? isNL = none := by
    rw [List.findIdx?_eq_none_iff]
    intro x hx
    cases hxx : isNL x with
    | false => rfl
    | true =>
      have : p.any isNL = true := List.any_eq_true.2 ⟨x, hx, hxx⟩
      rw [h] at this; cases this
  simp [uSplit, this]

/-- `findIdx?` of the accumulated line decides the split of line ++ inp -/
theorem findIdx_append_some (line inp : Bytes) (p : Nat) (h : line.findIdx? isNL = some p) :
    (line ++ inp).findIdx? isNL = some p ∧ p < line.length := by
  have hp : p < line.length := by
    obtain ⟨hlt, _⟩ := List.findIdx?_eq_some_iff_getElem.1 h
    exact hlt
  rw [List.findIdx?_append, h]
  exact ⟨rfl, hp⟩

theorem split_at_findIdx (line : Bytes) (p : Nat) (hp : line.findIdx? isNL = some p) :
    ∃ pre c post, line = pre ++ c :: post ∧ pre.length = p := by
  obtain ⟨hlt, _, _⟩ := List.findIdx?_eq_some_iff_getElem.1 hp
  refine ⟨line.take p, line[p], line.drop (p + 1), ?_, by rw [List.length_take]; omega⟩
  rw [← List.drop_eq_getElem_cons hlt, List.take_append_drop]

theorem uSplit_at (pre rest : Bytes) (c : UInt8) (h : (pre ++ c :: rest).findIdx? isNL = some pre.length) :
    uSplit (pre ++ c :: rest)
      = (pre ++ [LF], if c == CR && rest.head? == some LF then rest.tail else rest) := by
  have e1 : (pre ++ c :: rest)[pre.length + 1]? = rest.head? := by
    rw [List.getElem?_append_right (by omega)]
    cases rest <;> simp
  have e3 : ∀ k, (pre ++ c :: rest).drop (pre.length + k) = (c :: rest).drop k := List.drop_length_add_append
  simp [uSplit, h, e1, e3]

/-- The code after the loop, for a `break` on the first line end `c` of the accumulated line (flag already
    cleared, no truncation), seen from a stream that still holds `inp`.  Three situations: `c` is the last byte
    fetched (a CR then sets `_at_trailing_cr`, and `eff` makes a following LF disappear); `c` starts a CRLF that
    is already there (both bytes go); anything else (only `c` goes). -/
theorem ruPost_brk_at (u : UF Chan) (pre post : Bytes) (c : UInt8) (ha : u.atCR = false)
    (hp : (pre ++ c :: post).findIdx? isNL = some pre.length) (inp : Bytes) :
    let r := ruPost (σ := Chan) (u, .ok (.brk (pre ++ c :: post) false))
    r.2 = .ok (pre ++ [LF]) ∧
    eff r.1.atCR (r.1.f.rbuf ++ inp)
      = (if c == CR && (post ++ inp).head? == some LF then (post ++ inp).tail else post ++ inp) ∧
    r.1.f.s = u.f.s ∧ r.1.f.wbuf = u.f.wbuf ∧ cfg r.1.f = cfg u.f ∧ r.1.f.closed = u.f.closed := by
  intro r
  have e2 : (pre ++ c :: post).take pre.length = pre := List.take_left
  have e3 : ∀ k, (pre ++ c :: post).drop (pre.length + k) = (c :: post).drop k := List.drop_length_add_append
  have e4 : (pre ++ c :: post).drop pre.length = c :: post := List.drop_left
  have k1 : pre.length + 1 - pre.length = 1 := by omega
  have k2 : pre.length + 2 - pre.length = 2 := by omega
  cases post with
  | nil =>
    by_cases hc : c = CR
    · subst hc
      simp [r, ruPost, hp, e2, e3, e4, k1, eff, cfg]
    · simp [r, ruPost, hp, e2, e3, e4, k1, eff, cfg, hc, recordNL_f, recordNL_atCR, ha]
  | cons b t =>
    by_cases hcr : c = CR ∧ b = LF
    · obtain ⟨rfl, rfl⟩ := hcr
      simp [r, ruPost, hp, e2, e3, e4, k2, eff, cfg, recordNL_f, recordNL_atCR, ha]
    · have : (c == CR && b == LF) = false := by simpa using hcr
      simp [r, ruPost, hp, e2, e3, e4, k1, eff, cfg, recordNL_f, recordNL_atCR, ha, this]

theorem ruPost_brk (u : UF Chan) (line : Bytes) (p : Nat) (ha : u.atCR = false)
    (hp : line.findIdx? isNL = some p) :
    let r := ruPost (σ := Chan) (u, .ok (.brk line false))
    r.2 = .ok (uSplit (line ++ u.f.s.inp)).1 ∧
    eff r.1.atCR (r.1.f.rbuf ++ r.1.f.s.inp) = (uSplit (line ++ u.f.s.inp)).2 ∧
    wside r.1.f = wside u.f ∧ cfg r.1.f = cfg u.f ∧ r.1.f.closed = u.f.closed := by
  obtain ⟨pre, c, post, rfl, rfl⟩ := split_at_findIdx line p hp
  have hs := uSplit_at pre (post ++ u.f.s.inp) c
    (by simpa using (findIdx_append_some _ u.f.s.inp _ hp).1)
  rw [List.append_assoc, List.cons_append, hs]
  obtain ⟨h1, h2, h3, h4, h5, h6⟩ := ruPost_brk_at u pre post c ha hp u.f.s.inp
  exact ⟨h1, by rw [h3]; exact h2, by simp only [wside, h3, h4], h5, h6⟩

/-- U-mode `readline()` from the point where `line` has been accumulated -/
def ruFrom (fuel : Nat) (u : UF Chan) (line : Bytes) : URes Chan Bytes :=
  ruPost (ruLoop chanOps none fuel u line)

theorem ruFrom_chan (fuel : Nat) (u : UF Chan) (line : Bytes)
    (hb : 1 ≤ u.f.bufsize) (hf : u.f.s.inp.length < fuel) :
    (ruFrom fuel u line).2 = .ok (uSplit (eff u.atCR (line ++ u.f.s.inp))).1 ∧
    eff (ruFrom fuel u line).1.atCR ((ruFrom fuel u line).1.f.rbuf ++ (ruFrom fuel u line).1.f.s.inp)
      = (uSplit (eff u.atCR (line ++ u.f.s.inp))).2 ∧
    wside (ruFrom fuel u line).1.f = wside u.f ∧ cfg (ruFrom fuel u line).1.f = cfg u.f ∧
    (ruFrom fuel u line).1.f.closed = u.f.closed := by
  induction fuel generalizing u line with
  | zero => omega
  | succ fuel ih =>
    obtain ⟨e1, e2, e3⟩ := resolveCR_spec u line u.f.s.inp
    unfold ruFrom
    rw [ruLoop]
    -- the "edge case" block leaves the file part alone: `u1` is `u` with another flag
    rcases hres : resolveCR u line with ⟨⟨f1, a1, n1⟩, l1⟩
    rw [hres] at e1 e2 e3
    simp only at e1 e2 e3
    subst e2
    simp only
    have hlim : rlLimit none u.f.bufsize l1 = some u.f.bufsize := rfl
    rw [hlim, ← e1]
    simp only
    by_cases hany : l1.any isNL = true
    · rw [if_pos hany]
      have hne : l1 ≠ [] := by intro h; rw [h] at hany; simp at hany
      have ha1 : a1 = false := by
        cases a1 with
        | false => rfl
        | true => exact absurd (e3 rfl) hne
      subst ha1
      obtain ⟨p, hp⟩ : ∃ p, l1.findIdx? isNL = some p := by
        have := List.findIdx?_isSome (xs := l1) (p := isNL)
        rw [hany] at this
        exact Option.isSome_iff_exists.1 this
      rw [eff_false]
      exact ruPost_brk ⟨u.f, false, n1⟩ l1 p rfl hp
    · have hany' : l1.any isNL = false := by simpa using hany
      rw [if_neg hany]
      simp only [chanOps_read]
      have hk := grant_pos u.f.s.rg u.f.bufsize hb
      by_cases he : (u.f.s.inp.take (grant u.f.s.rg u.f.bufsize)).isEmpty = true
      · have hnil := (take_isEmpty_iff _ _ hk).1 he
        rw [if_pos he]
        simp only [ruPost]
        rw [hnil, List.append_nil]
        have hE : uSplit (eff a1 l1) = (l1, []) := by
          cases a1 with
          | false => rw [eff_false]; exact uSplit_noNL l1 hany'
          | true => rw [e3 rfl, eff_nil]; exact uSplit_nil
        rw [hE]
        refine ⟨rfl, ?_, by simp [wside], rfl, trivial⟩
        simp only [List.nil_append, List.drop_nil]; exact eff_nil _
      · rw [if_neg he]
        have hne : u.f.s.inp ≠ [] := fun h => he ((take_isEmpty_iff _ _ hk).2 h)
        have hlen : 0 < u.f.s.inp.length := List.length_pos_iff.2 hne
        have := ih
          ⟨{ u.f with
              s := { u.f.s with inp := u.f.s.inp.drop (grant u.f.s.rg u.f.bufsize), rg := u.f.s.rg.tail },
              realpos := u.f.realpos + (u.f.s.inp.take (grant u.f.s.rg u.f.bufsize)).length }, a1, n1⟩
          (l1 ++ u.f.s.inp.take (grant u.f.s.rg u.f.bufsize)) hb
          (by simp only [List.length_drop]; omega)
        unfold ruFrom at this
        simp only [List.append_assoc, List.take_append_drop] at this
        obtain ⟨i1, i2, i3, i4, i5⟩ := this
        exact ⟨i1, i2, by rw [i3]; simp [wside], i4, i5⟩

theorem readlineU_chan (u : UF Chan) (hb : 1 ≤ u.f.bufsize) (hc : u.f.closed = false) (hr : u.f.rd = true) :
    (readlineU chanOps u none).2 = .ok (uSplit (upend u)).1 ∧
    upend (readlineU chanOps u none).1 = (uSplit (upend u)).2 ∧
    wside (readlineU chanOps u none).1.f = wside u.f ∧ cfg (readlineU chanOps u none).1.f = cfg u.f ∧
    (readlineU chanOps u none).1.f.closed = u.f.closed := by
  unfold readlineU
  rw [if_neg (by simp [hc]), if_neg (by simp [hr]), syncForRead_chan]
  simp only [chanOps_bound]
  exact ruFrom_chan (u.f.s.inp.length + 1) u u.f.rbuf hb (by omega)

theorem uSplit_fst_nil (p : Bytes) : (uSplit p).1 = [] ↔ p = [] := by
  unfold uSplit
  cases h : p.findIdx? isNL with
  | none => simp
  | some i =>
    simp only [List.append_eq_nil_iff, List.cons_ne_self, and_false, false_iff]
    intro hp; subst hp; simp at h

theorem uSplit_snd_length (p : Bytes) (hp : p ≠ []) : (uSplit p).2.length < p.length := by
  have hl : 0 < p.length := List.length_pos_iff.2 hp
  unfold uSplit
  cases h : p.findIdx? isNL with
  | none => simpa using hl
  | some i =>
    obtain ⟨hlt, _⟩ := List.findIdx?_eq_some_iff_getElem.1 h
    simp only
    split <;> simp only [List.length_drop] <;> omega

/-- the universal-newline lines of `p` (`k` bounds their number) -/
def uLines : Nat → Bytes → List Bytes
  | 0, _ => []
  | k+1, p => if p.isEmpty then [] else (uSplit p).1 :: uLines k (uSplit p).2

theorem iterLoopU_chan (fuel : Nat) (u : UF Chan) (acc : List Bytes)
    (hb : 1 ≤ u.f.bufsize) (hc : u.f.closed = false) (hr : u.f.rd = true) (hf : (upend u).length < fuel) :
    (iterLoopU chanOps fuel u acc).2 = .ok (acc ++ uLines fuel (upend u)) ∧
    upend (iterLoopU chanOps fuel u acc).1 = [] ∧
    wside (iterLoopU chanOps fuel u acc).1.f = wside u.f ∧ cfg (iterLoopU chanOps fuel u acc).1.f = cfg u.f ∧
    (iterLoopU chanOps fuel u acc).1.f.closed = u.f.closed := by
  induction fuel generalizing u acc with
  | zero => omega
  | succ fuel ih =>
    rw [iterLoopU]
    unfold nextU
    obtain ⟨h1, h2, h3, h4, h5⟩ := readlineU_chan u hb hc hr
    rcases hres : readlineU chanOps u none with ⟨u1, r1⟩
    rw [hres] at h1 h2 h3 h4 h5
    simp only at h1 h2 h3 h4 h5
    subst h1
    simp only
    by_cases he : (uSplit (upend u)).1.isEmpty = true
    · have hnil : (uSplit (upend u)).1 = [] := by simpa using he
      have hp : upend u = [] := (uSplit_fst_nil _).1 hnil
      simp only [he, if_true]
      refine ⟨?_, ?_, h3, h4, h5⟩
      · simp [uLines, hp]
      · rw [h2, hp]; simp [uSplit]
    · simp only [he, Bool.false_eq_true, if_false]
      have hne : upend u ≠ [] := by
        intro h; apply he; rw [h]; simp [uSplit]
      have hlt := uSplit_snd_length (upend u) hne
      obtain ⟨i1, i2, i3, i4, i5⟩ := ih u1 (acc ++ [(uSplit (upend u)).1])
        (by rw [show u1.f.bufsize = u.f.bufsize from congrArg Cfg.bufsize h4]; exact hb) (h5.trans hc)
        ((show u1.f.rd = u.f.rd from congrArg Cfg.rd h4).trans hr) (by rw [h2]; omega)
      have hpe : (upend u).isEmpty = false := by simpa using hne
      refine ⟨?_, i2, by rw [i3, h3], by rw [i4, h4], by rw [i5, h5]⟩
      rw [i1, h2]
      simp [uLines, hpe]

end PV.BufFile
