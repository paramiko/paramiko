/-
  PV.Model.RunLoopLemmas — the run-loop model's `step` taken apart layer by layer (used by C09 and C12), and the
  invariant of the initial key exchange (C09).
-/
import PV.Model.RunLoop
namespace PV.RunLoop

/-! ## well-formedness of the inputs the theorems quantify over -/

def Engine.script (e : Engine) : List EStep := e.cur :: e.rest

/-- every step of a kex engine arms a non-empty set of kex-range types (true of all paramiko engines) -/
def EStep.WF (st : EStep) : Prop := st.accept ≠ [] ∧ ∀ t ∈ st.accept, 30 ≤ t ∧ t ≤ 41
def Engine.WF (e : Engine) : Prop := ∀ st ∈ e.script, st.WF

def Ev.WF : Ev → Prop
  | .recv _ _ x => ∀ e, x.kex = .ok e → e.WF
  | .rekey => True

/-- KEXINIT and NEWKEYS are in the transport's handler table and are not "post-auth" types -/
structure KexTables (T : Tables) : Prop where
  k20 : T.transport.contains MSG_KEXINIT = true
  k21 : T.transport.contains MSG_NEWKEYS = true
  s20 : T.transportSRT.contains MSG_KEXINIT = true
  s21 : T.transportSRT.contains MSG_NEWKEYS = true
  hi : MSG_NEWKEYS ≤ T.highestUserauth

/-- the word `w` is accepted step by step by `steps` -/
def Accepts : List Nat → List EStep → Prop
  | [], [] => True
  | t :: ts, st :: sts => t ∈ st.accept ∧ Accepts ts sts
  | _, _ => False

theorem accepts_snoc {w : List Nat} {c : List EStep} {t : Nat} {st : EStep}
    (h : Accepts w c) (ht : t ∈ st.accept) : Accepts (w ++ [t]) (c ++ [st]) := by
  induction w generalizing c with
  | nil => cases c with
    | nil => exact ⟨ht, trivial⟩
    | cons _ _ => exact absurd h (by simp [Accepts])
  | cons a w ih => cases c with
    | nil => exact absurd h (by simp [Accepts])
    | cons b c => exact ⟨h.1, ih h.2⟩

theorem accepts_length {w : List Nat} {c : List EStep} (h : Accepts w c) : w.length = c.length := by
  induction w generalizing c with
  | nil => cases c with
    | nil => rfl
    | cons _ _ => exact absurd h (by simp [Accepts])
  | cons a w ih => cases c with
    | nil => exact absurd h (by simp [Accepts])
    | cons b c => simp [ih h.2]

/-! ## the loop, layer by layer -/

section layers
variable {T : Tables} {s : St} {t n : Nat} {p : Bytes} {x : Ext}

theorem step_recv (ha : s.active = true) (he : s.err = none) : step T s (.recv t p x) = recv T s t p x := by
  simp [step, ha, he]

theorem recv_eq (h : ¬ ((s.seqIn + 1) % SEQ_MOD = 0 ∧ ¬ s.initialKexDone = true)) :
    recv T s t p x = body T (bump s t) t s.seqIn p x := if_neg h

theorem seq_next {n : Nat} (hlt : n < SEQ_MOD) (h : (n + 1) % SEQ_MOD ≠ 0) : n + 1 < SEQ_MOD := by
  unfold SEQ_MOD at *; omega

theorem body_ignore : body T s MSG_IGNORE n p x = enforceStrict s := rfl

theorem body_debug : body T s MSG_DEBUG n p x = enforceStrict s := rfl

theorem body_other (h2 : t ≠ MSG_IGNORE) (h1 : t ≠ MSG_DISCONNECT) (h4 : t ≠ MSG_DEBUG) :
    body T s t n p x = afterExpected T s t n p x := by
  rw [body, if_neg h2, if_neg h1, if_neg h4]

theorem afterExpected_quiet (h : s.expected = []) : afterExpected T s t n p x = dispatch T s t n p x := by
  rw [afterExpected, if_neg (not_not_intro h)]

theorem afterExpected_reject (h : s.expected ≠ []) (ht : s.expected.contains t = false) :
    afterExpected T s t n p x = s.fail (if s.agreedStrict then .strictOrder else .ssh) := by
  rw [afterExpected, if_pos h, if_pos (ne_true_of_eq_false ht)]

theorem afterExpected_accept (ht : s.expected.contains t = true) :
    afterExpected T s t n p x =
      if 30 ≤ t ∧ t ≤ 41 then engineNext { s with expected := [] } x
      else dispatch T { s with expected := [] } t n p x := by
  have h : s.expected ≠ [] := fun h => by simp [h] at ht
  rw [afterExpected, if_pos h, if_neg (not_not_intro ht)]

theorem handled_eq_false (h : handled T s t = false) :
    t ≠ MSG_IGNORE ∧ t ≠ MSG_DISCONNECT ∧ t ≠ MSG_DEBUG ∧ (transportTable T s).contains t = false ∧
      T.channel.contains t = false ∧ (authTable T s).contains t = false := by
  simpa only [handled, Bool.or_eq_false_iff, beq_eq_false_iff_ne, and_assoc] using h

theorem dispatch_unhandled (h : handled T s t = false) : dispatch T s t n p x = fallback T s t n := by
  obtain ⟨_, _, _, h4, h5, h6⟩ := handled_eq_false h
  rw [dispatch, if_neg (ne_true_of_eq_false h4), if_neg (ne_true_of_eq_false h5), if_neg (ne_true_of_eq_false h6)]

theorem enforceStrict_lax (h : s.agreedStrict = false) : enforceStrict s = s :=
  if_neg fun c => by simp [h] at c

theorem enforceStrict_strict (h : s.agreedStrict = true) (hd : s.initialKexDone = false) :
    enforceStrict s = s.fail .strictOrder :=
  if_pos ⟨h, by simp [hd]⟩

theorem body_armed (h2 : t ≠ MSG_IGNORE) (h1 : t ≠ MSG_DISCONNECT) (h4 : t ≠ MSG_DEBUG)
    (hexp : s.expected = [] ∨ s.expected.contains t = true) (hr : ¬ (30 ≤ t ∧ t ≤ 41)) :
    body T s t n p x = dispatch T { s with expected := [] } t n p x := by
  rw [body_other h2 h1 h4]
  rcases hexp with h | h
  · rw [afterExpected_quiet h]
    exact congrArg (fun l => dispatch T { s with expected := l } t n p x) h
  · rw [afterExpected_accept h, if_neg hr]

theorem dispatch_kexinit (hT : KexTables T) : dispatch T s MSG_KEXINIT n p x = negotiateKeys s n x := by
  have h1 : (transportTable T s).contains MSG_KEXINIT = true := by
    unfold transportTable; split
    · exact hT.s20
    · exact hT.k20
  have h2 : ¬ (s.server = true ∧ MSG_KEXINIT > T.highestUserauth ∧ ¬ s.authenticated = true) :=
    fun c => absurd (Nat.lt_of_le_of_lt hT.hi c.2.1) (by decide)
  rw [dispatch, if_pos h1, if_neg h2, if_pos rfl]

theorem dispatch_newkeys (hT : KexTables T) : dispatch T s MSG_NEWKEYS n p x = parseNewkeys s x := by
  have h1 : (transportTable T s).contains MSG_NEWKEYS = true := by
    unfold transportTable; split
    · exact hT.s21
    · exact hT.k21
  have h2 : ¬ (s.server = true ∧ MSG_NEWKEYS > T.highestUserauth ∧ ¬ s.authenticated = true) :=
    fun c => absurd (Nat.lt_of_le_of_lt hT.hi c.2.1) (Nat.lt_irrefl _)
  rw [dispatch, if_pos h1, if_neg h2, if_neg (by decide), if_pos rfl]

theorem step_dead (T : Tables) (s : St) (ev : Ev) (h : s.err ≠ none) : step T s ev = s := by
  cases ev <;> simp [step, h]

theorem run_dead (T : Tables) (s : St) (evs : List Ev) (h : s.err ≠ none) : run T s evs = s := by
  induction evs with
  | nil => rfl
  | cons ev evs ih => simp only [run, List.foldl_cons] at ih ⊢; rw [step_dead T s ev h]; exact ih

end layers

/-- every type that some table of `T` gives a handler, in whatever role or state -/
def Tables.keys (T : Tables) : List Nat :=
  [MSG_IGNORE, MSG_DISCONNECT, MSG_DEBUG] ++ T.channel ++ T.transport ++ T.transportSRT ++
    T.authServer ++ T.authClient ++ T.authOnlyServer ++ T.authOnlyClient ++ T.gssMic

theorem mem_keys_of_handled {T : Tables} {s : St} {t : Nat} (h : handled T s t = true) : t ∈ T.keys := by
  have ht : t ∈ transportTable T s → t ∈ T.transport ∨ t ∈ T.transportSRT := by
    unfold transportTable; split <;> simp +contextual
  have ha : t ∈ authTable T s →
      t ∈ T.authServer ∨ t ∈ T.authClient ∨ t ∈ T.authOnlyServer ∨ t ∈ T.authOnlyClient ∨ t ∈ T.gssMic := by
    unfold authTable; split <;> (try split) <;> simp +contextual
  simp only [handled, Bool.or_eq_true, beq_iff_eq, List.contains_eq_mem, decide_eq_true_eq] at h
  simp only [Tables.keys, List.mem_append, List.mem_cons, List.not_mem_nil, or_false]
  rcases h with ((((h | h) | h) | h) | h) | h
  · simp [h]
  · simp [h]
  · simp [h]
  · rcases ht h with h | h <;> simp [h]
  · simp [h]
  · rcases ha h with h | h | h | h | h <;> simp [h]

/-! ## the fields the initial-kex invariant talks about, and what leaves them alone -/

structure KV where
  active : Bool
  done : Bool
  strict : Bool
  haveK : Bool
  expected : List Nat
  engine : Option Engine
  script : Option Engine
  rx : List Nat
  seqIn : Nat
  server : Bool
  advertise : Bool

def St.kv (s : St) : KV :=
  ⟨s.active, s.initialKexDone, s.agreedStrict, s.haveK, s.expected, s.engine, s.kexScript, s.rx, s.seqIn,
   s.server, s.advertiseStrict⟩

section frames
variable {s : St} {x : Ext}

theorem send_eq {t a : Nat} (he : s.err = none) (h : ¬ ((s.seqOut + 1) % SEQ_MOD = 0 ∧ ¬ s.initialKexDone = true)) :
    s.send t a = { s with seqOut := (s.seqOut + 1) % SEQ_MOD, tx := s.tx ++ [⟨t, s.seqOut, a⟩] } := by
  rw [St.send, if_neg (by simp [he]), if_neg h]

theorem send_ok {t a : Nat} (h : (s.send t a).err = none) :
    s.err = none ∧
      s.send t a = { s with seqOut := (s.seqOut + 1) % SEQ_MOD, tx := s.tx ++ [⟨t, s.seqOut, a⟩] } := by
  by_cases he : s.err = none
  · by_cases hr : (s.seqOut + 1) % SEQ_MOD = 0 ∧ ¬ s.initialKexDone = true
    · rw [St.send, if_neg (by simp [he]), if_pos hr] at h; cases h
    · exact ⟨he, send_eq he hr⟩
  · rw [St.send, if_pos (by simpa [Option.isSome_iff_ne_none] using he)] at h; exact absurd h he

theorem send_kv {t a : Nat} (h : (s.send t a).err = none) : (s.send t a).kv = s.kv := by
  rw [(send_ok h).2]; rfl

theorem sendAll_ok {ts : List Nat} (h : (s.sendAll ts).err = none) : s.err = none ∧ (s.sendAll ts).kv = s.kv := by
  induction ts generalizing s with
  | nil => exact ⟨h, rfl⟩
  | cons t ts ih =>
    obtain ⟨h1, k1⟩ := ih (s := s.send t) h
    exact ⟨(send_ok h1).1, k1.trans (send_kv h1)⟩

theorem andThen_ok {f : St → St} (h : (s.andThen f).err = none) : s.err = none ∧ s.andThen f = f s := by
  by_cases he : s.err.isSome = true
  · rw [St.andThen, if_pos he] at h; rw [h] at he; cases he
  · exact ⟨by simpa using he, if_neg he⟩

theorem sendKexInit_ok (h : (sendKexInit s).err = none) : (sendKexInit s).kv = s.kv := by
  unfold sendKexInit at h ⊢
  obtain ⟨h1, e1⟩ := andThen_ok h
  rw [e1]
  exact send_kv h1

theorem ensureLocalKexInit_ok (h : (ensureLocalKexInit s).err = none) : (ensureLocalKexInit s).kv = s.kv := by
  by_cases hl : s.localKexInit = true
  · rw [ensureLocalKexInit, if_neg (not_not_intro hl)]; rfl
  · rw [ensureLocalKexInit, if_pos hl] at h ⊢; exact sendKexInit_ok h

theorem parseKexInit_ok {seqno : Nat} (h : (parseKexInit s seqno x).err = none) :
    ∃ e, x.kex = .ok e ∧
      ((scanMarkers s.server s.advertiseStrict x.kexNames (none, s.agreedStrict)).2 = true →
        s.initialKexDone = false → seqno = 0) ∧
      (parseKexInit s seqno x).kv =
        { s.kv with strict := (scanMarkers s.server s.advertiseStrict x.kexNames (none, s.agreedStrict)).2,
                    engine := some e, script := some e, expected := e.cur.accept } := by
  unfold parseKexInit at h ⊢
  cases hk : x.kex with
  | malformed => simp only [hk] at h; cases h
  | incompatible =>
    simp only [hk] at h
    split at h <;> cases h
  | ok e =>
    refine ⟨e, rfl, ?_⟩
    simp only [hk] at h ⊢
    split at h
    · cases h
    · rename_i hc
      rw [if_neg hc]
      refine ⟨fun ha hd => by simpa [ha, hd] using hc, ?_⟩
      obtain ⟨h2, e2⟩ := andThen_ok h
      rw [e2]
      exact congrArg (fun k : KV => { k with expected := e.cur.accept }) (sendAll_ok h2).2

/-- `_negotiate_keys` when nothing raises: the peer's KEXINIT parsed and was compatible, a strict first KEXINIT had
number 0, and the engine it chose is armed -/
theorem negotiateKeys_ok {seqno : Nat} (h : (negotiateKeys s seqno x).err = none) :
    ∃ e, x.kex = .ok e ∧
      ((scanMarkers s.server s.advertiseStrict x.kexNames (none, s.agreedStrict)).2 = true →
        s.initialKexDone = false → seqno = 0) ∧
      (negotiateKeys s seqno x).kv =
        { s.kv with strict := (scanMarkers s.server s.advertiseStrict x.kexNames (none, s.agreedStrict)).2,
                    engine := some e, script := some e, expected := e.cur.accept } := by
  unfold negotiateKeys at h ⊢
  obtain ⟨h1, e1⟩ := andThen_ok h
  rw [e1] at h ⊢
  have k1 := ensureLocalKexInit_ok h1
  generalize ensureLocalKexInit s = s1 at h k1 ⊢
  obtain ⟨e, hk, h0, k2⟩ := parseKexInit_ok h
  have hsv : s1.server = s.server := congrArg KV.server k1
  have had : s1.advertiseStrict = s.advertiseStrict := congrArg KV.advertise k1
  have hst : s1.agreedStrict = s.agreedStrict := congrArg KV.strict k1
  have hd : s1.initialKexDone = s.initialKexDone := congrArg KV.done k1
  rw [hsv, had, hst, hd] at h0
  rw [hsv, had, hst, k1] at k2
  exact ⟨e, hk, h0, k2⟩

theorem activateOutbound_ok (h : (activateOutbound s x).err = none) :
    (activateOutbound s x).kv = { s.kv with expected := [MSG_NEWKEYS] } := by
  unfold activateOutbound at h ⊢
  obtain ⟨h1, e1⟩ := andThen_ok h
  rw [e1] at h ⊢
  have k1 := send_kv h1
  generalize s.send MSG_NEWKEYS = s1 at h k1 ⊢
  -- name the three conditional updates that follow NEWKEYS (unfolding them multiplies the term); each keeps `kv`
  extract_lets s2 s3 s4 at h
  extract_lets at ⊢
  obtain ⟨h4, e4⟩ := andThen_ok h
  have k2 : s2.kv = s1.kv := by unfold s2; split <;> rfl
  have k3 : s3.kv = s2.kv := by unfold s3; split <;> rfl
  have k4 : s4.kv = s3.kv := by
    unfold s4 at h4 ⊢
    by_cases hc : s3.server = true ∧ s3.serverSigAlgs = true ∧ s3.remoteExtInfoC = true
    · rw [if_pos hc] at h4 ⊢; exact send_kv h4
    · rw [if_neg hc]
  rw [e4]
  exact congrArg (fun k : KV => { k with expected := [MSG_NEWKEYS] }) (k4.trans (k3.trans (k2.trans k1)))

theorem engineNext_ok {e : Engine} (he : s.engine = some e) (h : (engineNext s x).err = none) :
    (∀ nxt more, e.rest = nxt :: more →
        (engineNext s x).kv = { s.kv with engine := some { e with cur := nxt, rest := more }, expected := nxt.accept }) ∧
    (e.rest = [] → (engineNext s x).kv = { s.kv with haveK := true, expected := [MSG_NEWKEYS] }) := by
  unfold engineNext at h ⊢
  simp only [he] at h ⊢
  by_cases hok : x.engineOk = true
  · rw [if_neg (not_not_intro hok)] at h ⊢
    obtain ⟨h1, e1⟩ := andThen_ok h
    rw [e1] at h ⊢
    have k := (sendAll_ok h1).2
    generalize s.sendAll e.cur.sends = s1 at h k ⊢
    constructor
    · intro nxt more hr
      simp only [hr]
      exact congrArg (fun k : KV => { k with engine := some { e with cur := nxt, rest := more },
                                              expected := nxt.accept }) k
    · intro hr
      simp only [hr] at h ⊢
      rw [activateOutbound_ok h]
      exact congrArg (fun k : KV => { k with haveK := true, expected := [MSG_NEWKEYS] }) k
  · rw [if_pos hok] at h; cases h

theorem parseNewkeys_ok (hk : s.haveK = true) :
    (parseNewkeys s x).err = s.err ∧
    (parseNewkeys s x).kv = { s.kv with seqIn := if s.agreedStrict then 0 else s.seqIn,
                                        haveK := false, engine := none, done := true } := by
  unfold parseNewkeys
  simp only [hk, not_true_eq_false, if_false]
  by_cases c1 : s.agreedStrict = true <;> by_cases c2 : x.needRekey = true <;>
    by_cases c3 : (s.server = true ∧ s.authH = AuthH.none) <;> simp [c1, c2, c3, St.kv]

end frames

/-! ## the invariant of the initial key exchange -/

/-- before the peer's KEXINIT: only IGNORE/DEBUG can have been let through -/
structure PreA (k : KV) : Prop where
  expected : k.expected = [MSG_KEXINIT]
  notStrict : k.strict = false
  noEngine : k.engine = none
  noScript : k.script = none
  noK : k.haveK = false
  rxOnly : ∀ t ∈ k.rx, t = MSG_IGNORE ∨ t = MSG_DEBUG

/-- after the peer's KEXINIT chose engine `e0`; `c` = steps already taken -/
structure PreB (k : KV) (e0 : Engine) (c : List EStep) : Prop where
  script : k.script = some e0
  wf : e0.WF
  progress : (∃ e, k.engine = some e ∧ c ++ e.script = e0.script ∧ k.expected = e.cur.accept ∧ k.haveK = false)
           ∨ (c = e0.script ∧ k.expected = [MSG_NEWKEYS] ∧ k.haveK = true)
  strictRx : k.strict = true → ∃ w, k.rx = MSG_KEXINIT :: w ∧ Accepts w c

structure KInv (k : KV) : Prop where
  active : k.active = true
  seq : k.seqIn = k.rx.length
  lt : k.seqIn < SEQ_MOD
  phase : PreA k ∨ ∃ e0 c, PreB k e0 c

theorem KInv.expected_ne {k : KV} (h : KInv k) : k.expected ≠ [] := by
  rcases h.phase with a | ⟨e0, c, b⟩
  · rw [a.expected]; simp
  · rcases b.progress with ⟨e, _, hc, hexp, _⟩ | ⟨_, hexp, _⟩
    · rw [hexp]
      have : e.cur ∈ e0.script := by rw [← hc]; simp [Engine.script]
      exact (b.wf _ this).1
    · rw [hexp]; simp

/-- what the completing step (the peer's NEWKEYS) establishes -/
def CompletedK (k k' : KV) (t : Nat) : Prop :=
  t = MSG_NEWKEYS ∧ k'.rx = k.rx ++ [MSG_NEWKEYS] ∧ k'.strict = k.strict ∧
    ∃ e0, k.script = some e0 ∧
      (k.strict = true → k'.seqIn = 0 ∧ ∃ w, k.rx = MSG_KEXINIT :: w ∧ Accepts w e0.script)

/-! The invariant along the four kinds of step the initial exchange can take, on the fields alone. -/

section kinv
variable {k : KV} {t : Nat}

theorem KInv.next {k' : KV} (hi : KInv k) (hlt : k.seqIn + 1 < SEQ_MOD) (ha : k'.active = k.active)
    (hs : k'.seqIn = k.seqIn + 1) (hr : k'.rx = k.rx ++ [t]) (hp : PreA k' ∨ ∃ e0 c, PreB k' e0 c) : KInv k' :=
  ⟨ha ▸ hi.active, by rw [hs, hr, hi.seq]; simp, hs ▸ hlt, hp⟩

/-- IGNORE / DEBUG let through (not strict) -/
theorem KInv.pass (hi : KInv k) (hs : k.strict = false) (ht : t = MSG_IGNORE ∨ t = MSG_DEBUG)
    (hlt : k.seqIn + 1 < SEQ_MOD) : KInv { k with seqIn := k.seqIn + 1, rx := k.rx ++ [t] } := by
  refine hi.next hlt rfl rfl rfl ?_
  rcases hi.phase with a | ⟨e0, c, b⟩
  · refine Or.inl ⟨a.expected, a.notStrict, a.noEngine, a.noScript, a.noK, fun u hu => ?_⟩
    rcases List.mem_append.mp hu with hu | hu
    · exact a.rxOnly u hu
    · rw [List.mem_singleton.mp hu]; exact ht
  · exact Or.inr ⟨e0, c, b.script, b.wf, b.progress, fun h => by simp [hs] at h⟩

/-- the peer's KEXINIT chose engine `e` -/
theorem KInv.kexinit {st : Bool} {e : Engine} (hi : KInv k) (a : PreA k) (hwf : e.WF) (hlt : k.seqIn + 1 < SEQ_MOD)
    (h0 : st = true → k.seqIn = 0) :
    KInv { k with seqIn := k.seqIn + 1, rx := k.rx ++ [MSG_KEXINIT], strict := st, engine := some e,
                  script := some e, expected := e.cur.accept } := by
  refine hi.next hlt rfl rfl rfl (Or.inr ⟨e, [], rfl, hwf, Or.inl ⟨e, rfl, rfl, rfl, a.noK⟩, fun hst => ?_⟩)
  have : k.rx = [] := List.eq_nil_of_length_eq_zero (by rw [← hi.seq]; exact h0 hst)
  exact ⟨[], by simp [this], trivial⟩

/-- a step of the kex engine accepted `t` -/
theorem KInv.engineStep {k' : KV} {e0 e : Engine} {c : List EStep} (hi : KInv k) (b : PreB k e0 c)
    (ht : t ∈ e.cur.accept) (hlt : k.seqIn + 1 < SEQ_MOD)
    (ha : k'.active = k.active) (hs : k'.seqIn = k.seqIn + 1) (hr : k'.rx = k.rx ++ [t])
    (hst : k'.strict = k.strict) (hsc : k'.script = k.script)
    (hp : (∃ e', k'.engine = some e' ∧ (c ++ [e.cur]) ++ e'.script = e0.script ∧ k'.expected = e'.cur.accept ∧
              k'.haveK = false)
          ∨ (c ++ [e.cur] = e0.script ∧ k'.expected = [MSG_NEWKEYS] ∧ k'.haveK = true)) : KInv k' := by
  refine hi.next hlt ha hs hr (Or.inr ⟨e0, c ++ [e.cur], hsc ▸ b.script, b.wf, hp, fun h => ?_⟩)
  obtain ⟨w, hw, hacc⟩ := b.strictRx (hst ▸ h)
  exact ⟨w ++ [t], by rw [hr, hw]; rfl, accepts_snoc hacc ht⟩

end kinv

/-- a packet read during the initial exchange that raises nothing either keeps the exchange open and the invariant, or
is the peer's NEWKEYS that completes it; `s1` is the state after `read_message` counted the packet -/
theorem body_step (T : Tables) (hT : KexTables T) (k : KV) (s1 : St) (t seqno : Nat) (p : Bytes) (x : Ext)
    (hx : ∀ e, x.kex = .ok e → e.WF) (hi : KInv k) (hd : k.done = false)
    (hk1 : s1.kv = { k with seqIn := k.seqIn + 1, rx := k.rx ++ [t] }) (hseqno : seqno = k.seqIn)
    (hlt : k.seqIn + 1 < SEQ_MOD) (h' : (body T s1 t seqno p x).err = none) :
    ((body T s1 t seqno p x).initialKexDone = false ∧ KInv (body T s1 t seqno p x).kv) ∨
    ((body T s1 t seqno p x).initialKexDone = true ∧ CompletedK k (body T s1 t seqno p x).kv t) := by
  have f_done : s1.initialKexDone = false := (congrArg KV.done hk1).trans hd
  have f_strict : s1.agreedStrict = k.strict := congrArg KV.strict hk1
  have f_expected : s1.expected = k.expected := congrArg KV.expected hk1
  -- IGNORE / DEBUG pass `_enforce_strict_kex` only when the exchange is not strict
  have pass : (t = MSG_IGNORE ∨ t = MSG_DEBUG) → (enforceStrict s1).err = none →
      (enforceStrict s1).initialKexDone = false ∧ KInv (enforceStrict s1).kv := by
    intro ht h
    cases hst : s1.agreedStrict with
    | true => rw [enforceStrict_strict hst f_done] at h; cases h
    | false =>
      rw [enforceStrict_lax hst, hk1]
      exact ⟨f_done, hi.pass (f_strict ▸ hst) ht hlt⟩
  by_cases h2 : t = MSG_IGNORE
  · subst h2; exact Or.inl (pass (Or.inl rfl) h')
  by_cases h1 : t = MSG_DISCONNECT
  · subst h1; cases h'
  by_cases h4 : t = MSG_DEBUG
  · subst h4; exact Or.inl (pass (Or.inr rfl) h')
  cases hin : s1.expected.contains t with
  | false =>
    rw [body_other h2 h1 h4, afterExpected_reject (f_expected ▸ hi.expected_ne) hin] at h'
    cases h'
  | true =>
    have hmem : t ∈ k.expected := by rw [← f_expected]; simpa using hin
    have hk2 : ({ s1 with expected := [] } : St).kv
        = { k with seqIn := k.seqIn + 1, rx := k.rx ++ [t], expected := [] } :=
      congrArg (fun k : KV => { k with expected := [] }) hk1
    rcases hi.phase with a | ⟨e0, c, b⟩
    · -- the peer's KEXINIT
      have ht : t = MSG_KEXINIT := by rw [a.expected] at hmem; simpa using hmem
      subst ht
      rw [body_armed h2 h1 h4 (Or.inr hin) (by decide), dispatch_kexinit hT] at h' ⊢
      obtain ⟨e, hke, hz, k4⟩ := negotiateKeys_ok h'
      refine Or.inl ⟨(congrArg KV.done k4).trans f_done, ?_⟩
      rw [k4, hk2]
      exact hi.kexinit a (hx e hke) hlt fun hst => hseqno ▸ hz hst f_done
    · rcases b.progress with ⟨e, heng, hc, hexpd, hnoK⟩ | ⟨hc, hexpd, hK⟩
      · -- a kex-engine step
        have hacc : t ∈ e.cur.accept := hexpd ▸ hmem
        have hcur : e.cur ∈ e0.script := by rw [← hc]; simp [Engine.script]
        rw [body_other h2 h1 h4, afterExpected_accept hin, if_pos ((b.wf _ hcur).2 t hacc)] at h' ⊢
        obtain ⟨n1, n2⟩ := engineNext_ok (s := { s1 with expected := [] }) ((congrArg KV.engine hk1).trans heng) h'
        cases hr : e.rest with
        | cons nxt more =>
          have kk := n1 nxt more hr
          rw [hk2] at kk
          refine Or.inl ⟨(congrArg KV.done kk).trans hd, ?_⟩
          rw [kk]
          refine hi.engineStep b hacc hlt rfl rfl rfl rfl rfl (Or.inl ⟨_, rfl, ?_, rfl, hnoK⟩)
          rw [← hc]; simp [Engine.script, hr]
        | nil =>
          have kk := n2 hr
          rw [hk2] at kk
          refine Or.inl ⟨(congrArg KV.done kk).trans hd, ?_⟩
          rw [kk]
          refine hi.engineStep b hacc hlt rfl rfl rfl rfl rfl (Or.inr ⟨?_, rfl, rfl⟩)
          rw [← hc]; simp [Engine.script, hr]
      · -- the peer's NEWKEYS
        have ht : t = MSG_NEWKEYS := by rw [hexpd] at hmem; simpa using hmem
        subst ht
        rw [body_armed h2 h1 h4 (Or.inr hin) (by decide), dispatch_newkeys hT]
        obtain ⟨_, k5⟩ := parseNewkeys_ok (s := { s1 with expected := [] }) (x := x)
          ((congrArg KV.haveK hk1).trans hK)
        refine Or.inr ⟨congrArg KV.done k5, ?_⟩
        rw [k5, hk2]
        refine ⟨rfl, rfl, rfl, e0, b.script, fun hstrict => ⟨?_, ?_⟩⟩
        · exact if_pos (f_strict.trans hstrict)
        · obtain ⟨w, hw, hacc⟩ := b.strictRx hstrict
          exact ⟨w, hw, hc ▸ hacc⟩

theorem step_inv (T : Tables) (hT : KexTables T) (s : St) (ev : Ev) (hev : ev.WF) (he : s.err = none)
    (hd : s.initialKexDone = false) (hi : KInv s.kv) (h' : (step T s ev).err = none) :
    ((step T s ev).initialKexDone = false ∧ KInv (step T s ev).kv) ∨
    ((step T s ev).initialKexDone = true ∧ ∃ t p x, ev = .recv t p x ∧ CompletedK s.kv (step T s ev).kv t) := by
  cases ev with
  | rekey =>
    refine Or.inl ?_
    by_cases hc : s.active = true ∧ s.err.isNone = true ∧ ¬ s.inKex = true
    · rw [step, if_pos hc] at h' ⊢
      have hk := sendKexInit_ok h'
      exact ⟨(congrArg KV.done hk).trans hd, hk ▸ hi⟩
    · rw [step, if_neg hc]
      exact ⟨hd, hi⟩
  | recv t p x =>
    rw [step_recv hi.active he] at h' ⊢
    by_cases hroll : (s.seqIn + 1) % SEQ_MOD = 0 ∧ ¬ s.initialKexDone = true
    · rw [recv, if_pos hroll] at h'; cases h'
    rw [recv_eq hroll] at h' ⊢
    have hlt : s.seqIn + 1 < SEQ_MOD := seq_next hi.lt fun h0 => hroll ⟨h0, by simp [hd]⟩
    have hk1 : (bump s t).kv = { s.kv with seqIn := s.kv.seqIn + 1, rx := s.kv.rx ++ [t] } := by
      simp [bump, St.kv, Nat.mod_eq_of_lt hlt]
    rcases body_step T hT s.kv (bump s t) t s.seqIn p x hev hi hd hk1 rfl hlt h' with h | ⟨h, hc⟩
    · exact Or.inl h
    · exact Or.inr ⟨h, t, p, x, rfl, hc⟩

theorem init_inv (server srt adv sig : Bool) :
    (init server srt adv sig).err = none ∧ (init server srt adv sig).initialKexDone = false ∧
      KInv (init server srt adv sig).kv := by
  refine ⟨by simp [init, sendKexInit, St.send, St.andThen],
          by simp [init, sendKexInit, St.send, St.andThen], ?_⟩
  refine ⟨?_, ?_, ?_, Or.inl ⟨?_, ?_, ?_, ?_, ?_, ?_⟩⟩ <;>
    simp [init, sendKexInit, St.send, St.andThen, St.kv]

/-! ## the first step that sets `initial_kex_done` -/

/-- the states around the first step of a run after which `initial_kex_done` is set -/
def firstDone (T : Tables) (s : St) : List Ev → Option (St × St)
  | [] => none
  | ev :: evs => if (step T s ev).initialKexDone then some (s, step T s ev) else firstDone T (step T s ev) evs

theorem firstDone_exists (T : Tables) (s : St) (evs : List Ev) (hd : s.initialKexDone = false)
    (h : (run T s evs).initialKexDone = true) : ∃ s0 s1, firstDone T s evs = some (s0, s1) := by
  induction evs generalizing s with
  | nil => simp [run, hd] at h
  | cons ev evs ih =>
    unfold firstDone
    by_cases hc : (step T s ev).initialKexDone = true
    · exact ⟨s, step T s ev, by simp [hc]⟩
    · simp only [hc, Bool.false_eq_true, if_false]
      exact ih _ (by simpa using hc) (by simpa [run] using h)

theorem firstDone_dead (T : Tables) (s : St) (evs : List Ev) (he : s.err ≠ none) (hd : s.initialKexDone = false) :
    firstDone T s evs = none := by
  induction evs with
  | nil => rfl
  | cons ev evs ih => unfold firstDone; rw [step_dead T s ev he]; simp [hd, ih]

theorem firstDone_spec (T : Tables) (hT : KexTables T) (s : St) (evs : List Ev) (hev : ∀ ev ∈ evs, ev.WF)
    (he : s.err = none) (hd : s.initialKexDone = false) (hi : KInv s.kv) (s0 s1 : St)
    (h : firstDone T s evs = some (s0, s1)) (he1 : s1.err = none) :
    ∃ t p x, s1 = step T s0 (.recv t p x) ∧ s0.initialKexDone = false ∧ KInv s0.kv ∧ CompletedK s0.kv s1.kv t := by
  induction evs generalizing s with
  | nil => simp [firstDone] at h
  | cons ev evs ih =>
    unfold firstDone at h
    have hw := hev ev (by simp)
    by_cases he' : (step T s ev).err = none
    · rcases step_inv T hT s ev hw he hd hi he' with ⟨hd', hi'⟩ | ⟨hc, t, p, x, hev', hcomp⟩
      · rw [if_neg (by simp [hd'])] at h
        exact ih _ (fun e he => hev e (by simp [he])) he' hd' hi' h
      · rw [if_pos hc] at h
        obtain ⟨rfl, rfl⟩ := Prod.mk.inj (Option.some.inj h)
        exact ⟨t, p, x, by rw [hev'], hd, hi, hcomp⟩
    · by_cases hc : (step T s ev).initialKexDone = true
      · rw [if_pos hc] at h
        obtain ⟨rfl, rfl⟩ := Prod.mk.inj (Option.some.inj h)
        exact absurd he1 he'
      · rw [if_neg hc, firstDone_dead T _ evs he' (by simpa using hc)] at h; cases h

/-! ## the marker scan -/

/-- the name the remote end must have sent for strict mode (`kex-strict-{c|s}-v00@openssh.com`) -/
def expectedMarker (server : Bool) : String :=
  if server then "kex-strict-c-v00@openssh.com" else "kex-strict-s-v00@openssh.com"

/-- one name of the scan: whatever becomes of the remembered `ext-info-*` name, the flag changes only at a
`kex-strict-*` name, to "it is the expected marker and we offered strict mode" -/
theorem scanMarkers_cons (sv adv : Bool) (a : String) (as : List String) (ei : Option String) (ag : Bool) :
    ∃ ei', scanMarkers sv adv (a :: as) (ei, ag) = scanMarkers sv adv as (ei',
      if a.startsWith "ext-info-" = false ∧ a.startsWith "kex-strict-" = true then a == expectedMarker sv && adv
      else ag) := by
  rw [scanMarkers]
  by_cases he : a.startsWith "ext-info-" = true
  · exact ⟨some a, by simp [he]⟩
  · by_cases hk : a.startsWith "kex-strict-" = true
    · exact ⟨ei, by simp [he, hk, expectedMarker]⟩
    · exact ⟨ei, by simp [he, hk]⟩

theorem scanMarkers_no_marker (sv adv : Bool) (names : List String) (acc : Option String × Bool)
    (h : ∀ a ∈ names, a.startsWith "kex-strict-" = false) : (scanMarkers sv adv names acc).2 = acc.2 := by
  induction names generalizing acc with
  | nil => rfl
  | cons a as ih =>
    obtain ⟨ei', e⟩ := scanMarkers_cons sv adv a as acc.1 acc.2
    rw [e, if_neg (by simp [h a List.mem_cons_self])]
    exact ih _ fun b hb => h b (List.mem_cons_of_mem _ hb)

theorem scanMarkers_expected_marker (sv : Bool) (names : List String) (acc : Option String × Bool)
    (hacc : acc.2 = true)
    (h : ∀ a ∈ names, a.startsWith "kex-strict-" = true → a = expectedMarker sv) :
    (scanMarkers sv true names acc).2 = true := by
  induction names generalizing acc with
  | nil => exact hacc
  | cons a as ih =>
    obtain ⟨ei', e⟩ := scanMarkers_cons sv true a as acc.1 acc.2
    rw [e]
    refine ih _ ?_ fun b hb => h b (List.mem_cons_of_mem _ hb)
    split
    · next hc => simp [h a List.mem_cons_self hc.2]
    · exact hacc

theorem scanMarkers_marker_anywhere (sv adv : Bool) (pre post : List String) (acc : Option String × Bool)
    (hpre : ∀ a ∈ pre, a.startsWith "kex-strict-" = false)
    (hpost : ∀ a ∈ post, a.startsWith "kex-strict-" = false) :
    (scanMarkers sv adv (pre ++ expectedMarker sv :: post) acc).2 = adv := by
  induction pre generalizing acc with
  | nil =>
    have hm : (expectedMarker sv).startsWith "ext-info-" = false ∧
        (expectedMarker sv).startsWith "kex-strict-" = true := by cases sv <;> decide +kernel
    obtain ⟨ei', e⟩ := scanMarkers_cons sv adv (expectedMarker sv) post acc.1 acc.2
    rw [List.nil_append, e, if_pos hm, scanMarkers_no_marker _ _ _ _ hpost]
    simp
  | cons a as ih =>
    obtain ⟨ei', e⟩ := scanMarkers_cons sv adv a (as ++ expectedMarker sv :: post) acc.1 acc.2
    rw [List.cons_append, e, if_neg (by simp [hpre a List.mem_cons_self])]
    exact ih _ fun b hb => hpre b (List.mem_cons_of_mem _ hb)

theorem rekey_kexinit_strict (T : Tables) (hT : KexTables T) (s : St) (hact : s.active = true) (he : s.err = none)
    (hdone : s.initialKexDone = true) (hexp : s.expected = []) (p : Bytes) (x : Ext)
    (hok : (step T s (.recv MSG_KEXINIT p x)).err = none) :
    (step T s (.recv MSG_KEXINIT p x)).agreedStrict
      = (scanMarkers s.server s.advertiseStrict x.kexNames (none, s.agreedStrict)).2 := by
  have hstep : step T s (.recv MSG_KEXINIT p x) = negotiateKeys (bump s MSG_KEXINIT) s.seqIn x := by
    rw [step_recv hact he, recv_eq (by simp [hdone]), body_other (by decide) (by decide) (by decide),
      afterExpected_quiet (s := bump s MSG_KEXINIT) hexp, dispatch_kexinit hT]
  rw [hstep] at hok ⊢
  obtain ⟨_, _, _, k⟩ := negotiateKeys_ok hok
  exact congrArg KV.strict k

end PV.RunLoop
