/-
  PV.Model.Packet — executable model of `paramiko.packet.Packetizer`:
  `_build_packet`, `send_message`, `read_all`, `read_message` (classic / encrypt-then-MAC / AEAD paths),
  `_inc_iv_counter`, `set_outbound_cipher` / `set_inbound_cipher`, compressor switches, sequence numbers,
  and `util.constant_time_bytes_eq`.

  Cipher, AEAD, MAC and compressor are *parameters* (`Prims`); their laws are in PacketLemmas.
  Configurations are the ones `Transport._activate_outbound/_activate_inbound` can produce
  (engine absent | stream engine + MAC, classic or etm | AEAD engine + IV); the flag pair etm∧aead and
  engine/flag mismatches are not represented.  The receiver's rekey accounting (`Limits`, `account`) and the
  `__need_rekey` flag as `read_all` sees it (`Ev.timeout`) are modelled below; what sets the flag and the sender's
  counters belong to property C10.  Not modelled: keepalive, handshake timer, logging.
-/
import PV.Base.Bytes
namespace PV.Packet
open PV

/-- error kinds (exception class of the real code) -/
inductive Err
  | eof            -- EOFError: socket returned b"" (stream exhausted): "waits for more data / fails"
  | badBlocking    -- SSHException("Invalid packet blocking")
  | macMismatch    -- SSHException("Mismatched MAC")
  | invalidTag     -- cryptography InvalidTag from AESGCM.decrypt
  | seqRollover    -- SSHException("Sequence number rolled over during initial kex!")
  | indexError     -- IndexError: empty message / empty packet (`data[0]`, `packet[0]`, `payload[0]`)
  | structError    -- struct.error (length field ≥ 2^32, padding > 255, short header)
  | overflow       -- OverflowError in `_inc_iv_counter` (64-bit invocation counter exhausted)
  | decompress     -- zlib.error
  | zeroDiv        -- ZeroDivisionError (block size 0)
  | ignoringRekey  -- SSHException("Remote transport is ignoring rekey requests")
  deriving Repr, DecidableEq

structure Prims where
  /-- `CipherContext` (encryptor or decryptor) -/
  CSt : Type
  enc : CSt → Bytes → CSt × Bytes
  dec : CSt → Bytes → CSt × Bytes
  /-- AEAD engine (`AESGCM(key)`) : `encrypt(iv, data, aad)` / `decrypt(iv, data, aad)` -/
  AKey : Type
  aenc : AKey → Bytes → Bytes → Bytes → Bytes
  adec : AKey → Bytes → Bytes → Bytes → Option Bytes
  /-- `compute_hmac(key, msg, digest_class)` with (key, digest_class) as one value -/
  MKey : Type
  mac : MKey → Bytes → Bytes
  /-- `ZlibCompressor` / `ZlibDecompressor` objects -/
  ZSt : Type
  comp : ZSt → Bytes → ZSt × Bytes
  decomp : ZSt → Bytes → Option (ZSt × Bytes)

/-! ## `_build_packet` -/

/-- `padding = 3 + bsize - ((len(payload) + addlen) % bsize)` -/
def padLen (block addlen l : Nat) : Nat := 3 + block - (l + addlen) % block

/-- the bytes `os.urandom(padding)` returned (an input of the model), fitted to the length asked for -/
def fitPad (rnd : Bytes) (n : Nat) : Bytes := (rnd ++ zeros n).take n

@[simp] theorem fitPad_length (rnd : Bytes) (n : Nat) : (fitPad rnd n).length = n := by
  simp [fitPad, zeros]

/-- `_build_packet(payload)`; `zeroPad` = `self.__sdctr_out or self.__block_engine_out is None` -/
def buildPacket (block addlen : Nat) (zeroPad : Bool) (payload rnd : Bytes) : Except Err Bytes :=
  if block = 0 then .error .zeroDiv else
  let pad := padLen block addlen payload.length
  if payload.length + pad + 1 ≥ 4294967296 ∨ pad > 255 then .error .structError else
  .ok (be32 (payload.length + pad + 1) ++ [UInt8.ofNat pad] ++ payload
        ++ (if zeroPad then zeros pad else fitPad rnd pad))

/-! ## integer kernels (proved equal to the definitions generated from the Python AST, Props/C03) -/

def nextSeq (n : Nat) : Nat := (n + 1) % 4294967296
def remainingEtm (psize block : Nat) : Int := (psize : Int) - block + 4
def remainingAead (psize block macLen : Nat) : Int := (psize : Int) - block + 4 + macLen
def badBlocking (psize leftover block : Nat) : Bool := decide (((psize : Int) - leftover) % block ≠ 0)
def classicSize (psize macLen leftover : Nat) : Int := (psize : Int) + macLen - leftover
def zeroPadCond (sdctr engineNone : Bool) : Bool := sdctr || engineNone

/-! ## sender -/

inductive OutC (p : Prims) where
  | plain
  | classic (st : p.CSt) (mk : p.MKey)
  | etm (st : p.CSt) (mk : p.MKey)
  | aead (k : p.AKey) (iv : Bytes)

structure Sender (p : Prims) where
  block : Nat := 8
  macLen : Nat := 0
  sdctr : Bool := false
  ciph : OutC p := .plain
  comp : Option p.ZSt := none
  seq : Nat := 0
  kexDone : Bool := false

def OutC.addlen {p : Prims} : OutC p → Nat
  | .etm _ _ => 4
  | .aead _ _ => 4
  | _ => 8

def OutC.isPlain {p : Prims} : OutC p → Bool
  | .plain => true
  | _ => false

/-- `_inc_iv_counter` -/
def incIv (iv : Bytes) : Except Err Bytes :=
  let c := beVal (iv.drop 4) + 1
  if c ≥ 18446744073709551616 then .error .overflow else .ok (iv.take 4 ++ beBytes 8 c)

/-- what the MAC / AEAD tag authenticates: (sequence number | nonce, bytes) -/
structure Auth where
  seq : Nat
  nonce : Bytes
  content : Bytes
  deriving Repr, DecidableEq

structure SendOut (p : Prims) where
  st : Sender p
  wire : Bytes
  auth : Option Auth

/-- `self.__compress_engine_out(data)` when a compressor is set -/
def compOut {p : Prims} (zs : Option p.ZSt) (data : Bytes) : Option p.ZSt × Bytes :=
  match zs with
  | none => (none, data)
  | some z => (some (p.comp z data).1, (p.comp z data).2)

/-- the encryption / MAC step of `send_message`: new engine state, bytes for the socket, authenticated record -/
def encrypt {p : Prims} (s : Sender p) (packet : Bytes) : Except Err (OutC p × Bytes × Option Auth) :=
  match s.ciph with
  | .plain => .ok (.plain, packet, none)
  | .classic st mk =>
    let r := p.enc st packet
    .ok (.classic r.1 mk, r.2 ++ (p.mac mk (be32 s.seq ++ packet)).take s.macLen,
         if s.macLen > 0 then some ⟨s.seq, [], packet⟩ else none)
  | .etm st mk =>
    let r := p.enc st (packet.drop 4)
    let out := packet.take 4 ++ r.2
    .ok (.etm r.1 mk, out ++ (p.mac mk (be32 s.seq ++ out)).take s.macLen, some ⟨s.seq, [], out⟩)
  | .aead k iv =>
    let out := packet.take 4 ++ p.aenc k iv (packet.drop 4) (packet.take 4)
    match incIv iv with
    | .error e => .error e
    | .ok iv' => .ok (.aead k iv', out, some ⟨s.seq, iv, out⟩)

/-- `send_message(data)`; `rnd` = what `os.urandom` returns for this packet -/
def sendMessage {p : Prims} (s : Sender p) (data rnd : Bytes) : Except Err (SendOut p) :=
  if data.isEmpty then .error .indexError else
  let cz := compOut s.comp data
  match buildPacket s.block s.ciph.addlen (zeroPadCond s.sdctr s.ciph.isPlain) cz.2 rnd with
  | .error e => .error e
  | .ok packet =>
    match encrypt s packet with
    | .error e => .error e
    | .ok (c, out, a) =>
      if nextSeq s.seq = 0 ∧ ¬ s.kexDone then .error .seqRollover
      else .ok { st := { s with ciph := c, comp := cz.1, seq := nextSeq s.seq }, wire := out, auth := a }

/-! ## receiver -/

inductive InC (p : Prims) where
  | plain
  | classic (st : p.CSt) (mk : p.MKey)
  | etm (st : p.CSt) (mk : p.MKey)
  | aead (k : p.AKey) (iv : Bytes)

structure Receiver (p : Prims) where
  block : Nat := 8
  macLen : Nat := 0
  ciph : InC p := .plain
  decomp : Option p.ZSt := none
  seq : Nat := 0
  kexDone : Bool := false

structure Msg where
  cmd : UInt8
  payload : Bytes       -- `Message(payload[1:])`
  seqno : Nat
  deriving Repr, DecidableEq

/-- `util.constant_time_bytes_eq` -/
def ctEq (a b : Bytes) : Bool :=
  if a.length ≠ b.length then false
  else (List.zipWith (fun x y => x ^^^ y) a b).foldl (fun r x => r ||| x) 0 == 0

/-- Python `l[1:e]` for a possibly negative `e` -/
def pySlice1 (l : Bytes) (e : Int) : Bytes :=
  let e' : Nat := if e < 0 then (e + l.length).toNat else e.toNat
  (l.take e').drop 1

/-- computations that call `read_all(n, check_rekey)` -/
inductive Rd (α : Type) where
  | ret : α → Rd α
  | fail : Err → Rd α
  | read : Int → Bool → (Bytes → Rd α) → Rd α

structure RecvOut (p : Prims) where
  st : Receiver p
  msg : Msg
  auth : Option Auth
  raw : Nat             -- `raw_packet_size = packet_size + self.__mac_size_in + 4` (input of the rekey accounting)

/-- `self.__compress_engine_in(payload)` when a decompressor is set -/
def decompIn {p : Prims} (zs : Option p.ZSt) (payload : Bytes) : Except Err (Option p.ZSt × Bytes) :=
  match zs with
  | none => .ok (none, payload)
  | some z =>
    match p.decomp z payload with
    | none => .error .decompress
    | some (z', out) => .ok (some z', out)

/-- tail of `read_message` once `packet` (= everything after the length field, decrypted) is known -/
def finish {p : Prims} (r : Receiver p) (c : InC p) (psize : Nat) (packet : Bytes) (a : Option Auth) :
    Except Err (RecvOut p) :=
  match packet with
  | [] => .error .indexError
  | padb :: _ =>
    match decompIn r.decomp (pySlice1 packet ((psize : Int) - padb.toNat)) with
    | .error e => .error e
    | .ok (z', payload') =>
      if nextSeq r.seq = 0 ∧ ¬ r.kexDone then .error .seqRollover else
      match payload' with
      | [] => .error .indexError
      | cmd :: body =>
        .ok { st := { r with ciph := c, decomp := z', seq := nextSeq r.seq },
              msg := { cmd := cmd, payload := body, seqno := r.seq }, auth := a, raw := psize + r.macLen + 4 }

def liftE {α : Type} : Except Err α → Rd α
  | .ok a => .ret a
  | .error e => .fail e

/-- encrypt-then-MAC path, after the first `read_all(block_size)` -/
def readEtm {p : Prims} (r : Receiver p) (st : p.CSt) (mk : p.MKey) (header : Bytes) : Rd (RecvOut p) :=
  if header.length < 4 then .fail .structError else
  let psize := beVal (header.take 4)
  .read (remainingEtm psize r.block) false fun more =>
  let packet := header.drop 4 ++ more
  .read r.macLen false fun mac =>
  if ctEq ((p.mac mk (be32 r.seq ++ be32 psize ++ packet)).take r.macLen) mac then
    let d := p.dec st packet
    liftE (finish r (.etm d.1 mk) psize d.2 (some ⟨r.seq, [], be32 psize ++ packet⟩))
  else .fail .macMismatch

/-- AES-GCM path -/
def readAead {p : Prims} (r : Receiver p) (k : p.AKey) (iv : Bytes) (header : Bytes) : Rd (RecvOut p) :=
  if header.length < 4 then .fail .structError else
  let psize := beVal (header.take 4)
  .read (remainingAead psize r.block r.macLen) false fun more =>
  let packet := header.drop 4 ++ more
  match p.adec k iv packet (header.take 4) with
  | none => .fail .invalidTag
  | some plain =>
    match incIv iv with
    | .error e => .fail e
    | .ok iv' => liftE (finish r (.aead k iv') psize plain (some ⟨r.seq, iv, header.take 4 ++ packet⟩))

/-- no cipher (before the first NEWKEYS) -/
def readPlain {p : Prims} (r : Receiver p) (header : Bytes) : Rd (RecvOut p) :=
  if header.length < 4 then .fail .structError else
  let psize := beVal (header.take 4)
  let leftover := header.drop 4
  if badBlocking psize leftover.length r.block then .fail .badBlocking else
  .read (classicSize psize r.macLen leftover.length) false fun buf =>
  let packet := leftover ++ buf.take (psize - leftover.length)
  liftE (finish r .plain psize packet none)

/-- classic path (MAC over the plaintext) -/
def readClassic {p : Prims} (r : Receiver p) (st : p.CSt) (mk : p.MKey) (header : Bytes) : Rd (RecvOut p) :=
  let d0 := p.dec st header
  if d0.2.length < 4 then .fail .structError else
  let psize := beVal (d0.2.take 4)
  let leftover := d0.2.drop 4
  if badBlocking psize leftover.length r.block then .fail .badBlocking else
  .read (classicSize psize r.macLen leftover.length) false fun buf =>
  let d1 := p.dec d0.1 (buf.take (psize - leftover.length))
  let post := buf.drop (psize - leftover.length)
  let packet := leftover ++ d1.2
  if r.macLen > 0 then
    if ctEq ((p.mac mk (be32 r.seq ++ be32 psize ++ packet)).take r.macLen) (post.take r.macLen) then
      liftE (finish r (.classic d1.1 mk) psize packet (some ⟨r.seq, [], be32 psize ++ packet⟩))
    else .fail .macMismatch
  else liftE (finish r (.classic d1.1 mk) psize packet none)

/-- `read_message()` -/
def readMessage {p : Prims} (r : Receiver p) : Rd (RecvOut p) :=
  .read r.block true fun header =>
  match r.ciph with
  | .etm st mk => readEtm r st mk header
  | .aead k iv => readAead r k iv header
  | .plain => readPlain r header
  | .classic st mk => readClassic r st mk header

/-! ## `read_all` over a socket -/

inductive Res (α : Type) where
  | ok : α → Bytes → Res α        -- value, bytes not yet consumed
  | err : Err → Res α
  deriving Repr

/-- all bytes of the stream are available and every `recv(n)` returns all that was asked for -/
def runBuf {α : Type} : Rd α → Bytes → Res α
  | .ret a, buf => .ok a buf
  | .fail e, _ => .err e
  | .read n _ k, buf =>
    if n ≤ 0 then runBuf (k []) buf
    else if n.toNat ≤ buf.length then runBuf (k (buf.take n.toNat)) (buf.drop n.toNat)
    else .err .eof

/-- what one `recv` call does: `socket.timeout` (with the value the `__need_rekey` flag has at that moment — the
flag is set by this or another thread when a threshold is hit and cleared by the key switch, so the model lets it
take any value at any timeout), or data: at most `k+1` bytes -/
inductive Ev where
  | timeout (rekeyPending : Bool)
  | recv (k : Nat)
  deriving Repr, DecidableEq

/-- the socket: `rem` = `__remainder` (left over from the banner line), `data` = bytes that will still
arrive, `sched` = one entry per `recv` call; when the schedule is used up every `recv(n)` returns all that is
there (up to `n`) -/
structure Sock where
  rem : Bytes
  data : Bytes
  sched : List Ev
  deriving Repr

inductive LoopRes where
  | ok (out data : Bytes) (sched : List Ev)
  | err (e : Err)
  | rekey (sched : List Ev)          -- NeedRekeyException

/-- the `while n > 0` loop of `read_all` (`out` accumulates; `cr` = `check_rekey`) -/
def recvLoop (cr : Bool) : (fuel : Nat) → (n : Nat) → (out data : Bytes) → (sched : List Ev) → LoopRes
  | _, 0, out, data, sched => .ok out data sched
  | 0, _ + 1, _, _, _ => .err .eof
  | fuel + 1, n + 1, out, data, sched =>
    match sched with
    | .timeout nr :: t =>
      -- `if check_rekey and (len(out) == 0) and self.__need_rekey: raise NeedRekeyException()`
      if cr && out.isEmpty && nr then .rekey t else recvLoop cr fuel (n + 1) out data t
    | .recv k :: t =>
      match data with
      | [] => .err .eof                                       -- `recv` returned b""
      | _ :: _ =>
        let x := data.take (min (n + 1) (k + 1))
        recvLoop cr fuel (n + 1 - x.length) (out ++ x) (data.drop x.length) t
    | [] =>
      match data with
      | [] => .err .eof
      | _ :: _ =>
        let x := data.take (n + 1)
        recvLoop cr fuel (n + 1 - x.length) (out ++ x) (data.drop x.length) []

inductive RaRes where
  | ok (b : Bytes) (s : Sock)
  | err (e : Err)
  | rekey (s : Sock)

/-- `read_all(n, check_rekey)` including the Python slice semantics of `self.__remainder[:n]` for `n < 0` -/
def readAll (s : Sock) (n : Int) (cr : Bool) : RaRes :=
  let cut : Nat := if n < 0 then (n + s.rem.length).toNat else n.toNat
  let out := if s.rem.isEmpty then [] else s.rem.take cut
  let rem' := if s.rem.isEmpty then [] else s.rem.drop cut
  let n' := n - out.length
  match recvLoop cr (n'.toNat + s.sched.length) n'.toNat out s.data s.sched with
  | .err e => .err e
  | .rekey sc => .rekey { rem := rem', data := s.data, sched := sc }
  | .ok o d sc => .ok o { rem := rem', data := d, sched := sc }

inductive SRes (α : Type) where
  | ok : α → Sock → SRes α
  | err : Err → SRes α
  | rekey : Sock → SRes α          -- NeedRekeyException propagated to the caller

def runSock {α : Type} : Rd α → Sock → SRes α
  | .ret a, s => .ok a s
  | .fail e, _ => .err e
  | .read n cr k, s =>
    match readAll s n cr with
    | .err e => .err e
    | .rekey s' => .rekey s'
    | .ok b s' => runSock (k b) s'

/-- `Transport.run`: `except NeedRekeyException: continue` — `read_message` is called again -/
def readRetry {p : Prims} (r : Receiver p) : (fuel : Nat) → Sock → SRes (RecvOut p)
  | 0, s => .rekey s
  | fuel + 1, s =>
    match runSock (readMessage r) s with
    | .rekey s' => readRetry r fuel s'
    | x => x

/-! ## operation sequences: messages and key / compressor switches -/

/-- `set_outbound_cipher(...)` (resets nothing the model tracks except the configuration) -/
def Sender.setCipher {p : Prims} (s : Sender p) (block macLen : Nat) (sdctr : Bool) (c : OutC p) : Sender p :=
  { s with block := block, macLen := macLen, sdctr := sdctr, ciph := c }

def Receiver.setCipher {p : Prims} (r : Receiver p) (block macLen : Nat) (c : InC p) : Receiver p :=
  { r with block := block, macLen := macLen, ciph := c }

inductive Op (p : Prims) where
  | msg (data rnd : Bytes)
  | setCipher (block macLen : Nat) (sdctr : Bool) (co : OutC p) (ci : InC p)
  | setComp (zo zi : Option p.ZSt)
  | resetSeq                       -- `reset_seqno_out` / `reset_seqno_in` (strict kex)
  | kexDone                        -- `_initial_kex_done = True`

/-- run the sender over an op list: the wire and the authenticated records, or the first error -/
def sendAll {p : Prims} (s : Sender p) : List (Op p) → Except Err (Sender p × Bytes × List Auth)
  | [] => .ok (s, [], [])
  | .msg d rnd :: ops =>
    match sendMessage s d rnd with
    | .error e => .error e
    | .ok o =>
      match sendAll o.st ops with
      | .error e => .error e
      | .ok (s', w, l) => .ok (s', o.wire ++ w, o.auth.toList ++ l)
  | .setCipher b m sd co _ :: ops => sendAll (s.setCipher b m sd co) ops
  | .setComp zo _ :: ops => sendAll { s with comp := zo } ops
  | .resetSeq :: ops => sendAll { s with seq := 0 } ops
  | .kexDone :: ops => sendAll { s with kexDone := true } ops

/-! ## `write_all` over a socket whose `send` may accept only part, time out, or fail -/

/-- what one `send(out)` call does -/
inductive SendEv where
  | accept (k : Nat)     -- returned `min k len(out)` (a short write when smaller than `len(out)`; 0 is possible)
  | timeout              -- `socket.timeout`
  | eagain               -- `socket.error` with `errno.EAGAIN`
  | fail                 -- any other exception (e.g. broken pipe)
  deriving Repr, DecidableEq

inductive WRes where
  | ok (written : Bytes)       -- `write_all` returned: these bytes were accepted by the socket, in order
  | eof (written : Bytes)      -- `EOFError` after these bytes had been accepted
  deriving Repr, DecidableEq

/-- the `> 10` of `if n == 0 and iteration_with_zero_as_return_value > 10` -/
def zeroLimit : Nat := 10

/-- the `n = 0` the retry branch assigns after `socket.timeout` / `EAGAIN` -/
def retryN : Nat := 0

/-- the `while len(out) > 0` loop of `write_all`; `it` = `iteration_with_zero_as_return_value`, `w` = bytes the
socket accepted so far.  When the schedule is used up every `send` accepts everything. -/
def writeAll : (sched : List SendEv) → (out : Bytes) → (it : Nat) → (w : Bytes) → WRes
  | _, [], _, w => .ok w
  | [], x :: xs, _, w => .ok (w ++ x :: xs)
  | ev :: t, x :: xs, it, w =>
    match ev with
    | .fail => .eof w
    | .timeout => writeAll t ((x :: xs).drop retryN) it w      -- `n = 0; … out = out[n:]`
    | .eagain => writeAll t ((x :: xs).drop retryN) it w
    | .accept k =>
      let n := min k (xs.length + 1)
      if n = 0 ∧ it > zeroLimit then .eof w
      else if n = xs.length + 1 then .ok (w ++ x :: xs)        -- `if n == len(out): break`
      else writeAll t ((x :: xs).drop n) (it + 1) (w ++ (x :: xs).take n)

/-- the sender over an op list, each packet going through `write_all` under its own schedule of `send` outcomes
(schedules are consumed one per message; none left = every send accepts everything): the bytes that reached the
socket, or `eof` as soon as a `write_all` raised -/
def sendAllW {p : Prims} (s : Sender p) : List (Op p) → List (List SendEv) → Except Err (Sender p × Bytes)
  | [], _ => .ok (s, [])
  | .msg d rnd :: ops, scheds =>
    match sendMessage s d rnd with
    | .error e => .error e
    | .ok o =>
      match writeAll (scheds.headD []) o.wire 0 [] with
      | .eof _ => .error .eof
      | .ok wr =>
        match sendAllW o.st ops scheds.tail with
        | .error e => .error e
        | .ok (s', w) => .ok (s', wr ++ w)
  | .setCipher b m sd co _ :: ops, scheds => sendAllW (s.setCipher b m sd co) ops scheds
  | .setComp zo _ :: ops, scheds => sendAllW { s with comp := zo } ops scheds
  | .resetSeq :: ops, scheds => sendAllW { s with seq := 0 } ops scheds
  | .kexDone :: ops, scheds => sendAllW { s with kexDone := true } ops scheds

/-- what the rekey accounting of `read_message` / `set_inbound_cipher` sees, in order -/
inductive Acct where
  | pkt (raw : Nat)      -- a packet of `raw` bytes was decoded
  | switch               -- the keys were switched (counters reset, request fulfilled)
  deriving Repr, DecidableEq

/-- result of running the receiver: delivered messages, verified records, how it stopped -/
structure RecvLog (p : Prims) where
  msgs : List Msg
  auths : List Auth
  accts : List Acct
  stop : Option Err          -- `none`: all ops done
  st : Option (Receiver p)   -- final state when not stopped by an error
  rest : Bytes

/-- the receiver mirrors the op list: one `read_message` per `msg`, the switches in the same places -/
def recvAll {p : Prims} (r : Receiver p) : List (Op p) → Bytes → RecvLog p
  | [], buf => { msgs := [], auths := [], accts := [], stop := none, st := some r, rest := buf }
  | .msg _ _ :: ops, buf =>
    match runBuf (readMessage r) buf with
    | .err e => { msgs := [], auths := [], accts := [], stop := some e, st := none, rest := buf }
    | .ok o rest =>
      let l := recvAll o.st ops rest
      { l with msgs := o.msg :: l.msgs, auths := o.auth.toList ++ l.auths, accts := .pkt o.raw :: l.accts }
  | .setCipher b m _ _ ci :: ops, buf =>
    let l := recvAll (r.setCipher b m ci) ops buf
    { l with accts := .switch :: l.accts }
  | .setComp _ zi :: ops, buf => recvAll { r with decomp := zi } ops buf
  | .resetSeq :: ops, buf => recvAll { r with seq := 0 } ops buf
  | .kexDone :: ops, buf => recvAll { r with kexDone := true } ops buf

/-! ## rekey accounting of `read_message` (counters, the receiver's own rekey request, the overflow allowance) -/

/-- `REKEY_PACKETS`, `REKEY_BYTES`, `REKEY_PACKETS_OVERFLOW_MAX`, `REKEY_BYTES_OVERFLOW_MAX` -/
structure Limits where
  rekeyPackets : Nat
  rekeyBytes : Nat
  ovPackets : Nat
  ovBytes : Nat
  deriving Repr, DecidableEq

/-- the values shipped in `class Packetizer` (tied to the source in Props/C01) -/
def shippedLimits : Limits := ⟨536870912, 536870912, 536870912, 536870912⟩

structure RekeySt where
  recvPackets : Nat := 0
  recvBytes : Nat := 0
  ovPackets : Nat := 0
  ovBytes : Nat := 0
  need : Bool := false        -- `__need_rekey`
  deriving Repr, DecidableEq

/-- the "check for rekey" tail of `read_message` -/
def account (L : Limits) (k : RekeySt) (raw : Nat) : Except Err RekeySt :=
  let k1 := { k with recvBytes := k.recvBytes + raw, recvPackets := k.recvPackets + 1 }
  if k.need then
    -- we've asked to rekey: give them some packets to comply before dropping the connection
    let k2 := { k1 with ovBytes := k1.ovBytes + raw, ovPackets := k1.ovPackets + 1 }
    if k2.ovPackets ≥ L.ovPackets ∨ k2.ovBytes ≥ L.ovBytes then .error .ignoringRekey else .ok k2
  else if k1.recvPackets ≥ L.rekeyPackets ∨ k1.recvBytes ≥ L.rekeyBytes then
    .ok { k1 with ovBytes := 0, ovPackets := 0, need := true }      -- only ask once for rekeying
  else .ok k1

/-- `set_inbound_cipher` resets the counters; with the outbound switch of the same rekey the request is fulfilled -/
def RekeySt.switched (_ : RekeySt) : RekeySt := {}

def accountAll (L : Limits) : RekeySt → List Acct → Except Err RekeySt
  | k, [] => .ok k
  | k, .pkt raw :: t =>
    match account L k raw with
    | .error e => .error e
    | .ok k' => accountAll L k' t
  | k, .switch :: t => accountAll L k.switched t

/-- `recvAll` with the accounting: a message is delivered only if the accounting after it did not raise -/
def recvAllK {p : Prims} (L : Limits) (r : Receiver p) (k : RekeySt) : List (Op p) → Bytes → List Msg × Option Err
  | [], _ => ([], none)
  | .msg _ _ :: ops, buf =>
    match runBuf (readMessage r) buf with
    | .err e => ([], some e)
    | .ok o rest =>
      match account L k o.raw with
      | .error e => ([], some e)
      | .ok k' =>
        let l := recvAllK L o.st k' ops rest
        (o.msg :: l.1, l.2)
  | .setCipher b m _ _ ci :: ops, buf => recvAllK L (r.setCipher b m ci) k.switched ops buf
  | .setComp _ zi :: ops, buf => recvAllK L { r with decomp := zi } k ops buf
  | .resetSeq :: ops, buf => recvAllK L { r with seq := 0 } k ops buf
  | .kexDone :: ops, buf => recvAllK L { r with kexDone := true } k ops buf

/-- the accounting trace of the sender's history: the sizes of its wire packets, and its key switches -/
def sentAccts {p : Prims} (s : Sender p) : List (Op p) → List Acct
  | [] => []
  | .msg d rnd :: ops =>
    match sendMessage s d rnd with
    | .error _ => []
    | .ok o => .pkt o.wire.length :: sentAccts o.st ops
  | .setCipher b m sd co _ :: ops => .switch :: sentAccts (s.setCipher b m sd co) ops
  | .setComp zo _ :: ops => sentAccts { s with comp := zo } ops
  | .resetSeq :: ops => sentAccts { s with seq := 0 } ops
  | .kexDone :: ops => sentAccts { s with kexDone := true } ops

/-- `recvAll` over a fragmenting socket -/
def recvAllSock {p : Prims} (r : Receiver p) : List (Op p) → Sock → List Msg × Option Err × Sock
  | [], s => ([], none, s)
  | .msg _ _ :: ops, s =>
    match readRetry r (s.sched.length + 1) s with
    | .err e => ([], some e, s)
    | .rekey s' => ([], none, s')       -- unreachable: every NeedRekeyException uses up a timeout of the schedule
    | .ok o s' =>
      let l := recvAllSock o.st ops s'
      (o.msg :: l.1, l.2)
  | .setCipher b m _ _ ci :: ops, s => recvAllSock (r.setCipher b m ci) ops s
  | .setComp _ zi :: ops, s => recvAllSock { r with decomp := zi } ops s
  | .resetSeq :: ops, s => recvAllSock { r with seq := 0 } ops s
  | .kexDone :: ops, s => recvAllSock { r with kexDone := true } ops s

/-- what the sender's op list says should be delivered, given the starting sequence number -/
def msgsOf {p : Prims} : Nat → List (Op p) → List Msg
  | _, [] => []
  | seq, .msg d _ :: ops =>
    (match d with
     | [] => []
     | c :: body => [{ cmd := c, payload := body, seqno := seq }]) ++ msgsOf (nextSeq seq) ops
  | _, .resetSeq :: ops => msgsOf 0 ops
  | seq, _ :: ops => msgsOf seq ops

/-! ## toy primitives (identical definitions in pv/lib_packet.py) -/

/-- keystream byte `j` of the toy stream cipher with key byte `k` -/
def toyKs (k j : Nat) : UInt8 := UInt8.ofNat (k + 7 * j + j / 256 * 13)

def toyXorFrom (k : Nat) : Nat → Bytes → Bytes
  | _, [] => []
  | j, x :: xs => (x ^^^ toyKs k j) :: toyXorFrom k (j + 1) xs

/-- the two checksums of the toy digest, a = Σ mᵢ and b = Σ (i+1)·mᵢ (mod 2^16), `i` counted from the first argument -/
def toySums : Nat → Bytes → Nat × Nat
  | _, [] => (0, 0)
  | i, x :: xs => let r := toySums (i + 1) xs; ((x.toNat + r.1) % 65536, ((i + 1) * x.toNat + r.2) % 65536)

/-- 64-byte toy hash, optionally salted with `key` (used directly by the toy AEAD tag):
byte `j` = key[j mod |key|] + a·(j+1) + b·(2j+1) + |msg|, with (a, b) = `toySums 0 msg` -/
def toyHashK (key msg : Bytes) : Bytes :=
  let s := toySums 0 msg
  (List.range 64).map fun j =>
    UInt8.ofNat ((key.getD (j % (max key.length 1)) 0).toNat + s.1 * (j + 1) + s.2 * (2 * j + 1) + msg.length)

/-- the toy MAC is the real HMAC construction (RFC 2104, as Python's `hmac.HMAC` computes it) over the toy hash
with block size 16: `H((K ⊕ opad) ‖ H((K ⊕ ipad) ‖ m))`; so the real code may compute it through whatever
`hmac` API it likes (one-shot, keyed object + `copy()`, …) -/
def toyMac (key msg : Bytes) : Bytes :=
  let k0 := if key.length > 16 then toyHashK [] key else key
  let k := k0 ++ zeros (16 - k0.length)
  toyHashK [] (k.map (· ^^^ 0x5c) ++ toyHashK [] (k.map (· ^^^ 0x36) ++ msg))

/-- toy AEAD: ciphertext = xor keystream positioned by the nonce's low byte; tag = 16 toy-MAC bytes over
nonce ‖ aad ‖ ciphertext salted with the key byte -/
def toySeal (k : Nat) (iv pt aad : Bytes) : Bytes :=
  let ct := toyXorFrom k (beVal (iv.drop 4) % 65536) pt
  ct ++ (toyHashK [UInt8.ofNat k] (iv ++ aad ++ ct)).take 16

def toyUnseal (k : Nat) (iv data aad : Bytes) : Option Bytes :=
  if data.length < 16 then none else
  let ct := data.take (data.length - 16)
  let tag := data.drop (data.length - 16)
  if (toyHashK [UInt8.ofNat k] (iv ++ aad ++ ct)).take 16 = tag then
    some (toyXorFrom k (beVal (iv.drop 4) % 65536) ct)
  else none

/-- toy stateful compressor: state = running byte counter; output = marker byte ‖ data shifted by it -/
def toyComp (z : Nat) (d : Bytes) : Nat × Bytes :=
  (z + d.length + 1, UInt8.ofNat z :: d.map fun x => x + UInt8.ofNat z)

def toyDecomp (z : Nat) (d : Bytes) : Option (Nat × Bytes) :=
  match d with
  | [] => none
  | m :: t => if m = UInt8.ofNat z then some (z + t.length + 1, t.map fun x => x - UInt8.ofNat z) else none

/-- the toy primitives; a cipher state is (key byte, position in the keystream) -/
def toyPrims : Prims where
  CSt := Nat × Nat
  enc := fun st x => ((st.1, st.2 + x.length), toyXorFrom st.1 st.2 x)
  dec := fun st x => ((st.1, st.2 + x.length), toyXorFrom st.1 st.2 x)
  AKey := Nat
  aenc := toySeal
  adec := toyUnseal
  MKey := Bytes
  mac := toyMac
  ZSt := Nat
  comp := toyComp
  decomp := toyDecomp

end PV.Packet
