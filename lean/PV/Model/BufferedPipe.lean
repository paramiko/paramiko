/-
  PV.Model.BufferedPipe — executable model of paramiko/buffered_pipe.py (class BufferedPipe).

  Concurrency convention (each concurrent model has its own `step`/`run`): every method body runs under
  `self._lock`; the only place where the lock is given up inside a method is `self._cv.wait(timeout)` in `read`.  The atomic regions the code
  really has are therefore
    feed / empty / close / set_event / read_ready / __len__      — one region each
    read                                                          — region 1: entry … (return | raise | wait)
                                                                    region k: wake-up … (return | raise | wait)
  `step : St → Act → St` executes one region; a schedule is a list of actions, all schedules = all lists.
  A thread that sits in `cv.wait` is a `Waiter` in the state; `Act.wake tid elapsed` is "the wait of `tid`
  returned (notify, timeout or spurious) and `time.time() - then` was `elapsed`" — any wake-up at any moment with
  any elapsed time is allowed, which over-approximates what `threading.Condition` can do.
  Time is integer ticks (the harness uses integer-valued floats with a fake clock, so the arithmetic is exact).

  The model mirrors the code after `fix: BufferedPipe.read re-checks the buffer before raising PipeTimeout`
  (`fixedDeadline = true`); `stepG false` is the code before that fix and is kept for the witness theorem.
-/
import PV.Base.Bytes
namespace PV.BufferedPipe
open PV

/-- result of a completed `read` (bytes returned or PipeTimeout raised); `empty()` always gives `data`. -/
inductive Res where
  | data (b : Bytes)
  | timeout
  deriving DecidableEq, Repr

/-- a thread parked in `self._cv.wait(timeout)` inside `read(nbytes, timeout)`; `timeout` is the *remaining*
    time (`None` = wait forever) -/
structure Waiter where
  tid : Nat
  n : Nat
  timeout : Option Int
  deriving DecidableEq, Repr

/-- what happened in a step (ghost log entry) -/
inductive Ev where
  | fed (d : Bytes)
  | got (tid : Nat) (r : Res)        -- a read completed
  | emptied (tid : Nat) (d : Bytes)  -- `empty()` returned d
  | closedEv
  deriving DecidableEq, Repr

structure St where
  buf : Bytes := []
  closed : Bool := false
  /-- `none`: no event attached; `some b`: event attached and currently set (`true`) / cleared -/
  event : Option Bool := none
  waiting : List Waiter := []
  log : List Ev := []
  deriving Repr

def init : St := {}

inductive Act where
  | feed (d : Bytes)
  | read (tid : Nat) (n : Nat) (timeout : Option Int)
  | wake (tid : Nat) (elapsed : Int)
  | empty (tid : Nat)
  | close
  | setEvent
  deriving DecidableEq, Repr

def isWaiting (s : St) (tid : Nat) : Bool := s.waiting.any (·.tid == tid)
def findWaiter (s : St) (tid : Nat) : Option Waiter := s.waiting.find? (·.tid == tid)
def dropWaiter (s : St) (tid : Nat) : St := { s with waiting := s.waiting.filter (·.tid != tid) }

/-- `if (self._event is not None) and not self._closed: self._event.clear()` -/
def clearEvent (s : St) : St :=
  match s.event with
  | some _ => if s.closed then s else { s with event := some false }
  | none => s

/-- `if self._event is not None: self._event.set()` -/
def setEventFlag (s : St) : St :=
  match s.event with
  | some _ => { s with event := some true }
  | none => s

/-- the tail of `read` ("something's in the buffer and we have the lock!") -/
def deliver (s : St) (tid n : Nat) : St :=
  if s.buf.length ≤ n then
    let s1 := clearEvent { s with buf := [] }
    { s1 with log := s1.log ++ [.got tid (.data s.buf)] }
  else
    { s with buf := s.buf.drop n, log := s.log ++ [.got tid (.data (s.buf.take n))] }

def raiseTimeout (s : St) (tid : Nat) : St := { s with log := s.log ++ [.got tid .timeout] }

/-- `timeout is not None and timeout <= 0.0` -/
def isExpired : Option Int → Bool
  | some x => decide (x ≤ 0)
  | none => false

/-- the code after `self._cv.wait(timeout)` returned for waiter `w` (elapsed = `time.time() - then`) -/
def wakeWith (fixedDeadline : Bool) (s : St) (w : Waiter) (elapsed : Int) : St :=
  let s0 := dropWaiter s w.tid
  if isExpired (w.timeout.map (· - elapsed)) then
    if fixedDeadline && (!s.buf.isEmpty || s.closed) then deliver s0 w.tid w.n    -- `break`
    else raiseTimeout s0 w.tid
  else if s.buf.isEmpty && !s.closed then
    { s0 with waiting := s0.waiting ++ [{ w with timeout := w.timeout.map (· - elapsed) }] }   -- wait again
  else deliver s0 w.tid w.n

/-- one atomic region.  `fixedDeadline` selects the code after (true) / before (false) the C26 fix. -/
def stepG (fixedDeadline : Bool) (s : St) : Act → St
  | .feed d =>
    -- `if self._event is not None and len(data) > 0: self._event.set()`
    let s1 := if d.isEmpty then s else setEventFlag s
    { s1 with buf := s1.buf ++ d, log := s1.log ++ [.fed d] }
  | .read tid n timeout =>
    if isWaiting s tid then s            -- that thread is parked in cv.wait: it cannot start another call
    else if s.buf.isEmpty then
      if s.closed then { s with log := s.log ++ [.got tid (.data [])] }
      else if timeout == some 0 then raiseTimeout s tid
      else { s with waiting := s.waiting ++ [{ tid := tid, n := n, timeout := timeout }] }
    else deliver s tid n
  | .wake tid elapsed =>
    match findWaiter s tid with
    | none => s
    | some w => wakeWith fixedDeadline s w elapsed
  | .empty tid =>
    if isWaiting s tid then s
    else
      let s1 := clearEvent { s with buf := [] }
      { s1 with log := s1.log ++ [.emptied tid s.buf] }
  | .close =>
    let s1 := setEventFlag { s with closed := true }
    { s1 with log := s1.log ++ [.closedEv] }
  | .setEvent =>
    { s with event := some (s.closed || !s.buf.isEmpty) }

/-- the current code (after the fix) -/
def step : St → Act → St := stepG true

def run (s : St) (acts : List Act) : St := acts.foldl step s
def runG (f : Bool) (s : St) (acts : List Act) : St := acts.foldl (stepG f) s

/-! ## observations used by the property statements -/

/-- bytes handed out by an event (reads and empties) -/
def Ev.taken : Ev → Bytes
  | .got _ (.data b) => b
  | .emptied _ d => d
  | _ => []

def Ev.fedBytes : Ev → Bytes
  | .fed d => d
  | _ => []

/-- everything read or emptied so far, in the order in which it was taken out of the buffer -/
def takenOf (log : List Ev) : Bytes := log.flatMap Ev.taken
/-- everything fed so far, in order -/
def fedOf (log : List Ev) : Bytes := log.flatMap Ev.fedBytes

/-- feed payloads of a schedule, in order (a function of the schedule alone) -/
def Act.fedBytes : Act → Bytes
  | .feed d => d
  | _ => []
def fedOfActs (acts : List Act) : Bytes := acts.flatMap Act.fedBytes

/-- the event the step appended to the log, if any -/
def newEvents (s s' : St) : List Ev := s'.log.drop s.log.length

/-- read sizes ≥ 1 (the property's quantifier) -/
def Act.sizeOk : Act → Prop
  | .read _ n _ => 1 ≤ n
  | _ => True

def WaitersOk (s : St) : Prop := ∀ w ∈ s.waiting, 1 ≤ w.n

end PV.BufferedPipe
