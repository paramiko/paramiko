/-
  The authentication flag and USERAUTH_SUCCESS (used by C14 and C15): the flag is raised only together
  with USERAUTH_SUCCESS, and USERAUTH_SUCCESS is sent only after an approving callback.
-/
import PV.Model.AuthServerLemmas
namespace PV.AuthServer
open PV PV.Wire PV.Generated.AuthTables

section perform
variable (s : St) (e : Env) (a : Act)

theorem perform_success (hp : a.plainOK) (hg : a.grantOK)
    (h : msgSuccess ∈ (perform s e a).2.sent) : ∃ c ∈ (perform s e a).2.cbs, c.approves := by
  cases a with
  | nop => cases h
  | reply cb m => exact absurd rfl (hp _ h).2
  | die cb m x => exact absurd rfl (hp _ h).2
  | disconnect cb m => exact absurd (List.mem_singleton.mp h).symm hp.2
  | result cb u r =>
    simp only [perform, Out.pre] at h ⊢
    obtain ⟨c, hc, ha⟩ := hg ((sar_success s e u r).mp h)
    exact ⟨c, List.mem_append_left _ hc, ha⟩
  | resultDie cb u r x => exact absurd ((sar_success s e u r).mp h) hg
  | rejectTwice cb u =>
    simp only [perform] at h
    split at h
    · rcases List.mem_append.mp h with h | h <;> exact absurd ((sar_success _ e u AUTH_FAILED).mp h) (by decide)
    · exact absurd ((sar_success _ e u AUTH_FAILED).mp h) (by decide)
  | delegate c => cases h

theorem perform_authenticated (h0 : s.authenticated = false)
    (h : (perform s e a).1.authenticated = true) : msgSuccess ∈ (perform s e a).2.sent := by
  cases a with
  | result cb u r =>
    simp only [perform, Out.pre, sar_authenticated, h0, Bool.false_or, decide_eq_true_eq] at h ⊢
    exact (sar_success s e u r).mpr h
  | resultDie cb u r x =>
    simp only [perform, Out.pre, sar_authenticated, h0, Bool.false_or, decide_eq_true_eq] at h ⊢
    exact (sar_success s e u r).mpr h
  | rejectTwice cb u =>
    simp only [perform] at h
    split at h <;> simp [sar_authenticated, h0, AUTH_FAILED, AUTH_SUCCESSFUL] at h
  | _ => simp [perform, h0] at h

theorem perform_auth_mono (h : s.authenticated = true) : (perform s e a).1.authenticated = true := by
  cases a with
  | rejectTwice cb u => simp only [perform]; split <;> simp only [sar_authenticated, h, Bool.true_or]
  | _ => simp only [perform, sar_authenticated, h, Bool.true_or]
end perform

section step
variable (sc : SigScheme) (sid : Bytes) (s : St) (p : Nat) (b : Bytes) (e : Env)

theorem step_success (h : msgSuccess ∈ (step sc sid s p b e).2.sent) :
    ∃ c ∈ (step sc sid s p b e).2.cbs, c.approves := by
  rcases step_cases sc sid s p b e with ⟨_, hs⟩ | ⟨_, s1, a, _, ha, hs⟩ <;> rw [hs] at h ⊢
  · cases h
  · exact perform_success s1 e a ha.plain ha.grant h

theorem step_authenticated (h0 : s.authenticated = false) (h1 : (step sc sid s p b e).1.authenticated = true) :
    msgSuccess ∈ (step sc sid s p b e).2.sent := by
  rcases step_cases sc sid s p b e with ⟨_, hs⟩ | ⟨_, s1, a, hf, _, hs⟩ <;> rw [hs] at h1 ⊢
  · rw [h0] at h1; cases h1
  · exact perform_authenticated s1 e a (hf.authenticated.trans h0) h1

theorem step_not_authenticated (h0 : s.authenticated = false) (hns : msgSuccess ∉ (step sc sid s p b e).2.sent) :
    (step sc sid s p b e).1.authenticated = false :=
  Bool.eq_false_iff.mpr fun h1 => hns (step_authenticated sc sid s p b e h0 h1)

theorem step_auth_mono (h : s.authenticated = true) : (step sc sid s p b e).1.authenticated = true := by
  rcases step_cases sc sid s p b e with ⟨_, hs⟩ | ⟨_, s1, a, hf, _, hs⟩ <;> rw [hs]
  · exact h
  · exact perform_auth_mono s1 e a (hf.authenticated.trans h)
end step

theorem run_authenticated (sc : SigScheme) (sid : Bytes) (s : St) (ms : List Msg) (h0 : s.authenticated = false)
    (h1 : (run sc sid s ms).1.authenticated = true) :
    ∃ o ∈ (run sc sid s ms).2, msgSuccess ∈ o.sent ∧ ∃ c ∈ o.cbs, c.approves := by
  induction ms generalizing s with
  | nil => rw [show (run sc sid s []).1 = s from rfl, h0] at h1; cases h1
  | cons m ms ih =>
    rw [run_cons] at h1 ⊢
    cases hstep : (step sc sid s m.ptype m.payload m.env).1.authenticated
    · obtain ⟨o, ho, hr⟩ := ih _ hstep h1
      exact ⟨o, List.mem_cons_of_mem _ ho, hr⟩
    · have hs := step_authenticated sc sid s m.ptype m.payload m.env h0 hstep
      exact ⟨_, List.mem_cons_self, hs, step_success sc sid s m.ptype m.payload m.env hs⟩

end PV.AuthServer
