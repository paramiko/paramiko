/-
  Helper lemmas for PV.Model.CheckFile (property theorems: PV/Props/C32.lean).
-/
import PV.Model.CheckFile
namespace PV.CheckFile
open PV

/-- the streaming law of a hash object: its state stands for the bytes absorbed so far and `digest` is the
one-shot hash `H` of them (`hashlib` guarantees `h.update(a); h.update(b)` ≡ `h.update(a + b)`) -/
structure HashLaws (A : HashAlg) (H : Bytes → Bytes) : Prop where
  ex : ∃ absorbed : A.σ → Bytes, absorbed A.init = [] ∧
    (∀ h d, absorbed (A.update h d) = absorbed h ++ d) ∧ (∀ h, A.digest h = H (absorbed h))

/-- a handle that returns at least one byte when asked for at least one (before EOF) -/
def Env.Progress (e : Env) : Prop := ∀ off n, 0 < n → 0 < e.short off n

theorem take_length_take (X : Bytes) (k : Nat) : X.take (X.take k).length = X.take k := by
  have h := List.take_take (i := (X.take k).length) (j := k) (l := X)
  rw [List.take_length] at h
  have hm : min (X.take k).length k = (X.take k).length := by
    simp only [List.length_take]; omega
  rw [hm] at h
  exact h.symm

/-! ### the inner loop reads exactly the block (or up to EOF) -/

/-- one read of at most `k` bytes at position `c` of `D`, inside a block that ends at `min b D.length` -/
theorem read_step (D : Bytes) (b c k : Nat) (hc : c ≤ min b D.length) (hk1 : 0 < k) (hk2 : k ≤ b - c) :
    ((D.drop c).take k = [] → c = min b D.length) ∧
    c + ((D.drop c).take k).length ≤ min b D.length ∧
    D.take c ++ (D.drop c).take k = D.take (c + ((D.drop c).take k).length) := by
  have hlen : ((D.drop c).take k).length = min k (D.length - c) := by
    rw [List.length_take, List.length_drop]
  refine ⟨fun h => ?_, by rw [hlen]; omega, by rw [List.take_add, take_length_take]⟩
  rw [h, List.length_nil] at hlen
  omega

theorem fuel_step {b c l f : Nat} (h1 : c < b) (h2 : 0 < l) (h3 : b - c < f + 1) : b - (c + l) < f := by omega

/-- `D` = the file from `off0` on; `n` = the block clipped at end of file -/
theorem inner_spec (A : HashAlg) (e : Env) (hp : e.Progress) (hre : ∀ off n, e.readErr off n = none)
    (blocklen off0 : Nat) (absorbed : A.σ → Bytes) (hupd : ∀ h d, absorbed (A.update h d) = absorbed h ++ d)
    (D : Bytes) (hD : e.content.drop off0 = D) (n : Nat) (hn : n = min blocklen D.length) :
    ∀ (fuel count : Nat) (h : A.σ), count ≤ n → blocklen - count < fuel → absorbed h = D.take count →
      ∃ h', inner A e blocklen fuel count (off0 + count) h = some (.ok (n, off0 + n, h')) ∧
        absorbed h' = D.take n := by
  intro fuel
  induction fuel with
  | zero => intro count h _ hf; omega
  | succ fuel ih =>
    intro count h hle hf habs
    unfold inner
    split
    · next hlt =>
      simp only [hre]
      -- the read returns `k > 0` bytes of what is left of `D`, if anything is left
      have hm : 0 < min (blocklen - count) CHUNK := Nat.lt_min.2 ⟨Nat.sub_pos_of_lt hlt, by decide⟩
      have hs := hp (off0 + count) _ hm
      generalize hk : min (min (blocklen - count) CHUNK) (e.short (off0 + count) (min (blocklen - count) CHUNK)) = k
      have hk1 : 0 < k := hk ▸ Nat.lt_min.2 ⟨hm, hs⟩
      have hk2 : k ≤ blocklen - count := hk ▸ Nat.le_trans (Nat.min_le_left ..) (Nat.min_le_left ..)
      have hread : e.read (off0 + count) (min (blocklen - count) CHUNK) = (D.drop count).take k := by
        rw [Env.read, hk, ← hD, List.drop_drop]
      obtain ⟨r1, r2, r3⟩ := read_step D blocklen count k (hn ▸ hle) hk1 hk2
      rw [hread]
      split
      · next hnil => -- EOF
        rw [hn, ← r1 hnil]; exact ⟨h, rfl, habs⟩
      · next hnil =>
        have hpos : 0 < ((D.drop count).take k).length := List.length_pos_iff.mpr hnil
        rw [Nat.add_assoc]
        exact ih _ _ (hn ▸ r2) (fuel_step hlt hpos hf) (by rw [hupd, habs, r3])
    · next hge =>
      have : count = n := Nat.le_antisymm hle (hn ▸ Nat.le_trans (Nat.min_le_left ..) (Nat.le_of_not_lt hge))
      subst this; exact ⟨h, rfl, habs⟩

theorem chunks_nil (bs f : Nat) : chunks bs f [] = [] := by
  cases f <;> simp [chunks]

theorem chunks_fuel2 (bs : Nat) (hbs : 1 ≤ bs) : ∀ (f g : Nat) (d : Bytes), d.length ≤ f → d.length ≤ g →
    chunks bs f d = chunks bs g d := by
  intro f
  induction f with
  | zero =>
    intro g d hd _
    have : d = [] := List.eq_nil_of_length_eq_zero (by omega)
    subst this; rw [chunks_nil, chunks_nil]
  | succ f ih =>
    intro g d hf hg
    by_cases hnil : d = []
    · subst hnil; rw [chunks_nil, chunks_nil]
    · have hpos : 0 < d.length := List.length_pos_iff.mpr hnil
      obtain ⟨g', rfl⟩ : ∃ g', g = g' + 1 := ⟨g - 1, by omega⟩
      simp only [chunks, hnil, if_false]
      have h1 : (d.drop bs).length ≤ f := by simp [List.length_drop]; omega
      have h2 : (d.drop bs).length ≤ g' := by simp [List.length_drop]; omega
      rw [ih g' (d.drop bs) h1 h2]

theorem chunks_fuel (bs : Nat) (hbs : 1 ≤ bs) (f : Nat) (d : Bytes) (h : d.length ≤ f) :
    chunks bs f d = blocksOf bs d :=
  chunks_fuel2 bs hbs f d.length d h (Nat.le_refl _)

theorem blocksOf_nil (bs : Nat) : blocksOf bs [] = [] := rfl

theorem blocksOf_cons (bs : Nat) (hbs : 1 ≤ bs) (d : Bytes) (hd : d ≠ []) :
    blocksOf bs d = d.take bs :: blocksOf bs (d.drop bs) := by
  have hpos : 0 < d.length := List.length_pos_iff.mpr hd
  obtain ⟨n, hn⟩ : ∃ n, d.length = n + 1 := ⟨d.length - 1, by omega⟩
  unfold blocksOf
  rw [hn]
  simp only [chunks, hd, if_false]
  have : (d.drop bs).length ≤ n := by simp [List.length_drop]; omega
  rw [chunks_fuel2 bs hbs n (d.drop bs).length (d.drop bs) this (Nat.le_refl _)]

/-! ### the outer loop emits the hash of every block of the remaining range -/

theorem range_split (D : Bytes) (bs len : Nat) :
    (D.take len).take bs = D.take (min bs len) ∧
    (D.take len).drop bs = (D.drop (min bs len)).take (len - min bs len) := by
  refine ⟨List.take_take .., ?_⟩
  rw [List.drop_take]
  by_cases h : bs ≤ len
  · rw [Nat.min_eq_left h]
  · have h' : len ≤ bs := Nat.le_of_not_le h
    rw [Nat.min_eq_right h', Nat.sub_self, Nat.sub_eq_zero_of_le h', List.take_zero, List.take_zero]

theorem outer_spec (A : HashAlg) (H : Bytes → Bytes) (hl : HashLaws A H) (e : Env) (hp : e.Progress)
    (hre : ∀ off n, e.readErr off n = none) (endpos bs : Nat) (hbs : 1 ≤ bs) :
    ∀ (fuel offset : Nat) (out : Bytes), endpos - offset < fuel →
      outer A e endpos bs fuel offset out
        = some (.ok (out ++ (blocksOf bs ((e.content.drop offset).take (endpos - offset))).flatMap H)) := by
  obtain ⟨absorbed, hinit, hupd, hdig⟩ := hl.ex
  intro fuel
  induction fuel with
  | zero => intro offset out hf; omega
  | succ fuel ih =>
    intro offset out hf
    unfold outer
    by_cases hlt : offset < endpos
    · simp only [hlt, if_true]
      generalize hD : e.content.drop offset = D
      generalize hlen : endpos - offset = len at hf ⊢
      have hlen1 : 1 ≤ len := hlen ▸ Nat.sub_pos_of_lt hlt
      obtain ⟨hfirst, hrest⟩ := range_split D bs len
      generalize hb : min bs len = b at hfirst hrest ⊢
      have hb1 : 1 ≤ b := hb ▸ Nat.le_min.2 ⟨hbs, hlen1⟩
      have hb2 : b ≤ len := hb ▸ Nat.min_le_right ..
      -- the block loop absorbs `D.take b`: all `n` bytes of it
      obtain ⟨h', hin, habs⟩ := inner_spec A e hp hre b offset absorbed hupd D hD (min b D.length) rfl
        (b + 1) 0 A.init (Nat.zero_le _) (Nat.lt_succ_self _) hinit
      rw [← List.take_eq_take_min] at habs
      generalize hn : min b D.length = n at hin
      have hn0' : n ≤ b := hn ▸ Nat.min_le_left ..
      have hn1 : n ≤ D.length := hn ▸ Nat.min_le_right ..
      have hn2 : n = b ∨ n = D.length := by rw [← hn, Nat.min_def]; split; exact .inl rfl; exact .inr rfl
      clear hb hn
      simp only [Nat.add_zero] at hin
      simp only [hin]
      split
      · next hn0 => -- nothing left
        have : D = [] := List.eq_nil_of_length_eq_zero (by omega)
        rw [this, List.take_nil, blocksOf_nil]; simp
      · next hn0 =>
        have hne : D.take len ≠ [] := fun h => by
          have := congrArg List.length h
          rw [List.length_take, List.length_nil] at this; omega
        rw [blocksOf_cons bs hbs _ hne, List.flatMap_cons, hfirst, hdig h', habs, hrest]
        split
        · next hshort => -- EOF inside this block: it was the last one
          rw [List.drop_eq_nil_of_le (by omega), List.take_nil, blocksOf_nil]; simp
        · next hfull =>
          have hnb : n = b := by omega
          have hrec := ih (offset + b) (out ++ H (D.take b)) (by omega)
          rw [hnb, hrec, List.append_assoc, ← List.drop_drop, hD, show endpos - (offset + b) = len - b by omega]
    · simp only [hlt, if_false]
      rw [show endpos - offset = 0 by omega]; simp [blocksOf_nil]

/-! ### termination in general (failing reads included) -/

theorem offset_shift {o l c c' : Nat} (h : c + l ≤ c') : o + l + (c' - (c + l)) = o + (c' - c) := by omega

/-- with fuel for one read per byte the block loop ends: in a read's error code, or having moved the offset by
what it counted -/
theorem inner_total (A : HashAlg) (e : Env) (blocklen : Nat) :
    ∀ (fuel count offset : Nat) (h : A.σ), blocklen - count < fuel →
      (∃ code, inner A e blocklen fuel count offset h = some (.error code)) ∨
      ∃ c' h', inner A e blocklen fuel count offset h = some (.ok (c', offset + (c' - count), h')) ∧
        count ≤ c' := by
  intro fuel
  induction fuel with
  | zero => intro count offset h hf; omega
  | succ fuel ih =>
    intro count offset h hf
    have stop : offset = offset + (count - count) := by rw [Nat.sub_self, Nat.add_zero]
    unfold inner
    split
    · next hlt =>
      split
      · exact .inl ⟨_, rfl⟩
      · generalize e.read offset (min (blocklen - count) CHUNK) = data
        simp only
        split
        · exact .inr ⟨count, h, by rw [← stop], Nat.le_refl _⟩
        · next hnil =>
          have hlen : 0 < data.length := List.length_pos_iff.mpr hnil
          rcases ih (count + data.length) (offset + data.length) (A.update h data) (fuel_step hlt hlen hf) with
            ⟨code, hi⟩ | ⟨c', h', hi, hle⟩
          · exact .inl ⟨code, hi⟩
          · exact .inr ⟨c', h', by rw [hi, offset_shift hle], Nat.le_trans (Nat.le_add_right ..) hle⟩
    · exact .inr ⟨count, h, by rw [← stop], Nat.le_refl _⟩

theorem outer_total (A : HashAlg) (e : Env) (endpos bs : Nat) :
    ∀ (fuel offset : Nat) (out : Bytes), endpos - offset < fuel →
      outer A e endpos bs fuel offset out ≠ none := by
  intro fuel
  induction fuel with
  | zero => intro offset out hf; omega
  | succ fuel ih =>
    intro offset out hf
    unfold outer
    split
    · generalize min bs (endpos - offset) = bl
      rcases inner_total A e bl (bl + 1) 0 offset A.init (Nat.lt_succ_of_le (Nat.sub_le ..)) with
        ⟨code, hi⟩ | ⟨count, h', hi, _⟩
      · simp [hi]
      · simp only [hi]
        split
        · simp
        · split
          · simp
          · exact ih _ _ (by omega)
    · simp

theorem selectAlg_mem {known algs : List Bytes} {a : Bytes} (h : selectAlg known algs = some a) :
    a ∈ known ∧ a ∈ algs := by
  induction algs with
  | nil => cases h
  | cons x r ih =>
    simp only [selectAlg] at h
    split at h
    · next hx => cases h; exact ⟨hx, List.mem_cons_self⟩
    · exact ⟨(ih h).1, List.mem_cons_of_mem _ (ih h).2⟩

end PV.CheckFile
