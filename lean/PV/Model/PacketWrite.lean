/-
  PV.Model.PacketWrite — `write_all`: whatever the socket's `send` does (short writes, timeouts, EAGAIN, in any
  order), the bytes accepted by the socket are the packet (when `write_all` returns) or a prefix of it (when it
  raises EOFError); nothing is skipped, duplicated or reordered.
-/
import PV.Model.Packet
namespace PV.Packet
open PV

/-- what `write_all` owes: on return the socket accepted `out` after `w`, on `EOFError` a proper prefix of it -/
def WritePost (out w : Bytes) : WRes → Prop
  | .ok wr => wr = w ++ out
  | .eof wr => ∃ k, wr = w ++ out.take k ∧ k < out.length

/-- a short write of `n` bytes: what is owed for the rest is owed for the whole -/
theorem WritePost.step {out w : Bytes} {n : Nat} (hn : n < out.length) {R : WRes}
    (h : WritePost (out.drop n) (w ++ out.take n) R) : WritePost out w R := by
  cases R with
  | ok wr => exact h.trans (by rw [List.append_assoc, List.take_append_drop])
  | eof wr =>
    obtain ⟨j, hj, hjl⟩ := h
    rw [List.length_drop] at hjl
    exact ⟨n + j, by rw [hj, List.append_assoc, List.take_add], by omega⟩

theorem writeAll_post (sched : List SendEv) : ∀ (out : Bytes) (it : Nat) (w : Bytes),
    WritePost out w (writeAll sched out it w) := by
  induction sched with
  | nil =>
    intro out it w
    cases out with
    | nil => exact (List.append_nil w).symm
    | cons x xs => exact rfl
  | cons ev t ih =>
    intro out it w
    cases out with
    | nil => exact (List.append_nil w).symm
    | cons x xs =>
      cases ev with
      | fail => exact ⟨0, (List.append_nil w).symm, Nat.succ_pos _⟩
      | timeout => exact ih (x :: xs) it w
      | eagain => exact ih (x :: xs) it w
      | accept k =>
        simp only [writeAll]
        split
        · exact ⟨0, (List.append_nil w).symm, Nat.succ_pos _⟩
        · split
          · exact rfl
          · exact .step (by rw [List.length_cons]; omega) (ih _ _ _)

theorem writeAll_spec (sched : List SendEv) : ∀ (out : Bytes) (it : Nat) (w : Bytes),
    (∀ wr, writeAll sched out it w = .ok wr → wr = w ++ out) ∧
    (∀ wr, writeAll sched out it w = .eof wr → ∃ k, wr = w ++ out.take k ∧ k < out.length) := by
  intro out it w
  have h := writeAll_post sched out it w
  exact ⟨fun wr e => by rw [e] at h; exact h, fun wr e => by rw [e] at h; exact h⟩
/-- the sender writing through `write_all` under arbitrary `send` schedules puts exactly the bytes of `sendAll` on
the socket (whenever no `write_all` raised) -/
theorem sendAllW_eq {p : Prims} (ops : List (Op p)) : ∀ (s : Sender p) (scheds : List (List SendEv)) s' w,
    sendAllW s ops scheds = .ok (s', w) → ∃ log, sendAll s ops = .ok (s', w, log) := by
  induction ops with
  | nil =>
    intro s scheds s' w h
    cases h
    exact ⟨[], rfl⟩
  | cons op ops ih =>
    intro s scheds s' w h
    cases op with
    | msg d rnd =>
      simp only [sendAllW] at h
      simp only [sendAll]
      cases hsm : sendMessage s d rnd with
      | error e => rw [hsm] at h; cases h
      | ok o =>
        cases hw : writeAll (scheds.headD []) o.wire 0 [] with
        | eof wr => simp only [hsm, hw] at h; cases h
        | ok wr =>
          cases hsa : sendAllW o.st ops scheds.tail with
          | error e => simp only [hsm, hw, hsa] at h; cases h
          | ok res =>
            obtain ⟨s1, w1⟩ := res
            simp only [hsm, hw, hsa] at h
            cases h
            obtain ⟨log, hl⟩ := ih o.st scheds.tail s' w1 hsa
            have hwr : wr = o.wire := (writeAll_spec _ o.wire 0 []).1 wr hw
            simp only [hl, hwr]
            exact ⟨_, rfl⟩
    | _ => exact ih _ _ _ _ h

end PV.Packet
