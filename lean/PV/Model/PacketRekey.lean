/-
  PV.Model.PacketRekey — the rekey accounting of `read_message`: the receiver's own rekey request and the
  overflow allowance.  A history whose key epochs each stay below the allowance (packets and bytes) is delivered
  completely whatever the thresholds are; the accounting never changes what is delivered before it raises.
-/
import PV.Model.Packet
namespace PV.Packet
open PV

/-- as long as the accounting does not raise, the receiver with accounting delivers what the receiver without it
delivers and stops for the same reason (on ANY byte string) -/
theorem recvAllK_spec {p : Prims} (L : Limits) (ops : List (Op p)) : ∀ (r : Receiver p) (k : RekeySt) (buf : Bytes) k',
    accountAll L k (recvAll r ops buf).accts = .ok k' →
    recvAllK L r k ops buf = ((recvAll r ops buf).msgs, (recvAll r ops buf).stop) := by
  induction ops with
  | nil => intro r k buf k' _; rfl
  | cons op ops ih =>
    intro r k buf k' h
    cases op with
    | msg d rnd =>
      simp only [recvAll, recvAllK] at h ⊢
      cases hrun : runBuf (readMessage r) buf with
      | err e => simp only
      | ok o rest =>
        rw [hrun] at h
        simp only [accountAll] at h ⊢
        cases ha : account L k o.raw with
        | error e => rw [ha] at h; cases h
        | ok k1 =>
          rw [ha] at h
          simp only at h ⊢
          rw [ih o.st k1 rest k' h]
    | _ => exact ih _ _ _ k' h

/-- **in-flight ≤ allowance**: with `n` packets / `b` bytes already counted in the current key epoch, every epoch of
the trace stays strictly below the overflow allowance, in packets and in bytes -/
def RunOk (L : Limits) : Nat → Nat → List Acct → Prop
  | _, _, [] => True
  | n, b, .pkt raw :: t => n + 1 < L.ovPackets ∧ b + raw < L.ovBytes ∧ RunOk L (n + 1) (b + raw) t
  | _, _, .switch :: t => RunOk L 0 0 t

instance RunOk.dec (L : Limits) : ∀ (n b : Nat) (tr : List Acct), Decidable (RunOk L n b tr)
  | _, _, [] => isTrue trivial
  | n, b, .pkt raw :: t =>
    have := RunOk.dec L (n + 1) (b + raw) t
    by unfold RunOk; exact inferInstance
  | _, _, .switch :: t => by unfold RunOk; exact RunOk.dec L 0 0 t

theorem account_ok (L : Limits) (k : RekeySt) (raw n b : Nat) (hn : k.ovPackets ≤ n) (hb : k.ovBytes ≤ b)
    (h1 : n + 1 < L.ovPackets) (h2 : b + raw < L.ovBytes) :
    ∃ k', account L k raw = .ok k' ∧ k'.ovPackets ≤ n + 1 ∧ k'.ovBytes ≤ b + raw := by
  unfold account
  split
  · rw [if_neg (by simp only; omega)]
    exact ⟨_, rfl, Nat.succ_le_succ hn, Nat.add_le_add_right hb raw⟩
  · simp only
    split
    · exact ⟨_, rfl, Nat.zero_le _, Nat.zero_le _⟩
    · exact ⟨_, rfl, Nat.le_succ_of_le hn, Nat.le_trans hb (Nat.le_add_right b raw)⟩

/-- below the allowance the accounting never raises — whatever `REKEY_PACKETS` / `REKEY_BYTES` are and whenever the
receiver's own request is triggered -/
theorem accountAll_ok (L : Limits) (tr : List Acct) : ∀ (k : RekeySt) (n b : Nat),
    k.ovPackets ≤ n → k.ovBytes ≤ b → RunOk L n b tr → ∃ k', accountAll L k tr = .ok k' := by
  induction tr with
  | nil => intro k n b _ _ _; exact ⟨k, rfl⟩
  | cons a t ih =>
    intro k n b hn hb hr
    cases a with
    | switch =>
      simp only [accountAll]
      exact ih k.switched 0 0 (Nat.le_refl _) (Nat.le_refl _) hr
    | pkt raw =>
      obtain ⟨h1, h2, h3⟩ := hr
      obtain ⟨k1, e1, e2, e3⟩ := account_ok L k raw n b hn hb h1 h2
      simp only [accountAll, e1]
      exact ih k1 (n + 1) (b + raw) e2 e3 h3

end PV.Packet
