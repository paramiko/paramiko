/-
  Helper lemmas for PV.Model.PubKey.
-/
import PV.Model.PubKey
import PV.Model.SigLemmas
namespace PV.PubKey
open PV PV.Wire PV.KeyUtf8 PV.Sig

theorem deflate_length_int (z : Int) (k : Nat) (h0 : 0 ≤ z) (h : z.toNat < 256 ^ k) :
    (deflate z).length ≤ k + 1 := by
  have := deflate_length_nat z.toNat k h
  rwa [Int.toNat_of_nonneg h0] at this

theorem beVal_zeros_append (k : Nat) (b : Bytes) : beVal (zeros k ++ b) = beVal b := by
  induction k with
  | zero => simp [zeros]
  | succ k ih =>
    have : zeros (k + 1) ++ b = (0 : UInt8) :: (zeros k ++ b) := by simp [zeros, List.replicate_succ]
    rw [this, beVal_cons, ih]; simp

theorem padCoord_val (w x : Nat) : beVal (padCoord w x) = x := by
  unfold padCoord
  simp only
  rw [beVal_zeros_append]
  split
  · next h => subst h; simp [beVal]
  · exact beVal_natBytes x

theorem padCoord_length (w x : Nat) (hw : 0 < w) (h : x < 256 ^ w) : (padCoord w x).length = w := by
  unfold padCoord
  simp only
  split
  · simp [zeros]; omega
  · have := natBytes_length_le x w h
    simp [zeros]; omega

theorem getString_after {c : Bytes} (pre s rest : Bytes) (hc : c = pre ++ encStr s ++ rest) (h : s.length < 4294967296) :
    Rd.getString { content := c, pos := pre.length } = (s, { content := c, pos := (pre ++ encStr s).length }) := by
  subst hc
  rw [getString_exact pre s rest h, List.length_append]

theorem getTextE_at {c : Bytes} (pre s rest : Bytes) (hc : c = pre ++ encStr s ++ rest) (h : s.length < 4294967296)
    (hv : utf8Valid s = true) :
    getTextE { content := c, pos := pre.length } = .ok (s, { content := c, pos := (pre ++ encStr s).length }) := by
  unfold getTextE getText
  rw [getString_after pre s rest hc h]
  simp [hv]

theorem getTextE_head {c : Bytes} (s rest : Bytes) (hc : c = encStr s ++ rest) (h : s.length < 4294967296)
    (hv : utf8Valid s = true) :
    getTextE { content := c, pos := 0 } = .ok (s, { content := c, pos := (encStr s).length }) :=
  getTextE_at [] s rest hc h hv

theorem checkType_plain {blob : Bytes} (types : List Bytes) (t rest : Bytes) (hb : blob = encStr t ++ rest)
    (hl : t.length < 4294967296) (hv : utf8Valid t = true) (hm : types.contains t = true) :
    checkType blob types = .ok (none, { content := blob, pos := (encStr t).length }) := by
  unfold checkType
  rw [getTextE_head t rest hb hl hv]
  simp only [hm, if_true]

/-- a certificate type name: the whole blob is kept as the certificate, the reader stands behind the nonce -/
theorem checkType_cert {blob : Bytes} (types : List Bytes) (t nonce rest : Bytes)
    (hb : blob = encStr t ++ encStr nonce ++ rest)
    (hl : t.length < 4294967296) (hv : utf8Valid t = true) (hn : types.contains t = false)
    (hm : (types.map (· ++ certSuffix)).contains t = true) (hnonce : nonce.length < 4294967296) :
    checkType blob types = .ok (some blob, { content := blob, pos := (encStr t ++ encStr nonce).length }) := by
  unfold checkType
  rw [getTextE_head t (encStr nonce ++ rest) (by rw [hb, List.append_assoc]) hl hv]
  simp only [hn, hm, if_true, Bool.false_eq_true, if_false]
  rw [getString_after (encStr t) nonce rest hb hnonce]

theorem encMpint_eq (z : Int) : encMpint z = encStr (if z = 0 then [] else deflate z) := rfl

end PV.PubKey
