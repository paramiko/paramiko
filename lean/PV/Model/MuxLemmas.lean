/-
  Lemmas about PV.Model.Mux: the transport's step by kind of action and by its effect on the table, one action on one
  registered channel, and the per-channel accounts of a history split at its first action.
-/
import PV.Model.Mux
namespace PV.Mux
open PV

theorem setTab_other (m : Mux) (i c : Nat) (x : Chan) (h : c ≠ i) : (setTab m i x).tab c = m.tab c :=
  if_neg h

theorem setTab_same (m : Mux) (i : Nat) (x : Chan) : (setTab m i x).tab i = some x := if_pos rfl

theorem step_cases (m : Mux) (a : Act) :
    (a.arrival = true ∧ step m a = if m.alive then deliver m a else m) ∨
    ((∃ c, a = .open c) ∧ step m a = if m.alive then openChan m a.chan else m) ∨
    (a.arrival = false ∧ step m a = appCall m a) := by
  cases a with
  | data _ _ | ext _ _ _ | eof _ | exitStatus _ _ | remoteClose _ => exact .inl ⟨rfl, rfl⟩
  | «open» c => exact .inr (.inl ⟨⟨c, rfl⟩, rfl⟩)
  | _ => exact .inr (.inr ⟨rfl, rfl⟩)

theorem step_arrival (m : Mux) (a : Act) (ha : a.arrival = true) :
    step m a = if m.alive then deliver m a else m := by
  rcases step_cases m a with ⟨_, e⟩ | ⟨⟨c, rfl⟩, _⟩ | ⟨h, _⟩
  · exact e
  · cases ha
  · rw [h] at ha; cases ha

theorem step_effect (m : Mux) (a : Act) :
    step m a = m ∨ (∃ x, step m a = setTab m a.chan x) ∨
      (a.arrival = true ∧ m.tab a.chan = none ∧ step m a = die m) := by
  rcases step_cases m a with ⟨ha, e⟩ | ⟨_, e⟩ | ⟨_, e⟩ <;> rw [e]
  · unfold deliver
    cases m.alive
    · exact .inl rfl
    · cases hc : m.tab a.chan with
      | none => exact .inr (.inr ⟨ha, rfl, rfl⟩)
      | some ch =>
        dsimp only
        cases ch.linked
        · exact .inl rfl
        · exact .inr (.inl ⟨_, rfl⟩)
  · unfold openChan
    cases m.alive
    · exact .inl rfl
    · cases m.tab a.chan with
      | none => exact .inr (.inl ⟨_, rfl⟩)
      | some ch =>
        dsimp only
        cases ch.linked
        · exact .inr (.inl ⟨_, rfl⟩)
        · exact .inl rfl
  · unfold appCall
    cases m.tab a.chan with
    | none => exact .inl rfl
    | some ch => exact .inr (.inl ⟨_, rfl⟩)

theorem chanStep_linked (ch : Chan) (a : Act) (h : ch.linked = true) (ha : staysLinked a.chan [a] = true) :
    (chanStep ch a).linked = true := by
  cases a with
  -- only the peer's CLOSE unlinks, and the history has none for this channel
  | remoteClose c => simp [staysLinked, Act.chan] at ha
  | ext | setCombine | setCombineOldA => simp only [chanStep]; (repeat' split) <;> exact h
  | _ => exact h

theorem step_keeps_some (m : Mux) (a : Act) (i : Nat) (h : (m.tab i).isSome = true) :
    ((step m a).tab i).isSome = true := by
  rcases step_effect m a with e | ⟨x, e⟩ | ⟨_, _, e⟩ <;> rw [e]
  · exact h
  · show (if i = a.chan then some x else m.tab i).isSome = true
    split
    · rfl
    · exact h
  · show ((m.tab i).map kill).isSome = true
    rw [Option.isSome_map]; exact h

theorem staysLinked_cons (c : Nat) (a : Act) (rest : List Act) :
    staysLinked c (a :: rest) = (staysLinked c [a] && staysLinked c rest) := by
  cases a <;> simp [staysLinked]

theorem step_on_linked (m : Mux) (a : Act) (ch : Chan) (h : m.tab a.chan = some ch) (hl : ch.linked = true)
    (hal : m.alive = true) (hs : staysLinked a.chan [a] = true) :
    (step m a).tab a.chan = some (chanStep ch a) ∧ (step m a).alive = true := by
  suffices e : step m a = setTab m a.chan (chanStep ch a) by rw [e]; exact ⟨setTab_same .., hal⟩
  rcases step_cases m a with ⟨_, e⟩ | ⟨⟨c, rfl⟩, _⟩ | ⟨_, e⟩
  · rw [e, hal, deliver, h]; simp [hl]
  · simp [staysLinked, Act.chan] at hs
  · rw [e, appCall, h]

theorem step_off_channel (m : Mux) (a : Act) (c : Nat) (ch : Chan) (h : m.tab c = some ch) (hne : c ≠ a.chan)
    (hal : m.alive = true) (hka : a.arrival = true → (m.tab a.chan).isSome = true) :
    (step m a).tab c = some ch ∧ (step m a).alive = true := by
  rcases step_effect m a with e | ⟨x, e⟩ | ⟨ha, hn, _⟩
  · rw [e]; exact ⟨h, hal⟩
  · rw [e, setTab_other m _ c x hne]; exact ⟨h, hal⟩
  · rw [hn] at hka; cases hka ha

theorem readBuf_conserve (buf : Bytes) (closed : Bool) (n : Nat) :
    (readBuf buf closed n).1.bytes ++ (readBuf buf closed n).2 = buf := by
  unfold readBuf
  split
  · split <;> simp [Res.bytes]
  · simp [Res.bytes]

theorem sentOut_cons (c : Nat) (a : Act) (rest : List Act) :
    sentOut c (a :: rest) = sentOut c [a] ++ sentOut c rest := by
  cases a <;> simp [sentOut]

theorem sentErr_cons (c : Nat) (a : Act) (rest : List Act) :
    sentErr c (a :: rest) = sentErr c [a] ++ sentErr c rest := by
  cases a <;> simp [sentErr]

theorem sentBoth_cons (c : Nat) (a : Act) (rest : List Act) :
    sentBoth c (a :: rest) = sentBoth c [a] ++ sentBoth c rest := by
  cases a <;> simp [sentBoth]

theorem neverCombines_cons (c : Nat) (a : Act) (rest : List Act) :
    neverCombines c (a :: rest) = (neverCombines c [a] && neverCombines c rest) := by
  cases a <;> simp [neverCombines]

theorem keepsCombining_cons (c : Nat) (a : Act) (rest : List Act) :
    keepsCombining c (a :: rest) = (keepsCombining c [a] && keepsCombining c rest) := by
  cases a <;> simp [keepsCombining]

theorem exit_step (c : Nat) (ch : Chan) (a : Act) (ha : a.chan = c) :
    (chanStep ch a).exit = (match lastExit c [a] with | some v => some v | none => ch.exit) := by
  cases a with
  -- only an exit status touches `exit`
  | exitStatus c' v => subst ha; simp [chanStep, lastExit, Act.chan]
  | ext | setCombine | setCombineOldA => simp only [chanStep, lastExit]; (repeat' split) <;> rfl
  | _ => rfl

theorem lastExit_cons (c : Nat) (a : Act) (rest : List Act) :
    lastExit c (a :: rest) = (match lastExit c rest with | some w => some w | none => lastExit c [a]) := by
  cases a with
  | exitStatus c' v => rfl
  | _ =>
    show lastExit c rest = _
    cases lastExit c rest <;> rfl

theorem filter_all (c : Nat) (acts : List Act) : ∀ a ∈ acts.filter (fun a => a.chan == c), a.chan = c :=
  fun _ ha => beq_iff_eq.1 (List.mem_filter.1 ha).2

/-- a per-channel account of the history (`sentOut c`, `sentErr c`) that is additive over actions and empty on the
actions of other channels does not see those actions -/
theorem filter_sent {f : List Act → Bytes} (c : Nat) (hcons : ∀ a rest, f (a :: rest) = f [a] ++ f rest)
    (hoff : ∀ a, a.chan ≠ c → f [a] = []) (acts : List Act) :
    f (acts.filter (fun a => a.chan == c)) = f acts := by
  induction acts with
  | nil => rfl
  | cons a rest ih =>
    rw [List.filter_cons]
    split
    · rw [hcons, ih, hcons a rest]
    · rename_i h
      rw [ih, hcons a rest, hoff a (fun e => h (beq_iff_eq.2 e))]; rfl

theorem sentOut_off (c : Nat) (a : Act) (h : a.chan ≠ c) : sentOut c [a] = [] := by
  cases a <;> first | rfl | exact (List.append_nil _).trans (if_neg h)

theorem sentErr_off (c : Nat) (a : Act) (h : a.chan ≠ c) : sentErr c [a] = [] := by
  cases a <;> first | rfl | exact (List.append_nil _).trans (if_neg fun e => h e.1)

theorem neverCombines_filter (c : Nat) (acts : List Act) (h : neverCombines c acts = true) :
    neverCombines c (acts.filter (fun a => a.chan == c)) = true := by
  induction acts with
  | nil => rfl
  | cons a rest ih =>
    rw [neverCombines_cons, Bool.and_eq_true] at h
    rw [List.filter_cons]
    split
    · rw [neverCombines_cons, h.1, ih h.2]; rfl
    · exact ih h.2

end PV.Mux
