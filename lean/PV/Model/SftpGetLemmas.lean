import PV.Model.SftpGet
import PV.Model.PrefetchLemmas
namespace PV.SftpGet
open PV PV.Prefetch

theorem slice_eq (f : Bytes) (o n : Nat) : SftpGet.slice f o n = Prefetch.slice f o n := rfl

theorem rawRead_some {remote : Bytes} {pos size : Nat} {o : RdOut} {x : Bytes}
    (h : rawRead remote pos size o = .ok (some x)) : IsSl remote pos x ∧ 0 < x.length ∧ x.length ≤ size := by
  unfold rawRead at h
  cases o with
  | fail c => simp at h
  | drop => simp at h
  | data k =>
    simp only at h
    split at h
    · simp at h
    · rename_i hav
      simp only [Except.ok.injEq, Option.some.injEq] at h
      subst h
      exact isSl_served _ _ _ _ hav

theorem rawRead_none {remote : Bytes} {pos size : Nat} {o : RdOut} (hs : 0 < size)
    (h : rawRead remote pos size o = .ok none) : remote.length ≤ pos := by
  unfold rawRead at h
  cases o with
  | fail c => simp at h
  | drop => simp at h
  | data k =>
    simp only at h
    split at h
    · omega
    · simp at h

/-- the read loop returns file content at `pos`; a short result means end of file was reached -/
theorem readLoop_spec {remote : Bytes} {maxReq : Nat} (hm : 0 < maxReq) :
    ∀ (fuel pos want : Nat) (got : Bytes) (plan : List RdOut) (d : Bytes) (plan' : List RdOut),
      want - got.length < fuel → IsSl remote pos got →
      readLoop remote maxReq fuel pos want got plan = .ok (d, plan') →
      IsSl remote pos d ∧ (d.length < want → remote.length ≤ pos + d.length) := by
  intro fuel
  induction fuel with
  | zero => intro pos want got plan d plan' h; omega
  | succ fuel ih =>
    intro pos want got plan d plan' hf hg h
    unfold readLoop at h
    by_cases hw : got.length ≥ want
    · simp only [hw, if_true] at h
      simp only [Except.ok.injEq, Prod.mk.injEq] at h
      obtain ⟨h1, _⟩ := h
      subst h1
      exact ⟨hg, fun hlt => by omega⟩
    · simp only [hw, if_false] at h
      have hsz : 0 < min (want - got.length) maxReq := by omega
      cases hr : rawRead remote (pos + got.length) (min (want - got.length) maxReq) (nextOut plan).1 with
      | error c => simp [hr] at h
      | ok v =>
        cases v with
        | none =>
          simp only [hr] at h
          simp only [Except.ok.injEq, Prod.mk.injEq] at h
          obtain ⟨h1, _⟩ := h
          subst h1
          exact ⟨hg, fun _ => rawRead_none hsz hr⟩
        | some x =>
          simp only [hr] at h
          obtain ⟨x1, x2, x3⟩ := rawRead_some hr
          refine ih pos want (got ++ x) _ d plan' ?_ (isSl_append hg x1) h
          rw [List.length_append]; omega

theorem transfer_ok_exact {remote : Bytes} {maxReq chunk : Nat} (hm : 0 < maxReq) (hc : 0 < chunk) :
    ∀ (fuel : Nat) (loc : Bytes) (plan : List RdOut) (b : Bytes), IsSl remote 0 loc →
      transfer remote maxReq chunk fuel loc plan = .ok b → b = remote := by
  intro fuel
  induction fuel with
  | zero => intro loc plan b _ h; simp [transfer] at h
  | succ fuel ih =>
    intro loc plan b hl h
    unfold transfer at h
    cases hr : readLoop remote maxReq (chunk + 1) loc.length chunk [] plan with
    | error c => simp [hr] at h
    | ok v =>
      obtain ⟨d, plan'⟩ := v
      simp only [hr] at h
      obtain ⟨s1, s2⟩ := readLoop_spec hm (chunk + 1) loc.length chunk [] plan d plan' (by simp) (isSl_nil _ _) hr
      by_cases he : d.isEmpty = true
      · simp only [he, if_true, Res.ok.injEq] at h
        subst h
        have hd : d = [] := List.isEmpty_iff.mp he
        subst hd
        have := s2 (by simpa using hc)
        simp at this
        have hh := (isSl_at_eof hl (by simpa using this)).1
        simpa using hh
      · simp only [he, Bool.false_eq_true, if_false] at h
        exact ih (loc ++ d) plan' b (isSl_append hl (by simpa using s1)) h

theorem getfo_ok_exact {remote : Bytes} {maxReq chunk statCode openCode : Nat} {plan : List RdOut} {fuel reported : Nat}
    {b : Bytes} (hm : 0 < maxReq) (hc : 0 < chunk)
    (h : getfo remote maxReq chunk statCode openCode plan fuel reported = .ok b) : b = remote := by
  unfold getfo at h
  split at h
  · cases h
  · split at h
    · cases h
    · exact transfer_ok_exact hm hc fuel [] plan b (isSl_nil _ _) h

theorem readLoop_error {remote : Bytes} {maxReq fuel pos want c : Nat} {got : Bytes} {o : RdOut} {rest : List RdOut}
    (ho : ∀ p size, rawRead remote p size o = .error c) (hw : got.length < want) :
    readLoop remote maxReq (fuel + 1) pos want got (o :: rest) = .error c := by
  unfold readLoop
  simp [Nat.not_le.mpr hw, nextOut, ho]

theorem transfer_error {remote : Bytes} {maxReq chunk fuel c : Nat} {loc : Bytes} {o : RdOut} {rest : List RdOut}
    (ho : ∀ p size, rawRead remote p size o = .error c) (hc : 0 < chunk) :
    transfer remote maxReq chunk (fuel + 1) loc (o :: rest) = .raised c := by
  unfold transfer
  rw [readLoop_error ho (by simpa using hc)]

end PV.SftpGet
