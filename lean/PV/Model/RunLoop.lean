/-
  PV.Model.RunLoop — the transport thread's dispatch loop (`Transport.run`, paramiko/transport.py) with
  everything it calls that decides *which* message is acceptable *when*:

    * `Packetizer.read_message` / `send_message` sequence numbers (mod 2^32, roll-over guard during the
      initial key exchange), `reset_seqno_in/out`;
    * the IGNORE / DISCONNECT / DEBUG prefix with `_enforce_strict_kex`;
    * the expected-packet test and the hand-over of types 30..41 to the kex engine;
    * handler-table, channel-table, auth-table dispatch with `_ensure_authed`;
    * the fallback branch (UNIMPLEMENTED reply, `MSG_NAMES` lookup);
    * `_negotiate_keys`, `_send_kex_init`, the strict-kex part of `_parse_kex_init` (marker scan, seqno-0
      test), `_activate_outbound`, `_parse_newkeys` / `_activate_inbound` (sequence-number resets).

  Outside the model (inputs of a step, universally quantified in the theorems): what a connection/auth
  layer handler does (`HEffect`), whether the kex engine accepts a packet's *content* (`engineOk`), the
  outcome of algorithm negotiation (`KexParse`, C05's subject) and `Packetizer.need_rekey()` (C10's).
  A kex engine is its *script*: the `_expect_packet` sets and the message types it emits per step.
  Everything is executable (Driver/C12.lean, Driver/C09.lean).
-/
import PV.Base.Bytes
namespace PV.RunLoop

/-! ## protocol numbers used by the loop (compared with paramiko/common.py by `PV.Props.C12.constants_match`) -/
abbrev MSG_DISCONNECT : Nat := 1
abbrev MSG_IGNORE : Nat := 2
abbrev MSG_UNIMPLEMENTED : Nat := 3
abbrev MSG_DEBUG : Nat := 4
abbrev MSG_EXT_INFO : Nat := 7
abbrev MSG_KEXINIT : Nat := 20
abbrev MSG_NEWKEYS : Nat := 21
abbrev MSG_GLOBAL_REQUEST : Nat := 80
abbrev MSG_REQUEST_FAILURE : Nat := 82
abbrev MSG_CHANNEL_OPEN : Nat := 90
abbrev MSG_CHANNEL_OPEN_FAILURE : Nat := 92
abbrev SEQ_MOD : Nat := 4294967296

/-- Key sets of the dispatch tables, as read from the source on every run (`PV.Generated.C12`). -/
structure Tables where
  names : List Nat            -- keys of common.MSG_NAMES
  namesTotal : Bool           -- every debug-name lookup on the receive path (run() fallback, read_message,
                              -- send_message) has a default / an `in` guard; none is a bare `MSG_NAMES[...]`
  transport : List Nat        -- Transport(...)._handler_table
  transportSRT : List Nat     -- ServiceRequestingTransport(...)._handler_table
  channel : List Nat          -- Transport._channel_handler_table
  authServer : List Nat       -- AuthHandler._server_handler_table
  authClient : List Nat       -- AuthHandler._client_handler_table
  authOnlyServer : List Nat   -- AuthOnlyHandler._server_handler_table
  authOnlyClient : List Nat   -- AuthOnlyHandler._client_handler_table
  gssMic : List Nat           -- GssapiWithMicAuthHandler._handler_table
  highestUserauth : Nat       -- HIGHEST_USERAUTH_MESSAGE_ID
  deriving Repr, DecidableEq

/-- which object `transport.auth_handler` is -/
inductive AuthH | none | std | only | gssMic
  deriving Repr, DecidableEq, Inhabited

/-- why the loop was left -/
inductive Err
  | strictOrder     -- MessageOrderError
  | ssh             -- SSHException: expected-packet mismatch (non strict), kex engine refusal
  | incompatible    -- IncompatiblePeer
  | rollover        -- SSHException "Sequence number rolled over during initial kex!"
  | keyError        -- KeyError out of `MSG_NAMES[ptype]`
  | internal        -- any other exception class (AttributeError, TypeError, IndexError …)
  | disconnect      -- peer sent DISCONNECT: `break`, no exception
  | unknownChannel  -- message for a channel id never seen: `break`, no exception
  deriving Repr, DecidableEq, Inhabited

/-- one step of a kex engine: what `_expect_packet` was armed with, what the engine emits on acceptance -/
structure EStep where
  accept : List Nat
  sends : List Nat
  deriving Repr, DecidableEq, Inhabited

/-- a kex engine as a script (`cur` is the armed step) -/
structure Engine where
  startSends : List Nat
  cur : EStep
  rest : List EStep
  deriving Repr, DecidableEq, Inhabited

/-- a message handed to `Packetizer.send_message`: type, sequence number it went out under, and for
UNIMPLEMENTED the rejected packet's sequence number (0 otherwise) -/
structure Sent where
  ptype : Nat
  seqno : Nat
  arg : Nat
  deriving Repr, DecidableEq, Inhabited

structure St where
  server : Bool
  srt : Bool                    -- ServiceRequestingTransport
  advertiseStrict : Bool        -- Transport(strict_kex=…)
  serverSigAlgs : Bool
  active : Bool := true
  err : Option Err := none
  agreedStrict : Bool := false
  initialKexDone : Bool := false
  inKex : Bool := false
  localKexInit : Bool := false  -- `local_kex_init is not None`
  clearToSend : Bool := false
  expected : List Nat := []
  engine : Option Engine := none
  haveK : Bool := false         -- `self.K is not None` (set by the engine's last step, dropped by NEWKEYS)
  remoteExtInfoC : Bool := false
  authH : AuthH := .none
  authenticated : Bool := false
  chans : List Nat := []
  seen : List Nat := []
  seqIn : Nat := 0
  seqOut : Nat := 0
  rx : List Nat := []           -- ghost: types received, in order
  tx : List Sent := []          -- ghost: messages sent, in order
  kexScript : Option Engine := none  -- ghost: the engine as negotiated by the latest KEXINIT, before any step
  deriving Repr, DecidableEq, Inhabited

/-- outcome of `_really_parse_kex_init` + negotiation for a KEXINIT (negotiation itself is C05's model) -/
inductive KexParse
  | malformed                 -- a reader raised (non UTF-8 name list …): generic exception
  | incompatible              -- some category has no common algorithm
  | ok (e : Engine)           -- agreed; `e` = script of the chosen engine in this role
  deriving Repr, DecidableEq, Inhabited

/-- what an unmodelled handler (connection layer, auth layer, EXT_INFO …) does with a message -/
structure HEffect where
  raises : Option Err := none
  sends : List Nat := []
  expects : List Nat := []         -- auth handlers may arm `_expected_packet`
  authNow : Bool := false          -- `_auth_trigger`
  authH : Option AuthH := none     -- auth_handler replaced
  opens : List Nat := []           -- channel ids added
  closes : List Nat := []          -- channel ids unlinked
  deriving Repr, DecidableEq, Inhabited

/-- answers of everything outside the model for one received packet -/
structure Ext where
  kexNames : List String := []     -- the KEXINIT's kex_algorithms name list
  kex : KexParse := .incompatible
  engineOk : Bool := true
  needRekey : Bool := false        -- `packetizer.need_rekey()` when `_activate_outbound`/`_parse_newkeys` ask
  handler : HEffect := {}
  deriving Repr, Inhabited

inductive Ev
  | recv (ptype : Nat) (payload : Bytes) (x : Ext)
  | rekey                           -- loop top: `need_rekey() and not in_kex` → `_send_kex_init()`
  deriving Repr, Inhabited

/-! ## primitives -/

/-- an exception leaves the loop: `saved_exception`, `active = False` -/
def St.fail (s : St) (e : Err) : St := { s with err := some e, active := false }

/-- run `f` unless an exception is already propagating -/
@[inline] def St.andThen (s : St) (f : St → St) : St := if s.err.isSome then s else f s

/-- `Packetizer.send_message` as far as the loop can see it: sequence number, roll-over guard
(the guard fires *before* the packet is written) -/
def St.send (s : St) (t : Nat) (arg : Nat := 0) : St :=
  if s.err.isSome then s else
  let next := (s.seqOut + 1) % SEQ_MOD
  if next = 0 ∧ ¬ s.initialKexDone then s.fail .rollover
  else { s with seqOut := next, tx := s.tx ++ [⟨t, s.seqOut, arg⟩] }

def St.sendAll (s : St) : List Nat → St
  | [] => s
  | t :: ts => (s.send t).sendAll ts

/-- `_enforce_strict_kex` -/
def enforceStrict (s : St) : St :=
  if s.agreedStrict ∧ ¬ s.initialKexDone then s.fail .strictOrder else s

/-- `_send_kex_init` -/
def sendKexInit (s : St) : St :=
  ({ s with clearToSend := false, inKex := true }.send MSG_KEXINIT).andThen
    fun s => { s with localKexInit := true }

/-- the marker scan of `_parse_kex_init`: (remote ext-info name, agreed_on_strict_kex) -/
def scanMarkers (server advertise : Bool) : List String → Option String × Bool → Option String × Bool
  | [], acc => acc
  | a :: as, (ei, agreed) =>
    if a.startsWith "ext-info-" then scanMarkers server advertise as (some a, agreed)
    else if a.startsWith "kex-strict-" then
      let expected := if server then "kex-strict-c-v00@openssh.com" else "kex-strict-s-v00@openssh.com"
      scanMarkers server advertise as (ei, a == expected && advertise)
    else scanMarkers server advertise as (ei, agreed)

/-- `_activate_outbound` -/
def activateOutbound (s : St) (x : Ext) : St :=
  (s.send MSG_NEWKEYS).andThen fun s =>
  let s := if s.agreedStrict then { s with seqOut := 0 } else s
  let s := if ¬ x.needRekey then { s with inKex := false } else s
  let s := if s.server ∧ s.serverSigAlgs ∧ s.remoteExtInfoC then s.send MSG_EXT_INFO else s
  s.andThen fun s => { s with expected := [MSG_NEWKEYS] }

/-- `kex_engine.parse_next` for an accepted type -/
def engineNext (s : St) (x : Ext) : St :=
  match s.engine with
  | none => s.fail .internal          -- `None.parse_next`
  | some e =>
    if ¬ x.engineOk then s.fail .ssh else
    (s.sendAll e.cur.sends).andThen fun s =>
    match e.rest with
    | nxt :: more => { s with engine := some { e with cur := nxt, rest := more }, expected := nxt.accept }
    | [] => activateOutbound { s with haveK := true } x

/-- first half of `_negotiate_keys`: block user sends; answer a peer-initiated exchange with our KEXINIT -/
def ensureLocalKexInit (s : St) : St :=
  let s := { s with clearToSend := false }
  if ¬ s.localKexInit then sendKexInit s else s

/-- `_parse_kex_init` followed by `kex_engine.start_kex()` -/
def parseKexInit (s : St) (seqno : Nat) (x : Ext) : St :=
  match x.kex with
  | .malformed => s.fail .internal
  | k =>
    let sc := scanMarkers s.server s.advertiseStrict x.kexNames (none, s.agreedStrict)
    let s := { s with remoteExtInfoC := sc.1 == some "ext-info-c", agreedStrict := sc.2 }
    if s.agreedStrict ∧ ¬ s.initialKexDone ∧ seqno ≠ 0 then s.fail .strictOrder else
    match k with
    | .ok e =>
      ({ s with engine := some e, kexScript := some e }.sendAll e.startSends).andThen fun s =>
        { s with expected := e.cur.accept }
    | _ => s.fail .incompatible

/-- `_negotiate_keys` (→ `_send_kex_init`?, `_parse_kex_init`, `kex_engine.start_kex`) -/
def negotiateKeys (s : St) (seqno : Nat) (x : Ext) : St :=
  (ensureLocalKexInit s).andThen fun s => parseKexInit s seqno x

/-- `_parse_newkeys` (→ `_activate_inbound`) -/
def parseNewkeys (s : St) (x : Ext) : St :=
  if ¬ s.haveK then s.fail .internal else     -- `_compute_key` with `K = None`
  let s := if s.agreedStrict then { s with seqIn := 0 } else s
  let s := { s with localKexInit := false, haveK := false, engine := none }
  let s := if s.server ∧ s.authH = .none then { s with authH := .std } else s
  let s := { s with initialKexDone := true }
  let s := if ¬ x.needRekey then { s with inKex := false } else s
  { s with clearToSend := true }

def applyHandler (s : St) (h : HEffect) : St :=
  match h.raises with
  | some e => s.fail e
  | none =>
    (s.sendAll h.sends).andThen fun s =>
    { s with
      expected := if h.expects.isEmpty then s.expected else h.expects
      authenticated := s.authenticated || h.authNow
      authH := h.authH.getD s.authH
      chans := (s.chans ++ h.opens).filter (fun c => !h.closes.contains c)
      seen := s.seen ++ h.opens }

def transportTable (T : Tables) (s : St) : List Nat := if s.srt then T.transportSRT else T.transport

def authTable (T : Tables) (s : St) : List Nat :=
  match s.authH with
  | .none => []
  | .std => if s.server then T.authServer else T.authClient
  | .only => if s.server then T.authOnlyServer else T.authOnlyClient
  | .gssMic => T.gssMic

/-- first four payload bytes as a big-endian number, short payloads padded with zeros (`Message.get_int`) -/
def chanIdOf (payload : Bytes) : Nat := beVal ((payload ++ [0, 0, 0, 0]).take 4)

/-- types the loop has some handler for in this role/state (everything else takes the fallback branch) -/
def handled (T : Tables) (s : St) (t : Nat) : Bool :=
  t == MSG_IGNORE || t == MSG_DISCONNECT || t == MSG_DEBUG ||
  (transportTable T s).contains t || T.channel.contains t || (authTable T s).contains t

/-- message types that only ever travel client → server (RFC 4253 §10 SERVICE_REQUEST; RFC 4252 USERAUTH_REQUEST,
method-specific 61 INFO_RESPONSE / GSSAPI_TOKEN, 63 GSSAPI_EXCHANGE_COMPLETE, 66 GSSAPI_MIC): a *client* has no
business handling them -/
def clientToServer : List Nat := [5, 50, 61, 63, 66]

/-- message types that only ever travel server → client (SERVICE_ACCEPT; USERAUTH_FAILURE / SUCCESS / BANNER;
method-specific 60 PK_OK / INFO_REQUEST / GSSAPI_RESPONSE, 64 GSSAPI_ERROR, 65 GSSAPI_ERRTOK): a *server* has no
business handling them -/
def serverToClient : List Nat := [6, 51, 52, 53, 60, 64, 65]

/-- types whose protocol direction makes them meaningless for a transport in this role -/
def wrongDirection (server : Bool) : List Nat := if server then serverToClient else clientToServer

/-- the fallback branch of `run()` -/
def fallback (T : Tables) (s : St) (ptype seqno : Nat) : St :=
  if ¬ T.namesTotal ∧ ¬ T.names.contains ptype then s.fail .keyError
  else if ptype ≠ MSG_UNIMPLEMENTED then s.send MSG_UNIMPLEMENTED seqno
  else s

/-- table dispatch (`if ptype in self._handler_table: … elif … else`) -/
def dispatch (T : Tables) (s : St) (ptype seqno : Nat) (payload : Bytes) (x : Ext) : St :=
  if (transportTable T s).contains ptype then
    -- `_ensure_authed`
    if s.server ∧ ptype > T.highestUserauth ∧ ¬ s.authenticated then
      if ptype = MSG_GLOBAL_REQUEST then s.send MSG_REQUEST_FAILURE
      else if ptype = MSG_CHANNEL_OPEN then s.send MSG_CHANNEL_OPEN_FAILURE
      else s.fail .internal        -- an empty Message is "sent": IndexError in `send_message`
    else if ptype = MSG_KEXINIT then negotiateKeys s seqno x
    else if ptype = MSG_NEWKEYS then parseNewkeys s x
    else applyHandler s x.handler
  else if T.channel.contains ptype then
    let cid := chanIdOf payload
    if s.chans.contains cid then applyHandler s x.handler
    else if s.seen.contains cid then s
    else { s with active := false, err := some .unknownChannel }
  else if (authTable T s).contains ptype then applyHandler s x.handler
  else fallback T s ptype seqno

/-- `read_message` bookkeeping for a packet of type `t`: next inbound sequence number, ghost history -/
def bump (s : St) (t : Nat) : St := { s with seqIn := (s.seqIn + 1) % SEQ_MOD, rx := s.rx ++ [t] }

/-- the expected-packet test and what follows it -/
def afterExpected (T : Tables) (s : St) (ptype seqno : Nat) (payload : Bytes) (x : Ext) : St :=
  if s.expected ≠ [] then
    if ¬ s.expected.contains ptype then s.fail (if s.agreedStrict then .strictOrder else .ssh)
    else
      let s := { s with expected := [] }
      if 30 ≤ ptype ∧ ptype ≤ 41 then engineNext s x
      else dispatch T s ptype seqno payload x
  else dispatch T s ptype seqno payload x

/-- the loop body for one packet (`seqno` = the number `read_message` stamped on it) -/
def body (T : Tables) (s : St) (ptype seqno : Nat) (payload : Bytes) (x : Ext) : St :=
  if ptype = MSG_IGNORE then enforceStrict s
  else if ptype = MSG_DISCONNECT then { s with active := false, err := some .disconnect }
  else if ptype = MSG_DEBUG then enforceStrict s
  else afterExpected T s ptype seqno payload x

/-- one received packet: `read_message` (roll-over guard, counters), then the loop body -/
def recv (T : Tables) (s : St) (ptype : Nat) (payload : Bytes) (x : Ext) : St :=
  if (s.seqIn + 1) % SEQ_MOD = 0 ∧ ¬ s.initialKexDone then s.fail .rollover
  else body T (bump s ptype) ptype s.seqIn payload x

def step (T : Tables) (s : St) : Ev → St
  | .recv t p x => if s.active ∧ s.err.isNone then recv T s t p x else s
  | .rekey => if s.active ∧ s.err.isNone ∧ ¬ s.inKex then sendKexInit s else s

def run (T : Tables) (s : St) (evs : List Ev) : St := evs.foldl (step T) s

/-- the state when the loop is entered: banner exchanged, `_send_kex_init()`, `_expect_packet(MSG_KEXINIT)` -/
def init (server srt advertiseStrict serverSigAlgs : Bool) : St :=
  { sendKexInit { server, srt, advertiseStrict, serverSigAlgs } with expected := [MSG_KEXINIT] }

/-! ## scripts of paramiko's kex engines per role (checked against the real engines by the correspondence) -/
inductive KexKind | dhGroup | ecdh | gex | gexOld
  deriving Repr, DecidableEq, Inhabited

def engineOf (k : KexKind) (server : Bool) : Engine :=
  match k, server with
  | .dhGroup, false | .ecdh, false => ⟨[30], ⟨[31], []⟩, []⟩
  | .dhGroup, true | .ecdh, true => ⟨[], ⟨[30], [31]⟩, []⟩
  | .gex, false => ⟨[34], ⟨[31], [32]⟩, [⟨[33], []⟩]⟩
  | .gexOld, false => ⟨[30], ⟨[31], [32]⟩, [⟨[33], []⟩]⟩
  | .gex, true | .gexOld, true => ⟨[], ⟨[34, 30], [31]⟩, [⟨[32], [33]⟩]⟩

end PV.RunLoop
