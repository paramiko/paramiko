/-
  Helper lemmas for PV.Model.HandleProg (property theorems: PV/Props/C31.lean).
-/
import PV.Model.HandleProg
namespace PV.HandleProg
open PV

theorem prefix_length (f : Bytes) (o : Nat) : (f.take o ++ zeros (o - f.length)).length = o := by
  simp [zeros, List.length_take]; omega

theorem writeAt_adjacent (f : Bytes) (o : Nat) (a b : Bytes) :
    writeAt (writeAt f o a) (o + a.length) b = writeAt f o (a ++ b) := by
  have hP := prefix_length f o
  generalize hPd : f.take o ++ zeros (o - f.length) = P at hP
  have hg : writeAt f o a = (P ++ a) ++ f.drop (o + a.length) := by simp [writeAt, hPd]
  have hlen : (P ++ a).length = o + a.length := by simp [hP]
  have htake : (writeAt f o a).take (o + a.length) = P ++ a := by
    rw [hg]; exact List.take_left' hlen
  have hge : o + a.length - (writeAt f o a).length = 0 := by
    rw [hg]; simp [hP]
  have hdrop : (writeAt f o a).drop (o + a.length + b.length) = f.drop (o + a.length + b.length) := by
    rw [hg, ← List.drop_drop, List.drop_left' hlen, List.drop_drop]
  rw [show writeAt (writeAt f o a) (o + a.length) b
      = ((writeAt f o a).take (o + a.length) ++ zeros (o + a.length - (writeAt f o a).length)) ++ b
        ++ (writeAt f o a).drop (o + a.length + b.length) from rfl]
  rw [htake, hge, hdrop]
  simp only [zeros, List.replicate_zero, List.append_nil]
  rw [← hPd]
  simp [writeAt, List.append_assoc, Nat.add_assoc, zeros]

theorem apply_adjacent (f : Bytes) (ap : Bool) (o : Nat) (a b : Bytes) :
    apply (apply f ap o a) ap (o + a.length) b = apply f ap o (a ++ b) := by
  by_cases ha : a = []
  · subst ha; simp [apply]
  · by_cases hb : b = []
    · subst hb; simp [apply, ha]
    · have hab : a ++ b ≠ [] := by simp [ha]
      cases ap
      · simp only [apply, ha, hb, hab, if_false, Bool.false_eq_true]
        exact writeAt_adjacent f o a b
      · simp [apply, ha, hb]

/-- the server file once everything pending has been written -/
def settled (s : St) : Bytes := apply s.file s.append s.realpos s.wbuf

theorem flush_settled (s : St) :
    (flush s).1.file = settled s ∧ (flush s).1.wbuf = [] ∧
      (flush s).1.realpos = s.realpos + s.wbuf.length ∧ (flush s).1.append = s.append ∧
      (flush s).1.bufsize = s.bufsize := by
  unfold flush settled
  by_cases h : s.wbuf = []
  · simp [h, apply]
  · simp [h]

/-- the invariant tying the buffered handle to the local-file reference -/
def Inv (s : St) (r : Ref) : Prop :=
  r.file = settled s ∧ r.pos = s.realpos + s.wbuf.length ∧ r.append = s.append ∧ (s.bufsize = 0 → s.wbuf = [])

/-- also for an empty write, which changes nothing either way -/
theorem step_write_unbuffered (s : St) (d : Bytes) (hb : s.bufsize = 0) :
    (step s (.write d)).1
      = { s with file := apply s.file s.append s.realpos d, realpos := s.realpos + d.length } := by
  obtain ⟨f, p, w, a, b⟩ := s
  subst hb
  by_cases hd : d = []
  · subst hd; rfl
  · simp [step, hd]

theorem step_bufsize (s : St) (op : Op) : (step s op).1.bufsize = s.bufsize := by
  cases op with
  | attr => rfl
  | close => exact (flush_settled s).2.2.2.2
  | truncate n => simp only [step]; exact (flush_settled s).2.2.2.2
  | write d =>
    by_cases hb : s.bufsize = 0
    · rw [step_write_unbuffered s d hb]
    · simp only [step, hb, if_false]
      split
      · exact (flush_settled _).2.2.2.2
      · rfl

theorem flush_inv {s : St} {r : Ref} (h : Inv s r) : Inv (flush s).1 r := by
  obtain ⟨hf, hp, ha, _⟩ := h
  obtain ⟨f1, f2, f3, f4, _⟩ := flush_settled s
  refine ⟨?_, ?_, ha.trans f4.symm, fun _ => f2⟩
  · simp only [settled, f1, f2, apply, if_true] at hf ⊢; exact hf
  · rw [hp, f2, f3]; rfl

/-- buffering a write: flushing now or later gives the same settled file -/
theorem buffer_inv {s : St} {r : Ref} (d : Bytes) (h : Inv s r) (hb : s.bufsize ≠ 0) :
    Inv { s with wbuf := s.wbuf ++ d } (refStep r (.write d)) := by
  obtain ⟨hf, hp, ha, _⟩ := h
  refine ⟨?_, ?_, ha, fun h0 => absurd h0 hb⟩
  · simp only [refStep, settled, hf, hp, ha]
    exact apply_adjacent s.file s.append s.realpos s.wbuf d
  · simp only [refStep, List.length_append, hp]; omega

theorem step_inv (s : St) (r : Ref) (op : Op) (h : Inv s r) : Inv (step s op).1 (refStep r op) := by
  cases op with
  | attr => exact h
  | close => exact flush_inv h
  | truncate n =>
    -- after the flush nothing is pending, so the served file is the settled one on both sides
    obtain ⟨hf, hp, ha, hu⟩ := flush_inv h
    have hw := (flush_settled s).2.1
    refine ⟨?_, hp, ha, hu⟩
    simp only [settled, hw, apply, if_true] at hf
    simp only [step, refStep, settled, hw, apply, if_true, hf]
  | write d =>
    by_cases hb : s.bufsize = 0
    · -- unbuffered: nothing is ever pending, the handle is the reference
      obtain ⟨hf, hp, ha, hu⟩ := h
      have hw := hu hb
      simp only [settled, hw, apply, if_true, List.length_nil, Nat.add_zero] at hf hp
      rw [step_write_unbuffered s d hb]
      exact ⟨by simp only [refStep, settled, hw, apply, if_true, hf, hp, ha],
        by simp only [refStep, hw, hp, List.length_nil, Nat.add_zero], ha, fun _ => hw⟩
    · simp only [step, hb, if_false]
      split
      · exact flush_inv (buffer_inv d h hb)
      · exact buffer_inv d h hb

theorem run_inv (ops : List Op) : ∀ (s : St) (r : Ref), Inv s r → Inv (run s ops).1 (refRun r ops) := by
  induction ops with
  | nil => intro s r h; exact h
  | cons op rest ih =>
    intro s r h
    have := ih (step s op).1 (refStep r op) (step_inv s r op h)
    simpa [run, refRun] using this

end PV.HandleProg
