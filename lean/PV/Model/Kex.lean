/-
  PV.Model.Kex — executable model of paramiko's key-exchange engines
    kex_group1.py / kex_group14.py / kex_group16.py   (`Group`, `grp*`)
    kex_gex.py                                        (`gex*`)
    kex_ecdh_nist.py                                  (`ec*`)
    kex_curve25519.py                                 (`cv*`)
  and of the two `Transport` callbacks the engines use to publish their result
  (`_set_K_H`, `_expect_packet`) together with the `run()` gate that lets a key-exchange packet
  reach the engine only if its type is in `_expected_packet`.

  An engine step does not touch a transport: it returns the ordered list of calls it makes on it
  (`Effect`) and either the new engine state or the class of the exception that ended the step
  (`Res`).  `Transport._verify_key` may raise in the middle of a step; `Env.verify` is its
  outcome, and the step's effect list ends at the failing call.

  External primitives are parameters: the hash (`Env.hash`), the host key's signer and verifier
  (`Env.sign`, `Env.verify`), the moduli pack (`Env.modulus`), the curve library (`Curve`:
  point validation, scalar multiplication, and whatever refusal `exchange()` does on its own),
  and the engine's random exponent (`x`, an argument of the step that draws it).
-/
import PV.Base.Wire
namespace PV.Kex
open PV PV.Wire

/-! ## integer helpers -/

/-- Python `pow(b, e, m)` for `b, e ≥ 0`, `m > 0`: square-and-multiply. -/
def powMod (b e m : Nat) : Nat :=
  if h : e = 0 then 1 % m
  else
    let r := powMod b (e / 2) m
    let sq := r * r % m
    if e % 2 = 1 then sq * (b % m) % m else sq
decreasing_by omega

/-- Python `pow(b, e, m)` for an `int` base of either sign (`e ≥ 0`, `m > 0`). -/
def pyPow (b : Int) (e m : Nat) : Nat := powMod (b % (m : Int)).toNat e m

/-- `int.bit_length()` of a non-negative int -/
def natBits (n : Nat) : Nat := if h : n = 0 then 0 else natBits (n / 2) + 1
decreasing_by omega

/-- `util.bit_length(n)` = `n.bit_length()` (the sign is ignored) -/
def bitLength (z : Int) : Nat := natBits z.natAbs

/-! ## what an engine can do to its transport -/

inductive Err
  | ssh     -- SSHException
  | value   -- ValueError (raised inside `cryptography`)
  | type    -- TypeError (arithmetic on an engine field that is still `None`)
  deriving DecidableEq, Repr

inductive Effect
  | send (payload : Bytes)             -- transport._send_message(m)
  | expect (types : List Nat)          -- transport._expect_packet(*types)
  | hashed (input : Bytes)             -- self.hash_algo(input)
  | setKH (K : Nat) (H : Bytes)        -- transport._set_K_H(K, H)
  | verifyKey (hostKey sig : Bytes)    -- transport._verify_key(host_key, sig)
  | activate                           -- transport._activate_outbound()
  deriving DecidableEq, Repr

structure Res (σ : Type) where
  eff : List Effect
  out : Except Err σ

/-- the transport attributes an engine reads, and the primitives it calls -/
structure Env where
  serverMode : Bool
  localVersion : Bytes
  remoteVersion : Bytes
  localKexInit : Bytes
  remoteKexInit : Bytes
  /-- server: `get_server_key().asbytes()` -/
  hostKey : Bytes
  hash : Bytes → Bytes
  /-- server: `get_server_key().sign_ssh_data(H, host_key_type)` as bytes -/
  sign : Bytes → Bytes
  /-- client: does `_verify_key(host_key, sig)` return (true) or raise SSHException, given `H` -/
  verify : (hostKey H sig : Bytes) → Bool
  /-- server: `_get_modulus_pack().get_modulus(min, prefer, max)` = `(g, p)`; `none` = no pack / raises -/
  modulus : Nat → Nat → Nat → Option (Nat × Nat)

def rd (m : Bytes) : Rd := { content := m, pos := 0 }

/-! ## exchange-hash inputs (RFC 4253 §8, RFC 4419 §3, RFC 5656 §4), in protocol order -/

def hashInGroup (vc vs ic is_ ks : Bytes) (e f : Int) (K : Nat) : Bytes :=
  encStr vc ++ encStr vs ++ encStr ic ++ encStr is_ ++ encStr ks ++
    encMpint e ++ encMpint f ++ encMpint K

def gexSizes (oldStyle : Bool) (mn n mx : Nat) : Bytes :=
  (if oldStyle then [] else be32 mn) ++ be32 n ++ (if oldStyle then [] else be32 mx)

def hashInGex (vc vs ic is_ ks : Bytes) (oldStyle : Bool) (mn n mx : Nat) (p g e f : Int) (K : Nat) : Bytes :=
  encStr vc ++ encStr vs ++ encStr ic ++ encStr is_ ++ encStr ks ++ gexSizes oldStyle mn n mx ++
    encMpint p ++ encMpint g ++ encMpint e ++ encMpint f ++ encMpint K

def hashInEcdh (vc vs ic is_ ks qc qs : Bytes) (K : Nat) : Bytes :=
  encStr vc ++ encStr vs ++ encStr ic ++ encStr is_ ++ encStr ks ++ encStr qc ++ encStr qs ++ encMpint K

/-! ## KexGroup1 / KexGroup14 / KexGroup14SHA256 / KexGroup16SHA512 -/

structure Group where
  P : Nat
  G : Nat

structure GrpSt where
  x : Nat
  e : Int
  f : Int
  deriving DecidableEq, Repr

/-- `start_kex()`; `x` is what `_generate_x()` drew -/
def grpStart (c : Env) (g : Group) (x : Nat) : GrpSt × List Effect :=
  if c.serverMode then
    ({ x := x, e := 0, f := powMod g.G x g.P }, [.expect [30]])
  else
    let e := powMod g.G x g.P
    ({ x := x, e := e, f := 0 }, [.send (30 :: encMpint e), .expect [31]])

/-- `_parse_kexdh_reply` (client) -/
def grpReply (c : Env) (g : Group) (st : GrpSt) (m : Bytes) : Res GrpSt :=
  let (hostKey, r1) := (rd m).getString
  let (fb, r2) := r1.getString
  let f := inflate fb
  if f < 1 ∨ f > (g.P : Int) - 1 then ⟨[], .error .ssh⟩
  else
    let (sig, _) := r2.getString
    let K := powMod f.toNat st.x g.P
    let hin := encStr c.localVersion ++ encStr c.remoteVersion ++ encStr c.localKexInit ++
      encStr c.remoteKexInit ++ encStr hostKey ++ encMpint st.e ++ encMpint f ++ encMpint K
    let H := c.hash hin
    if c.verify hostKey H sig then
      ⟨[.hashed hin, .setKH K H, .verifyKey hostKey sig, .activate], .ok { st with f := f }⟩
    else
      ⟨[.hashed hin, .setKH K H, .verifyKey hostKey sig], .error .ssh⟩

/-- `_parse_kexdh_init` (server) -/
def grpInit (c : Env) (g : Group) (st : GrpSt) (m : Bytes) : Res GrpSt :=
  let (eb, _) := (rd m).getString
  let e := inflate eb
  if e < 1 ∨ e > (g.P : Int) - 1 then ⟨[], .error .ssh⟩
  else
    let K := powMod e.toNat st.x g.P
    let hin := encStr c.remoteVersion ++ encStr c.localVersion ++ encStr c.remoteKexInit ++
      encStr c.localKexInit ++ encStr c.hostKey ++ encMpint e ++ encMpint st.f ++ encMpint K
    let H := c.hash hin
    let sig := c.sign H
    ⟨[.hashed hin, .setKH K H,
      .send (31 :: (encStr c.hostKey ++ encMpint st.f ++ encStr sig)), .activate],
     .ok { st with e := e }⟩

/-- `parse_next(ptype, m)` -/
def grpNext (c : Env) (g : Group) (st : GrpSt) (ptype : Nat) (m : Bytes) : Res GrpSt :=
  if c.serverMode ∧ ptype = 30 then grpInit c g st m
  else if ¬ c.serverMode ∧ ptype = 31 then grpReply c g st m
  else ⟨[], .error .ssh⟩

/-! ## KexGex / KexGexSHA256 -/

structure GexSt where
  p : Option Int := none
  g : Option Int := none
  x : Option Nat := none
  e : Option Int := none
  f : Option Int := none
  minBits : Nat := 1024
  prefBits : Nat := 2048
  maxBits : Nat := 8192
  oldStyle : Bool := false
  deriving DecidableEq, Repr

/-- `start_kex(_test_old_style)` -/
def gexStart (c : Env) (st : GexSt) (testOld : Bool) : GexSt × List Effect :=
  if c.serverMode then (st, [.expect [34, 30]])
  else if testOld then
    ({ st with oldStyle := true }, [.send (30 :: be32 st.prefBits), .expect [31]])
  else
    (st, [.send (34 :: (be32 st.minBits ++ be32 st.prefBits ++ be32 st.maxBits)), .expect [31]])

def clampPref (n lo hi : Nat) : Nat :=
  let n1 := if n > hi then hi else n
  if n1 < lo then lo else n1

/-- `_parse_kexdh_gex_request` (server) -/
def gexRequest (c : Env) (st : GexSt) (m : Bytes) : Res GexSt :=
  let (mn, r1) := (rd m).getInt
  let (n, r2) := r1.getInt
  let (mx, _) := r2.getInt
  let n := clampPref n st.minBits st.maxBits
  let mn := if mn > n then n else mn
  let mx := if mx < n then n else mx
  let st1 := { st with minBits := mn, prefBits := n, maxBits := mx }
  match c.modulus mn n mx with
  | none => ⟨[], .error .ssh⟩
  | some (g, p) =>
    ⟨[.send (31 :: (encMpint p ++ encMpint g)), .expect [32]],
     .ok { st1 with g := some g, p := some p }⟩

/-- `_parse_kexdh_gex_request_old` (server) -/
def gexRequestOld (c : Env) (st : GexSt) (m : Bytes) : Res GexSt :=
  let (n, _) := (rd m).getInt
  let n := clampPref n st.minBits st.maxBits
  let st1 := { st with prefBits := n }
  match c.modulus st.minBits n st.maxBits with
  | none => ⟨[], .error .ssh⟩
  | some (g, p) =>
    ⟨[.send (31 :: (encMpint p ++ encMpint g)), .expect [32]],
     .ok { st1 with g := some g, p := some p, oldStyle := true }⟩

/-- `_parse_kexdh_gex_group` (client); `x` is what `_generate_x()` drew for this `p`.
    A modulus below 1 is refused together with the out-of-window sizes (with the sign ignored a
    negative "prime" has a bit length in the window, and `_generate_x` never terminates for it). -/
def gexGroup (_c : Env) (st : GexSt) (m : Bytes) (x : Nat) : Res GexSt :=
  let (pb, r1) := (rd m).getString
  let (gb, _) := r1.getString
  let p := inflate pb
  let g := inflate gb
  let bl := bitLength p
  if p < 1 ∨ bl < 1024 ∨ bl > 8192 then ⟨[], .error .ssh⟩
  else
    let e := pyPow g x p.toNat
    ⟨[.send (32 :: encMpint e), .expect [33]],
     .ok { st with p := some p, g := some g, x := some x, e := some (e : Int) }⟩

/-- `_parse_kexdh_gex_init` (server); `x` is what `_generate_x()` drew -/
def gexInit (c : Env) (st : GexSt) (m : Bytes) (x : Nat) : Res GexSt :=
  let (eb, _) := (rd m).getString
  let e := inflate eb
  if e < 1 then ⟨[], .error .ssh⟩
  else
    match st.p, st.g with
    | some p, some g =>
      if e > p - 1 then ⟨[], .error .ssh⟩
      else
        let f := pyPow g x p.toNat
        let K := pyPow e x p.toNat
        let hin := encStr c.remoteVersion ++ encStr c.localVersion ++ encStr c.remoteKexInit ++
          encStr c.localKexInit ++ encStr c.hostKey ++
          gexSizes st.oldStyle st.minBits st.prefBits st.maxBits ++
          encMpint p ++ encMpint g ++ encMpint e ++ encMpint f ++ encMpint K
        let H := c.hash hin
        let sig := c.sign H
        ⟨[.hashed hin, .setKH K H,
          .send (33 :: (encStr c.hostKey ++ encMpint f ++ encStr sig)), .activate],
         .ok { st with e := some e, x := some x, f := some (f : Int) }⟩
    | _, _ => ⟨[], .error .type⟩

/-- `_parse_kexdh_gex_reply` (client) -/
def gexReply (c : Env) (st : GexSt) (m : Bytes) : Res GexSt :=
  let (hostKey, r1) := (rd m).getString
  let (fb, r2) := r1.getString
  let f := inflate fb
  let (sig, _) := r2.getString
  if f < 1 then ⟨[], .error .ssh⟩
  else
    match st.p, st.g, st.x, st.e with
    | some p, some g, some x, some e =>
      if f > p - 1 then ⟨[], .error .ssh⟩
      else
        let K := pyPow f x p.toNat
        let hin := encStr c.localVersion ++ encStr c.remoteVersion ++ encStr c.localKexInit ++
          encStr c.remoteKexInit ++ encStr hostKey ++
          gexSizes st.oldStyle st.minBits st.prefBits st.maxBits ++
          encMpint p ++ encMpint g ++ encMpint e ++ encMpint f ++ encMpint K
        let H := c.hash hin
        if c.verify hostKey H sig then
          ⟨[.hashed hin, .setKH K H, .verifyKey hostKey sig, .activate], .ok { st with f := some f }⟩
        else
          ⟨[.hashed hin, .setKH K H, .verifyKey hostKey sig], .error .ssh⟩
    | _, _, _, _ => ⟨[], .error .type⟩

/-- `parse_next(ptype, m)` — dispatch on the packet type alone (no role test in this engine) -/
def gexNext (c : Env) (st : GexSt) (ptype : Nat) (m : Bytes) (x : Nat) : Res GexSt :=
  if ptype = 34 then gexRequest c st m
  else if ptype = 31 then gexGroup c st m x
  else if ptype = 32 then gexInit c st m x
  else if ptype = 33 then gexReply c st m
  else if ptype = 30 then gexRequestOld c st m
  else ⟨[], .error .ssh⟩

/-! ## ECDH over the NIST curves and X25519 -/

/-- what paramiko uses of `cryptography`'s curve code -/
structure Curve where
  /-- `from_encoded_point` / `from_public_bytes` accepts the encoding -/
  decode : Bytes → Bool
  /-- encoded public point of the key pair with private scalar `d` -/
  pub : Nat → Bytes
  /-- `exchange()`: the shared secret, or the library's own refusal -/
  exchange : Nat → Bytes → Except Err Bytes

structure EcSt where
  priv : Nat
  qc : Option Bytes := none
  qs : Option Bytes := none
  deriving DecidableEq, Repr

/-- `KexNistp256.start_kex()`; `d` is the generated private scalar -/
def ecStart (c : Env) (cv : Curve) (d : Nat) : EcSt × List Effect :=
  if c.serverMode then ({ priv := d, qs := some (cv.pub d) }, [.expect [30]])
  else ({ priv := d, qc := some (cv.pub d) }, [.send (30 :: encStr (cv.pub d)), .expect [31]])

/-- `_parse_kexecdh_init` (server) -/
def ecInit (c : Env) (cv : Curve) (st : EcSt) (m : Bytes) : Res EcSt :=
  let (qcB, _) := (rd m).getString
  if ¬ cv.decode qcB then ⟨[], .error .value⟩
  else
    match cv.exchange st.priv qcB with
    | .error e => ⟨[], .error e⟩
    | .ok secret =>
      let K := beVal secret
      match st.qs with
      | none => ⟨[], .error .type⟩
      | some qs =>
        let hin := encStr c.remoteVersion ++ encStr c.localVersion ++ encStr c.remoteKexInit ++
          encStr c.localKexInit ++ encStr c.hostKey ++ encStr qcB ++ encStr qs ++ encMpint K
        let H := c.hash hin
        let sig := c.sign H
        ⟨[.hashed hin, .setKH K H,
          .send (31 :: (encStr c.hostKey ++ encStr qs ++ encStr sig)), .activate],
         .ok { st with qc := some qcB }⟩

/-- `_parse_kexecdh_reply` (client) -/
def ecReply (c : Env) (cv : Curve) (st : EcSt) (m : Bytes) : Res EcSt :=
  let (ks, r1) := (rd m).getString
  let (qsB, r2) := r1.getString
  if ¬ cv.decode qsB then ⟨[], .error .value⟩
  else
    let (sig, _) := r2.getString
    match cv.exchange st.priv qsB with
    | .error e => ⟨[], .error e⟩
    | .ok secret =>
      let K := beVal secret
      match st.qc with
      | none => ⟨[], .error .type⟩
      | some qc =>
        let hin := encStr c.localVersion ++ encStr c.remoteVersion ++ encStr c.localKexInit ++
          encStr c.remoteKexInit ++ encStr ks ++ encStr qc ++ encStr qsB ++ encMpint K
        let H := c.hash hin
        if c.verify ks H sig then
          ⟨[.hashed hin, .setKH K H, .verifyKey ks sig, .activate], .ok { st with qs := some qsB }⟩
        else
          ⟨[.hashed hin, .setKH K H, .verifyKey ks sig], .error .ssh⟩

def ecNext (c : Env) (cv : Curve) (st : EcSt) (ptype : Nat) (m : Bytes) : Res EcSt :=
  if c.serverMode ∧ ptype = 30 then ecInit c cv st m
  else if ¬ c.serverMode ∧ ptype = 31 then ecReply c cv st m
  else ⟨[], .error .ssh⟩

/-- `KexCurve25519._perform_exchange` -/
def cvExchange (cv : Curve) (d : Nat) (peer : Bytes) : Except Err Bytes :=
  match cv.exchange d peer with
  | .error e => .error e
  | .ok secret => if secret = zeros 32 then .error .ssh else .ok secret

/-- `KexCurve25519.start_kex()` (the engine keeps only the private key) -/
def cvStart (c : Env) (cv : Curve) (d : Nat) : EcSt × List Effect :=
  if c.serverMode then ({ priv := d }, [.expect [30]])
  else ({ priv := d }, [.send (30 :: encStr (cv.pub d)), .expect [31]])

/-- `KexCurve25519._parse_kexecdh_init` (server) -/
def cvInit (c : Env) (cv : Curve) (st : EcSt) (m : Bytes) : Res EcSt :=
  let (peer, _) := (rd m).getString
  if ¬ cv.decode peer then ⟨[], .error .value⟩
  else
    match cvExchange cv st.priv peer with
    | .error e => ⟨[], .error e⟩
    | .ok secret =>
      let K := beVal secret
      let mine := cv.pub st.priv
      let hin := encStr c.remoteVersion ++ encStr c.localVersion ++ encStr c.remoteKexInit ++
        encStr c.localKexInit ++ encStr c.hostKey ++ encStr peer ++ encStr mine ++ encMpint K
      let H := c.hash hin
      let sig := c.sign H
      ⟨[.hashed hin, .setKH K H,
        .send (31 :: (encStr c.hostKey ++ encStr mine ++ encStr sig)), .activate], .ok st⟩

/-- `KexCurve25519._parse_kexecdh_reply` (client) -/
def cvReply (c : Env) (cv : Curve) (st : EcSt) (m : Bytes) : Res EcSt :=
  let (ks, r1) := (rd m).getString
  let (peer, r2) := r1.getString
  let (sig, _) := r2.getString
  if ¬ cv.decode peer then ⟨[], .error .value⟩
  else
    match cvExchange cv st.priv peer with
    | .error e => ⟨[], .error e⟩
    | .ok secret =>
      let K := beVal secret
      let hin := encStr c.localVersion ++ encStr c.remoteVersion ++ encStr c.localKexInit ++
        encStr c.remoteKexInit ++ encStr ks ++ encStr (cv.pub st.priv) ++ encStr peer ++ encMpint K
      let H := c.hash hin
      if c.verify ks H sig then
        ⟨[.hashed hin, .setKH K H, .verifyKey ks sig, .activate], .ok st⟩
      else
        ⟨[.hashed hin, .setKH K H, .verifyKey ks sig], .error .ssh⟩

def cvNext (c : Env) (cv : Curve) (st : EcSt) (ptype : Nat) (m : Bytes) : Res EcSt :=
  if c.serverMode ∧ ptype = 30 then cvInit c cv st m
  else if ¬ c.serverMode ∧ ptype = 31 then cvReply c cv st m
  else ⟨[], .error .ssh⟩

/-! ## the engine behind `Transport.run()`'s gate -/

/-- any of the engines, as one step function; `x` is the randomness a step may draw -/
inductive Engine
  | grp (g : Group)
  | gex
  | nist (cv : Curve)
  | c25519 (cv : Curve)

inductive ESt
  | grp (s : GrpSt)
  | gex (s : GexSt)
  | ec (s : EcSt)
  deriving DecidableEq, Repr

def mapRes {α β : Type} (f : α → β) (r : Res α) : Res β :=
  ⟨r.eff, match r.out with | .ok a => .ok (f a) | .error e => .error e⟩

def Engine.start (c : Env) : Engine → (x : Nat) → ESt × List Effect
  | .grp g, x => let (s, e) := grpStart c g x; (.grp s, e)
  | .gex, _ => let (s, e) := gexStart c {} false; (.gex s, e)
  | .nist cv, x => let (s, e) := ecStart c cv x; (.ec s, e)
  | .c25519 cv, x => let (s, e) := cvStart c cv x; (.ec s, e)

def Engine.next (c : Env) : Engine → ESt → (ptype : Nat) → (m : Bytes) → (x : Nat) → Res ESt
  | .grp g, .grp s, t, m, _ => mapRes .grp (grpNext c g s t m)
  | .gex, .gex s, t, m, x => mapRes .gex (gexNext c s t m x)
  | .nist cv, .ec s, t, m, _ => mapRes .ec (ecNext c cv s t m)
  | .c25519 cv, .ec s, t, m, _ => mapRes .ec (cvNext c cv s t m)
  | _, _, _, _, _ => ⟨[], .error .type⟩

/-- the `_expected_packet` value after a list of effects (`_expect_packet` overwrites;
    `_activate_outbound` ends the engine's part: the transport then waits for NEWKEYS = 21) -/
def expectedAfter (cur : List Nat) : List Effect → List Nat
  | [] => cur
  | .expect ts :: r => expectedAfter ts r
  | .activate :: r => expectedAfter [21] r
  | _ :: r => expectedAfter cur r

/-- one key exchange as `Transport.run()` drives it -/
structure Sess where
  st : ESt
  expected : List Nat
  trace : List Effect
  dead : Option Err
  deriving DecidableEq, Repr

def Sess.begin (c : Env) (en : Engine) (x : Nat) : Sess :=
  let (s, e) := en.start c x
  { st := s, expected := expectedAfter [] e, trace := e, dead := none }

/-- one incoming packet `(ptype, body, randomness)`.  `run()`: a type outside a non-empty
    `_expected_packet` raises; an expected type in 30..41 clears the tuple and goes to the
    engine; anything else is not the engine's business (left out: the session just stays). -/
def Sess.feed (c : Env) (en : Engine) (s : Sess) (pkt : Nat × Bytes × Nat) : Sess :=
  if s.dead.isSome then s
  else if s.expected = [] then s
  else if pkt.1 ∉ s.expected then { s with dead := some .ssh }
  else if pkt.1 < 30 ∨ pkt.1 > 41 then { s with expected := [] }
  else
    let r := en.next c s.st pkt.1 pkt.2.1 pkt.2.2
    match r.out with
    | .ok st' => { st := st', expected := expectedAfter [] r.eff, trace := s.trace ++ r.eff, dead := none }
    | .error e => { s with expected := [], trace := s.trace ++ r.eff, dead := some e }

def Sess.run (c : Env) (en : Engine) (x : Nat) (pkts : List (Nat × Bytes × Nat)) : Sess :=
  pkts.foldl (Sess.feed c en) (Sess.begin c en x)

/-! ## `Transport._set_K_H` and the session-id latch -/

structure TSt where
  K : Option Nat := none
  H : Option Bytes := none
  sessionId : Option Bytes := none
  deriving DecidableEq, Repr

/-- `Transport._set_K_H(k, h)` -/
def TSt.setKH (t : TSt) (k : Nat) (h : Bytes) : TSt :=
  { K := some k, H := some h, sessionId := match t.sessionId with | none => some h | some s => some s }

/-- the transport state after the `_set_K_H` calls of a trace -/
def TSt.apply (t : TSt) : List Effect → TSt
  | [] => t
  | .setKH k h :: r => (t.setKH k h).apply r
  | _ :: r => t.apply r

/-- `Transport.host_key` (what `get_remote_server_key()` returns) after a trace, given its value before:
    `_verify_key` assigns it as its last statement, unconditionally, once the verification has
    succeeded — in the first exchange and in every re-exchange alike.  (A `_verify_key` call that is
    the LAST effect of a trace is one that raised: the step ended there.) -/
def publishedKey (prev : Option Bytes) : List Effect → Option Bytes
  | [] => prev
  | [.verifyKey _ _] => prev
  | .verifyKey hk _ :: r => publishedKey (some hk) r
  | _ :: r => publishedKey prev r

/-! ## toy primitives (bit-identical copies live in pv/lib_kexeng.py) -/

/-- 8-byte polynomial checksum -/
def toyHash (b : Bytes) : Bytes :=
  beBytes 8 (b.foldl (fun acc x => (acc * 257 + x.toNat + 1) % 18446744073709551616) 7)

/-- toy host-key scheme: public = private = the key blob; signature blob names `algo` -/
def toySign (algo hostKey H : Bytes) : Bytes := encStr algo ++ encStr (toyHash (hostKey ++ H))

def toyVerify (algo hostKey H sig : Bytes) : Bool := sig == toySign algo hostKey H

def toyQ : Nat := 2305843009213693951   -- 2^61 - 1

/-- toy "NIST" curve: a point `v < toyQ` has TWO encodings of 17 bytes, the canonical `04 ‖ v` (what
    `public_bytes` produces) and the alternative `02 ‖ v` (a "compressed" form the decoder also accepts, as
    `from_encoded_point` does); the shared secret is `v^d mod toyQ` in 8 bytes -/
def toyNist : Curve where
  decode b := b.length == 17 && (b.head? == some 4 || b.head? == some 2) && decide (beVal (b.drop 1) < toyQ)
  pub d := 4 :: beBytes 16 (powMod 3 d toyQ)
  exchange d pt := .ok (beBytes 8 (powMod (beVal (pt.drop 1)) d toyQ))

/-- toy "X25519": a point is any 32 bytes `v`; the library itself refuses the non-canonical
    `v = toyQ + 1`; the shared secret is `v^d mod toyQ` in 32 bytes (all-zero for `v ≡ 0`) -/
def toyX : Curve where
  decode b := b.length == 32
  pub d := beBytes 32 (powMod 3 d toyQ)
  exchange d pt := if beVal pt = toyQ + 1 then .error .value else .ok (beBytes 32 (powMod (beVal pt) d toyQ))

end PV.Kex
