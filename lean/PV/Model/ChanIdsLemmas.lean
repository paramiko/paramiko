/-
  PV.Model.ChanIds as a transition relation: `Step` names the effects of `step` once, so that the invariants of
  PV/Props/C23.lean are proved by cases on it.
-/
import PV.Model.ChanIds
namespace PV.ChanIds

/-- `skip`: a peer open while one is pending, a registration with nothing pending, an OPEN_FAILURE for an established
    channel, an OPEN_CONFIRMATION.  `hung`: `_next_channel` found every id live. -/
inductive Step (s : St) : Act → St → Prop where
  | skip (a : Act) : Step s a s
  | hung (a : Act) : nextChannel (isLive s) s.counter = none → Step s a { s with hung := true }
  | openLocal (id c' : Nat) : nextChannel (isLive s) s.counter = some (id, c') →
      Step s .openLocal (put { s with counter := c', ticks := s.ticks + advance s.counter id } id)
  | peerAlloc (id c' : Nat) : s.pending = none → nextChannel (isLive s) s.counter = some (id, c') →
      Step s .peerAlloc { s with counter := c', ticks := s.ticks + advance s.counter id,
                                 pending := some (id, s.ticks + advance s.counter id - 1) }
  | peerPut (p tp : Nat) : s.pending = some (p, tp) →
      Step s .peerPut (put { s with pending := none, late := s.late || decide (s.ticks - tp > M) } p)
  | peerReject : Step s .peerReject { s with pending := none }
  | remove (a : Act) (id : Nat) : Step s a (remove s id)

theorem step_sound (s : St) (a : Act) : Step s a (step s a) := by
  fun_cases step s a
  · next h => exact .hung _ h
  · next id c' h => exact .openLocal id c' h
  · exact .skip _
  · next h => exact .hung _ h
  · next hp id c' h _ => exact .peerAlloc id c' hp h
  · exact .skip _
  · next p tp h => exact .peerPut p tp h
  · exact .peerReject
  · next id => exact .remove _ id
  · next id => exact .remove _ id
  · exact .skip _
  · exact .skip _

theorem run_inv {P : St → Prop} (hstep : ∀ s a, P s → P (step s a)) (s : St) (h : List Act) (hi : P s) :
    P (run s h) := by
  induction h generalizing s with
  | nil => exact hi
  | cons a as ih => exact ih _ (hstep s a hi)

theorem put_fresh (s : St) (id : Nat) (h : id ∉ s.live) :
    put s id = { s with live := id :: s.live, openIds := id :: s.openIds } := by
  simp [put, h]

theorem put_hung (s : St) (id : Nat) : (put s id).hung = s.hung := by
  fun_cases put s id <;> rfl

theorem put_ticks (s : St) (id : Nat) : (put s id).ticks = s.ticks := by
  fun_cases put s id <;> rfl

end PV.ChanIds
