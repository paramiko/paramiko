/-
  Frame facts of PV.Model.ChanWindow (who writes the wire, which flags only go one way, who loses bytes) and the
  receive side's accounting: `in_window_sofar` stays below the threshold, and while `_check_add_window` does not
  short-circuit the acknowledgements add up exactly.  Used by the two-sided model (C20) and by C22/C25.
-/
import PV.Model.ChanWindowLemmas
namespace PV.Chan

theorem Step.wire {cfg : Cfg} {s s' : St} {a : Act} (h : Step cfg s a s') :
    s'.wire = s.wire ∨ ∃ t m, a = .emit t ∧ s'.wire = s.wire ++ [m] := by
  cases h with
  | emit hr => exact .inr ⟨_, _, rfl, rfl⟩
  | ends _ _ he _ => obtain ⟨c, e, r, p, rfl⟩ := he.shape; exact .inl rfl
  | _ => exact .inl rfl

theorem Step.leaked {cfg : Cfg} {s s' : St} {a : Act} (h : Step cfg s a s') (hx : ∀ t, a ≠ .emitFail t) :
    s'.leaked = s.leaked := by
  cases h with
  | emitFail hr => exact absurd rfl (hx _)
  | ends _ _ he _ => obtain ⟨c, e, r, p, rfl⟩ := he.shape; rfl
  | _ => rfl

theorem Step.recvd {cfg : Cfg} {s s' : St} {a : Act} (h : Step cfg s a s') (h1 : ∀ n, a ≠ .feed n)
    (h2 : ∀ t code n, a ≠ .feedExt t code n) : s'.recvd = s.recvd := by
  cases h with
  | ends _ _ he _ => obtain ⟨c, e, r, p, rfl⟩ := he.shape; rfl
  | drop | credit | creditAck | feedExt | feedErr => exact absurd rfl (h2 _ _ _)
  | feed => exact absurd rfl (h1 _)
  | _ => rfl

theorem Ends.mono {s s0 : St} {ms : List Msg} (h : Ends s s0 ms) :
    (s.closed = true → s0.closed = true) ∧ (s.eofSent = true → s0.eofSent = true) ∧ s0.eofRecv = s.eofRecv := by
  cases h <;> simp [setClosed, *]

theorem Step.mono {cfg : Cfg} {s s' : St} {a : Act} (h : Step cfg s a s') :
    (s'.linked = true → s.linked = true) ∧ (s.closed = true → s'.closed = true) ∧
    (s.eofRecv = true → s'.eofRecv = true) ∧ (s.eofSent = true → s'.eofSent = true) := by
  cases h with
  | ends _ _ he hl =>
    obtain ⟨h1, h2, h3⟩ := he.mono
    refine ⟨fun h => ?_, h1, fun h => h3.trans h, h2⟩
    rcases hl with rfl | ⟨rfl, _⟩
    · exact h
    · cases h
  | shutdownRead | peerEof => exact ⟨id, id, fun _ => rfl, id⟩
  | unlink _ => exact ⟨(fun h => by cases h), fun _ => rfl, id, id⟩
  | _ => exact ⟨id, id, id, id⟩

theorem acct_mono {cfg : Cfg} {s s' : St} {a : Act} (h : Step cfg s a s') (ha : acct s' = true) : acct s = true := by
  obtain ⟨_, _, f2, _⟩ := h.fixed
  obtain ⟨_, f5, f6, _⟩ := h.mono
  unfold acct at *
  cases hc : s.closed <;> cases he : s.eofRecv <;> cases ha : s.active <;> simp_all

/-! ## `in_window_sofar` never exceeds the threshold -/

def SofarInv (s : St) : Prop := s.inSofar ≤ s.inThreshold

theorem SofarInv.step {cfg : Cfg} {s s' : St} {a : Act} (h : Step cfg s a s') (hi : SofarInv s) : SofarInv s' := by
  cases h with
  | check _ hc | credit hc | creditAck _ hc _ => exact hc.sofar hi
  | ends _ _ he _ => obtain ⟨c, e, r, p, rfl⟩ := he.shape; exact hi
  | _ => exact hi

theorem step_sofar (cfg : Cfg) (s : St) (x : Act) (hi : SofarInv s) : SofarInv (step cfg s x) :=
  hi.step (step_sound cfg s x)

theorem run_sofar (cfg : Cfg) (s : St) (as : List Act) (hi : SofarInv s) : SofarInv (run cfg s as) :=
  run_inv cfg (step_sofar cfg) s as hi

/-! ## exact receiver accounting while `_check_add_window` does not short-circuit -/

def EqCore (s : St) : Prop := adjSum s.wire + heldAdjAll s.thr + s.inSofar = s.consumed + s.discarded

/-- while the receiver accounts: acks written + acks/reads pending + in_window_sofar = consumed + discarded -/
def EqInv (s : St) : Prop := acct s = true → EqCore s

theorem eqcore_setThr {s s0 : St} {t : Nat} {old : TSt} (x : TSt) (hr : s.thr[t]? = some old)
    (hthr : s0.thr = s.thr) (hi : EqCore s)
    (h : adjSum s0.wire + x.heldAdj + s0.inSofar + s.consumed + s.discarded =
      adjSum s.wire + old.heldAdj + s.inSofar + s0.consumed + s0.discarded) : EqCore (setThr s0 t x) := by
  have := sumBy_set TSt.heldAdj s.thr t old x hr
  simp only [EqCore, setThr, heldAdjAll, hthr] at *
  omega

/-- On the tree that credits discarded data.  An acknowledgement whose `_send_user_message` raises is lost, so the
    equality needs "no failed send". -/
theorem EqInv.step {cfg : Cfg} {s s' : St} {a : Act} (h : Step cfg s a s') (hc : cfg.creditDiscarded = true)
    (hx : ∀ t, a ≠ .emitFail t) (hi : EqInv s) : EqInv s' := by
  intro ha'
  have ha := acct_mono h ha'
  have hi := hi ha
  cases h with
  | sends hc hr ho => exact eqcore_setThr _ hr rfl hi (by rw [ho.heldAdj, hc.held.2])
  | quiet hr hq => exact eqcore_setThr _ hr rfl hi (by rw [hq.held.2]; rfl)
  | recv hr h => exact eqcore_setThr _ hr rfl hi (by dsimp only [TSt.heldAdj]; omega)
  | emit hr =>
    refine eqcore_setThr _ hr rfl hi ?_
    rw [holdState_heldAdj]; simp only [TSt.heldAdj, adjSum_append, adjSum]; omega
  | emitFail hr => exact absurd rfl (hx _)
  | check hr hk =>
    refine eqcore_setThr _ hr rfl hi ?_
    have := hk.eq ha
    rw [holdState_heldAdj, (acks_sums _).1]; dsimp only [TSt.heldAdj]; omega
  | drop h => rw [hc] at h; cases h
  | credit hk => have := hk.eq ha; simp only [EqCore] at *; omega
  | creditAck hr hk _ =>
    refine eqcore_setThr _ hr rfl hi ?_
    have := hk.eq ha
    simp only [TSt.heldAdj, adjSum, Msg.adjLen]; omega
  | ends _ hr he _ =>
    obtain ⟨c, e, r, p, rfl⟩ := he.shape
    exact eqcore_setThr _ hr rfl hi (by rw [holdState_heldAdj, he.sums.2]; rfl)
  | _ => exact hi

end PV.Chan
