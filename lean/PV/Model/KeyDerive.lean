/-
  PV.Model.KeyDerive — executable model of `Transport._compute_key` and of the key letter /
  length selection in `Transport._activate_inbound` / `_activate_outbound`
  (paramiko/transport.py), plus the RFC 4253 section 7.2 specification it is compared with.

  The hash is a *parameter* (`Hash`), its only law is a fixed positive digest length (`HashLaws`).
  `toyHash L` is an executable instance for which the law is proved (driver + hypotheses
  satisfiable).  Mathlib-free.
-/
import PV.Base.Wire
namespace PV.KeyDerive
open PV PV.Wire

/-! ## the hash primitive -/

structure Hash where
  /-- `hash_algo(data).digest()` -/
  digest : Bytes → Bytes
  /-- `hash_algo().digest_size` -/
  size : Nat

structure HashLaws (h : Hash) : Prop where
  size_pos : 0 < h.size
  digest_len : ∀ x, (h.digest x).length = h.size

/-! ## `Transport._compute_key` -/

/-- The `while len(out) < nbytes:` loop.  `out` and `sofar` are the two Python variables (they are
    updated in lock step by the code; that they stay equal is a theorem, not built in).
    `kh` is the re-built message prefix `mpint(K) ‖ H`.  Fuel: one unit per iteration. -/
def extend (h : Hash) (kh : Bytes) : Nat → Bytes → Bytes → Nat → Bytes × Bytes
  | 0, out, sofar, _ => (out, sofar)
  | f + 1, out, sofar, n =>
    if out.length < n then
      let digest := h.digest (kh ++ sofar)
      extend h kh f (out ++ digest) (sofar ++ digest) n
    else (out, sofar)

/-- `m = Message(); m.add_mpint(K); m.add_bytes(H)` -/
def prefixKH (K : Int) (H : Bytes) : Bytes := encMpint K ++ H

/-- the message hashed for the first block: `mpint(K) ‖ H ‖ id ‖ session_id` -/
def firstInput (K : Int) (H sid : Bytes) (letter : UInt8) : Bytes :=
  prefixKH K H ++ [letter] ++ sid

/-- `Transport._compute_key(id, nbytes)` (fuel `nbytes` always suffices: `extend_inv` in KeyDeriveLemmas, `computeKey_length` in Props/C04). -/
def computeKey (h : Hash) (K : Int) (H sid : Bytes) (letter : UInt8) (n : Nat) : Bytes :=
  let first := h.digest (firstInput K H sid letter)
  (extend h (prefixKH K H) n first first n).1.take n

/-! ## RFC 4253 section 7.2 (specification)

    K1 = HASH(K ‖ H ‖ X ‖ session_id), K(i+1) = HASH(K ‖ H ‖ K1 ‖ … ‖ Ki),
    key = K1 ‖ K2 ‖ K3 ‖ …  (as many bytes as needed); K is encoded as mpint. -/

/-- `[K1, …, Kk]` -/
def rfcBlocks (h : Hash) (K : Int) (H sid : Bytes) (X : UInt8) : Nat → List Bytes
  | 0 => []
  | 1 => [h.digest (encMpint K ++ H ++ [X] ++ sid)]
  | k + 2 =>
    let prev := rfcBlocks h K H sid X (k + 1)
    prev ++ [h.digest (encMpint K ++ H ++ prev.flatten)]

/-- `K1 ‖ … ‖ Kk` -/
def rfcStream (h : Hash) (K : Int) (H sid : Bytes) (X : UInt8) (k : Nat) : Bytes :=
  (rfcBlocks h K H sid X k).flatten

/-- the first `n` bytes of `K1 ‖ K2 ‖ …` (`n + 1` blocks are always enough; any larger number of
    blocks gives the same bytes: `PV.Props.C04.rfcKey_blocks_irrelevant`). -/
def rfcKey (h : Hash) (K : Int) (H sid : Bytes) (X : UInt8) (n : Nat) : Bytes :=
  (rfcStream h K H sid X (n + 1)).take n

/-! ## `_activate_inbound` / `_activate_outbound`: which letter, how many bytes -/

inductive Dir | inbound | outbound
  deriving Repr, DecidableEq

/-- `(iv letter, key letter, mac letter)` exactly as the four `if self.server_mode:` branches say. -/
def letters (serverMode : Bool) : Dir → UInt8 × UInt8 × UInt8
  | .inbound => if serverMode then (65, 67, 69) else (66, 68, 70)   -- A C E / B D F
  | .outbound => if serverMode then (66, 68, 70) else (65, 67, 69)  -- B D F / A C E

/-- one row of `Transport._cipher_info` (`ivSize` = `info.get("iv-size", block_size)`) -/
structure CipherInfo where
  name : String
  blockSize : Nat
  keySize : Nat
  ivSize : Nat
  aead : Bool
  deriving Repr, DecidableEq

/-- one row of `Transport._mac_info` (`digestSize` = `info["class"]().digest_size`) -/
structure MacInfo where
  name : String
  digestSize : Nat
  size : Nat
  deriving Repr, DecidableEq

/-- what `_activate_*` derives and hands to `_get_engine` / `Packetizer.set_*_cipher` -/
structure Keys where
  iv : Bytes
  key : Bytes
  macKey : Bytes
  /-- `mac_key=None if aead else mac_key` -/
  macKeyArg : Option Bytes
  /-- `iv_in/iv_out = iv if aead else None` -/
  ivArg : Option Bytes
  /-- `mac_size=16 if aead else mac_size` -/
  macSizeArg : Nat
  blockSizeArg : Nat
  deriving Repr, DecidableEq

def activate (h : Hash) (K : Int) (H sid : Bytes) (serverMode : Bool) (d : Dir)
    (ci : CipherInfo) (mi : MacInfo) : Keys :=
  let (li, lk, lm) := letters serverMode d
  let iv := computeKey h K H sid li ci.ivSize
  let key := computeKey h K H sid lk ci.keySize
  let macKey := computeKey h K H sid lm mi.digestSize
  { iv := iv, key := key, macKey := macKey,
    macKeyArg := if ci.aead then none else some macKey,
    ivArg := if ci.aead then some iv else none,
    macSizeArg := if ci.aead then 16 else mi.size,
    blockSizeArg := ci.blockSize }

/-- what `_parse_kex_init` left on the transport: the two directions are negotiated independently
    (RFC 4253 section 7.1), so `local_*` and `remote_*` may name different algorithms -/
structure Negotiated where
  localCipher : CipherInfo
  remoteCipher : CipherInfo
  localMac : MacInfo
  remoteMac : MacInfo
  deriving Repr, DecidableEq

/-- `_activate_inbound` reads `self._cipher_info[self.remote_cipher]` / `self._mac_info[self.remote_mac]`,
    `_activate_outbound` the `local_*` ones: every size comes from the algorithm of *that* direction. -/
def activateDir (h : Hash) (K : Int) (H sid : Bytes) (serverMode : Bool) (d : Dir) (n : Negotiated) : Keys :=
  match d with
  | .inbound => activate h K H sid serverMode .inbound n.remoteCipher n.remoteMac
  | .outbound => activate h K H sid serverMode .outbound n.localCipher n.localMac

/-! ## `Transport._set_K_H`: the session identifier is pinned by the first key exchange -/

/-- `self.K`, `self.H`, `self.session_id` (`none` = Python `None`, the value `__init__` stores) -/
structure KexState where
  K : Option Int
  H : Option Bytes
  sessionId : Option Bytes
  deriving Repr, DecidableEq

def KexState.init : KexState := { K := none, H := none, sessionId := none }

/-- `_set_K_H(k, h)`.  `guarded` is the AST fact "the only assignment to `self.session_id` outside
    `__init__` is `self.session_id = h` directly under `if self.session_id is None:`" (regenerated from
    the source, `PV.Generated.C04.sessionIdGuarded`); without the guard every exchange would overwrite it. -/
def setKH (guarded : Bool) (s : KexState) (k : Int) (h : Bytes) : KexState :=
  { K := some k, H := some h,
    sessionId := if guarded then (match s.sessionId with | none => some h | some x => some x) else some h }

/-- a connection's key exchanges (initial kex, then every re-key), oldest first -/
def runExchanges (guarded : Bool) (s : KexState) : List (Int × Bytes) → KexState
  | [] => s
  | (k, h) :: rest => runExchanges guarded (setKH guarded s k h) rest

/-- `_compute_key(id, n)` on the transport's current `K`, `H`, `session_id` -/
def stateKey (hf : Hash) (s : KexState) (letter : UInt8) (n : Nat) : Option Bytes :=
  match s.K, s.H, s.sessionId with
  | some k, some h, some sid => some (computeKey hf k h sid letter n)
  | _, _, _ => none

/-! ## toy hash (executable instance; identical to `pv/lib_kex.py: ToyHash`) -/

def toyAcc (x : Bytes) : Nat :=
  x.foldl (fun s b => (s * 31 + b.toNat + 7) % 65521) 158

/-- `L` bytes; byte `i` = `(acc * (i + 3) + i * i + len(x)) % 251` -/
def toyDigest (L : Nat) (x : Bytes) : Bytes :=
  let s := toyAcc x
  (List.range L).map fun i => UInt8.ofNat ((s * (i + 3) + i * i + x.length) % 251)

def toyHash (L : Nat) : Hash := { digest := toyDigest L, size := L }

theorem toyHash_laws (L : Nat) (hL : 0 < L) : HashLaws (toyHash L) :=
  ⟨hL, fun x => by simp [toyHash, toyDigest]⟩

end PV.KeyDerive
