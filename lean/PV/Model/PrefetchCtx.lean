/-
  The running read keeps the position it started from and the size it was asked for until it completes:
  with `reads_exact` this is what makes a `readv` block (one `readAt off n` step) come out as file[off : off+n].
-/
import PV.Model.PrefetchInv
namespace PV.Prefetch
open PV

/-- `s'` continues the read `(start, want)`, or has completed it (one more `out` entry for exactly that read), or
    has raised for it -/
def Continues (start : Nat) (want : Option Nat) (s s' : St) : Prop :=
  (∃ c, pcCtx s'.pc = some c ∧ c.start = start ∧ c.want = want ∧ s'.out = s.out ∧ s'.raised = s.raised) ∨
  (s'.pc = .idle ∧ ∃ b, s'.out = s.out ++ [(start, want, b)] ∧ s'.raised = s.raised) ∨
  (s'.pc = .idle ∧ s'.out = s.out ∧ ∃ code, s'.raised = s.raised ++ [(start, code)])

theorem Stop.continues {s t : St} {c : RCtx} (hs : Stop s c t) : Continues c.start c.want s t := by
  cases hs with
  | fin => exact .inr (.inl ⟨rfl, _, rfl, rfl⟩)
  | cont | recvPf | sync => exact .inl ⟨_, rfl, rfl, rfl, rfl, rfl⟩

theorem advance_continues (fuel : Nat) (s : St) (c : RCtx) : Continues c.start c.want s (advance fuel s c) := by
  obtain ⟨b, p, a, z, hs⟩ := advance_stop_any fuel s c
  exact hs.continues

theorem afterCheck_continues (s : St) (c : RCtx) : Continues c.start c.want s (afterCheck s c) := by
  unfold afterCheck
  split
  · exact .inr (.inr ⟨rfl, rfl, _, rfl⟩)
  · exact advance_continues _ _ _

/-- one step of the reader in the middle of a read -/
theorem rStep_continues {s s' : St} {c : RCtx} (hc : pcCtx s.pc = some c) (h : Step s .rStep s') :
    Continues c.start c.want s s' := by
  have hc0 := hc
  cases h with
  | cont hpc =>
    rw [hpc] at hc; obtain rfl := Option.some.inj hc
    exact advance_continues _ _ _
  | recvPf hpc | allocSync hpc | sendSync hpc | otherPf hpc =>
    rw [hpc] at hc; obtain rfl := Option.some.inj hc
    exact .inl ⟨_, rfl, rfl, rfl, rfl, rfl⟩
  | dropPf hpc =>
    rw [hpc] at hc; obtain rfl := Option.some.inj hc
    exact afterCheck_continues _ _
  | dispPf hpc ha =>
    rw [hpc] at hc; obtain rfl := Option.some.inj hc
    obtain ⟨off, len, -, rfl⟩ := asyncResponse_some ha
    exact afterCheck_continues _ _
  | ownEmpty hpc | ownEof hpc =>
    rw [hpc] at hc; obtain rfl := Option.some.inj hc
    exact .inr (.inl ⟨rfl, _, rfl, rfl⟩)
  | ownData hpc =>
    rw [hpc] at hc; obtain rfl := Option.some.inj hc
    exact advance_continues _ _ _
  | ownErr hpc =>
    rw [hpc] at hc; obtain rfl := Option.some.inj hc
    exact .inr (.inr ⟨rfl, rfl, _, rfl⟩)
  | otherDrop => exact .inl ⟨c, hc0, rfl, rfl, rfl, rfl⟩
  | dispSync hpc ha =>
    rw [hpc] at hc; obtain rfl := Option.some.inj hc
    obtain ⟨off, len, -, rfl⟩ := asyncResponse_some ha
    exact .inl ⟨_, rfl, rfl, rfl, rfl, rfl⟩

end PV.Prefetch
