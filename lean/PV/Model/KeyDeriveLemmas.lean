/-
  Helper lemmas for PV.Model.KeyDerive (kept apart from the property theorems in PV/Props/C04.lean).
-/
import PV.Model.KeyDerive
namespace PV.KeyDerive
open PV PV.Wire

variable (h : Hash) (K : Int) (H sid : Bytes) (X : UInt8)

theorem rfcStream_zero : rfcStream h K H sid X 0 = [] := by
  simp [rfcStream, rfcBlocks]

theorem rfcStream_one : rfcStream h K H sid X 1 = h.digest (firstInput K H sid X) := by
  simp [rfcStream, rfcBlocks, firstInput, prefixKH]

theorem rfcStream_succ (k : Nat) :
    rfcStream h K H sid X (k + 2)
      = rfcStream h K H sid X (k + 1) ++ h.digest (prefixKH K H ++ rfcStream h K H sid X (k + 1)) := by
  simp [rfcStream, rfcBlocks, prefixKH]

theorem rfcStream_length (hl : HashLaws h) (k : Nat) :
    (rfcStream h K H sid X k).length = k * h.size := by
  induction k with
  | zero => simp [rfcStream_zero]
  | succ k ih =>
    cases k with
    | zero => simp [rfcStream_one, hl.digest_len]
    | succ k =>
      rw [rfcStream_succ, List.length_append, ih, hl.digest_len]
      simp [Nat.add_mul]

theorem rfcStream_prefix_succ (k : Nat) :
    rfcStream h K H sid X k <+: rfcStream h K H sid X (k + 1) := by
  cases k with
  | zero => simp [rfcStream_zero]
  | succ k => rw [rfcStream_succ]; exact List.prefix_append _ _

theorem rfcStream_prefix {j k : Nat} (hjk : j ≤ k) :
    rfcStream h K H sid X j <+: rfcStream h K H sid X k := by
  induction hjk with
  | refl => exact List.prefix_refl _
  | step _ ih => exact List.IsPrefix.trans ih (rfcStream_prefix_succ h K H sid X _)

theorem take_of_prefix {α : Type} {l1 l2 : List α} (hp : l1 <+: l2) {n : Nat} (hn : n ≤ l1.length) :
    l2.take n = l1.take n := by
  obtain ⟨t, rfl⟩ := hp
  exact List.take_append_of_le_length hn

theorem rfcStream_take_eq (hl : HashLaws h) {j k n : Nat}
    (hj : n ≤ j * h.size) (hk : n ≤ k * h.size) :
    (rfcStream h K H sid X j).take n = (rfcStream h K H sid X k).take n := by
  rcases Nat.le_total j k with hjk | hkj
  · exact (take_of_prefix (rfcStream_prefix h K H sid X hjk)
      (by rw [rfcStream_length h K H sid X hl]; exact hj)).symm
  · exact take_of_prefix (rfcStream_prefix h K H sid X hkj)
      (by rw [rfcStream_length h K H sid X hl]; exact hk)

/-- Loop invariant of `_compute_key`: `out` and `sofar` stay equal and are always
    `K1 ‖ … ‖ K(j+1)`; the loop stops with enough bytes or with the fuel used up. -/
theorem extend_inv (n : Nat) : ∀ (f j : Nat),
    ∃ j', j ≤ j' ∧
      extend h (prefixKH K H) f (rfcStream h K H sid X (j + 1)) (rfcStream h K H sid X (j + 1)) n
        = (rfcStream h K H sid X (j' + 1), rfcStream h K H sid X (j' + 1)) ∧
      (n ≤ (rfcStream h K H sid X (j' + 1)).length ∨ j' = j + f) ∧
      (j' = j ∨ (rfcStream h K H sid X j').length < n) := by
  intro f
  induction f with
  | zero => intro j; exact ⟨j, Nat.le_refl _, rfl, Or.inr rfl, Or.inl rfl⟩
  | succ f ih =>
    intro j
    by_cases hlt : (rfcStream h K H sid X (j + 1)).length < n
    · obtain ⟨j', hj, he, hd, hm⟩ := ih (j + 1)
      refine ⟨j', by omega, ?_, ?_, ?_⟩
      · rw [extend]; simp only [hlt, if_true]
        rw [← rfcStream_succ]; exact he
      · rcases hd with hd | hd
        · exact Or.inl hd
        · exact Or.inr (by omega)
      · rcases hm with hm | hm
        · subst hm; exact Or.inr hlt
        · exact Or.inr hm
    · refine ⟨j, Nat.le_refl _, ?_, Or.inl (by omega), Or.inl rfl⟩
      rw [extend]; simp only [hlt, if_false]

end PV.KeyDerive
