/-
  PV.Model.Rekey — the rekey bookkeeping of `Packetizer` (paramiko/packet.py: counters in `send_message` /
  `read_message`, `_trigger_rekey`, `need_rekey`, the resets in `set_outbound_cipher` / `set_inbound_cipher`)
  together with the transport's use of it (`Transport.run` loop top, `in_kex` handling in `_send_kex_init`,
  `_activate_outbound`, `_parse_newkeys`).  Thresholds are parameters.  Executable.
-/
namespace PV.Rekey

/-- `REKEY_PACKETS`, `REKEY_BYTES`, `REKEY_PACKETS_OVERFLOW_MAX`, `REKEY_BYTES_OVERFLOW_MAX` -/
structure Limits where
  rp : Nat
  rb : Nat
  op : Nat
  ob : Nat
  deriving Repr, DecidableEq

structure St where
  sentBytes : Nat := 0
  sentPackets : Nat := 0
  recvBytes : Nat := 0
  recvPackets : Nat := 0
  ovBytes : Nat := 0          -- __received_bytes_overflow
  ovPackets : Nat := 0        -- __received_packets_overflow
  needRekey : Bool := false   -- __need_rekey
  initCount : Nat := 0        -- __init_count (bit 1: outbound switched, bit 2: inbound switched)
  err : Bool := false         -- SSHException("Remote transport is ignoring rekey requests") was raised
  inKex : Bool := false       -- Transport.in_kex
  kexInits : Nat := 0         -- ghost: KEXINITs sent because of `need_rekey()`
  deriving Repr, DecidableEq, Inhabited

inductive Op
  | send (len : Nat)     -- `send_message` wrote a packet of `len` bytes
  | recv (len : Nat)     -- `read_message` returned a packet of raw size `len`
  | setOut               -- `_activate_outbound`: `set_outbound_cipher`, then `if not need_rekey(): in_kex = False`
  | setIn                -- `_parse_newkeys`: `set_inbound_cipher`, then `if not need_rekey(): in_kex = False`
  | loopTop              -- `if need_rekey() and not in_kex: _send_kex_init()`
  | peerKexInit          -- the peer's KEXINIT: `_negotiate_keys` → `_send_kex_init()` if we have not sent ours
  deriving Repr, DecidableEq, Inhabited

def bothSwitched (s : St) (bit : Nat) : St :=
  let c := s.initCount ||| bit
  if c = 3 then { s with initCount := 0, needRekey := false } else { s with initCount := c }

def step (L : Limits) (s : St) : Op → St
  | .send len =>
    let s := { s with sentBytes := s.sentBytes + len, sentPackets := s.sentPackets + 1 }
    if (s.sentPackets ≥ L.rp ∨ s.sentBytes ≥ L.rb) ∧ ¬ s.needRekey then
      { s with ovBytes := 0, ovPackets := 0, needRekey := true }
    else s
  | .recv len =>
    let s := { s with recvBytes := s.recvBytes + len, recvPackets := s.recvPackets + 1 }
    if s.needRekey then
      let s := { s with ovBytes := s.ovBytes + len, ovPackets := s.ovPackets + 1 }
      if s.ovPackets ≥ L.op ∨ s.ovBytes ≥ L.ob then { s with err := true } else s
    else if s.recvPackets ≥ L.rp ∨ s.recvBytes ≥ L.rb then
      { s with ovBytes := 0, ovPackets := 0, needRekey := true }
    else s
  | .setOut =>
    let s := bothSwitched { s with sentBytes := 0, sentPackets := 0 } 1
    if ¬ s.needRekey then { s with inKex := false } else s
  | .setIn =>
    let s := bothSwitched { s with recvBytes := 0, recvPackets := 0, ovBytes := 0, ovPackets := 0 } 2
    if ¬ s.needRekey then { s with inKex := false } else s
  | .loopTop =>
    if s.needRekey ∧ ¬ s.inKex then { s with inKex := true, kexInits := s.kexInits + 1 } else s
  | .peerKexInit => { s with inKex := true }

/-- an exception ends the transport: nothing happens afterwards -/
def stepE (L : Limits) (s : St) (o : Op) : St := if s.err then s else step L s o

def run (L : Limits) (s : St) (ops : List Op) : St := ops.foldl (stepE L) s

/-! ## `Packetizer.read_all(n, check_rekey)` over a socket that delivers fragments and times out -/

inductive SockEv
  | data (k : Nat)     -- `recv(n)` returned `k` bytes (at most what was asked for; 0 = end of file)
  | timeout            -- `socket.timeout`
  | eagain             -- `socket.error` with errno EAGAIN (how some socket-likes report "nothing yet")
  deriving Repr, DecidableEq, Inhabited

inductive ReadResult
  | ok (events : Nat)          -- all `n` bytes were read, after this many socket events
  | needRekey (lost : Nat)     -- NeedRekeyException, with this many bytes of the packet already taken off the socket
  | eof (got : Nat)            -- EOFError (`recv` returned nothing, or the script of events ended)
  deriving Repr, DecidableEq, Inhabited

/-- `got` = bytes of this request read so far, `used` = socket events consumed -/
def readAll (need check : Bool) (n got used : Nat) : List SockEv → ReadResult
  | [] => if n = 0 then .ok used else .eof got
  | ev :: evs =>
    if n = 0 then .ok used else
    match ev with
    | .data k =>
      if k = 0 then .eof got
      else readAll need check (n - min k n) (got + min k n) (used + 1) evs
    | .timeout | .eagain =>      -- both set `got_timeout`: one and the same test follows
      if check ∧ got = 0 ∧ need then .needRekey got
      else readAll need check n got (used + 1) evs

/-! ## compression engines across key switches (`_activate_outbound`, `_activate_inbound`, `_auth_trigger`) -/

/-- negotiated compression: "none", "zlib", "zlib@openssh.com" (switched on only after authentication) -/
inductive Comp | none | zlib | delayed
  deriving Repr, DecidableEq, Inhabited

structure CSt where
  comp : Comp
  authenticated : Bool := false
  outGen : Nat := 0                   -- key sets taken into use outbound (NEWKEYS sent)
  inGen : Nat := 0                    -- … inbound (NEWKEYS received)
  compOutGen : Option Nat := none     -- the key generation the current compressor was created for
  compInGen : Option Nat := none      -- … the current decompressor
  installsOut : Nat := 0              -- calls of `set_outbound_compressor`
  installsIn : Nat := 0               -- calls of `set_inbound_compressor`
  deriving Repr, DecidableEq, Inhabited

inductive COp | newkeysOut | newkeysIn | auth
  deriving Repr, DecidableEq, Inhabited

/-- `compress_* is not None and (compression != "zlib@openssh.com" or self.authenticated)` -/
def CSt.switchOn (s : CSt) : Bool :=
  match s.comp with
  | .none => false
  | .zlib => true
  | .delayed => s.authenticated

def cstep (s : CSt) : COp → CSt
  | .newkeysOut =>
    let s := { s with outGen := s.outGen + 1 }
    if s.switchOn then { s with compOutGen := some s.outGen, installsOut := s.installsOut + 1 } else s
  | .newkeysIn =>
    let s := { s with inGen := s.inGen + 1 }
    if s.switchOn then { s with compInGen := some s.inGen, installsIn := s.installsIn + 1 } else s
  | .auth =>
    let s := { s with authenticated := true }
    if s.comp = .delayed then
      { s with compOutGen := some s.outGen, compInGen := some s.inGen,
               installsOut := s.installsOut + 1, installsIn := s.installsIn + 1 }
    else s

def crun (s : CSt) (ops : List COp) : CSt := ops.foldl cstep s

/-- which generation a direction's (de)compressor must belong to -/
def expectedCompGen (c : Comp) (authenticated : Bool) (gen : Nat) : Option Nat :=
  match c with
  | .none => none
  | .zlib => if gen = 0 then none else some gen
  | .delayed => if authenticated then some gen else none

end PV.Rekey
