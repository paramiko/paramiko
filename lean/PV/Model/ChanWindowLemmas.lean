/-
  PV.Model.ChanWindow as a transition relation.  `Step cfg s a s'` says what action `a` does to `s`, one
  constructor per kind of effect, each written as a record update of `s` so that a field the effect leaves alone
  is seen to be left alone by unfolding.  `step_sound` walks the decision tree of `step` once; every invariant of
  the channel (here: the window equation, the packet-size bound, the receiver's accounting) is then proved by
  cases on `Step`, and `run_inv` carries it along every schedule.
-/
import PV.Model.ChanWindow
namespace PV.Chan

/-! ## sums over threads and over the wire -/

theorem sumBy_set (f : TSt → Nat) (l : List TSt) (t : Nat) (old x : TSt) (h : l[t]? = some old) :
    sumBy f (l.set t x) + f old = sumBy f l + f x := by
  induction l generalizing t with
  | nil => simp at h
  | cons y ys ih =>
    cases t with
    | zero =>
      simp only [List.getElem?_cons_zero, Option.some.injEq] at h
      subst h
      simp only [List.set_cons_zero, sumBy]; omega
    | succ t =>
      simp only [List.getElem?_cons_succ] at h
      have := ih t h
      simp only [List.set_cons_succ, sumBy]; omega

theorem sumBy_zero (f : TSt → Nat) (l : List TSt) (h : ∀ x ∈ l, f x = 0) : sumBy f l = 0 := by
  induction l with
  | nil => rfl
  | cons a as ih =>
    simp only [sumBy, h a (List.mem_cons_self ..), ih (fun x hx => h x (List.mem_cons_of_mem _ hx))]

theorem sumBy_init (f : TSt → Nat) (h : f (.idle .none) = 0) (inWin peerWin peerMax nthr : Nat) (c : Bool) :
    sumBy f (init inWin peerWin peerMax nthr c).thr = 0 :=
  sumBy_zero f _ fun y hy => by rw [(List.mem_replicate.1 hy).2, h]

theorem dataSum_append (a b : List Msg) : dataSum (a ++ b) = dataSum a + dataSum b := by
  induction a with
  | nil => simp [dataSum]
  | cons m ms ih => simp only [List.cons_append, dataSum, ih]; omega

theorem adjSum_append (a b : List Msg) : adjSum (a ++ b) = adjSum a + adjSum b := by
  induction a with
  | nil => simp [adjSum]
  | cons m ms ih => simp only [List.cons_append, adjSum, ih]; omega

theorem run_inv {P : St → Prop} (cfg : Cfg) (hstep : ∀ s a, P s → P (step cfg s a)) (s : St) (as : List Act)
    (h : P s) : P (run cfg s as) := by
  induction as generalizing s with
  | nil => exact h
  | cons a as ih => exact ih _ (hstep s a h)

/-! ## threads: what a thread has in hand -/

def TSt.held : TSt → List Msg
  | .hold ms _ => ms
  | _ => []

def holdState (ms : List Msg) (k : Kont) : TSt :=
  match ms with
  | [] => kontState k
  | _ :: _ => .hold ms k

theorem idleOf_spec {s : St} {t : Nat} (h : idleOf s t = true) : ∃ r, s.thr[t]? = some (.idle r) := by
  unfold idleOf at h
  split at h
  · next r hr => exact ⟨r, hr⟩
  · cases h

theorem idleOf_of_get {s : St} {t : Nat} {r : Res} (h : s.thr[t]? = some (.idle r)) : idleOf s t = true := by
  simp only [idleOf, h]

theorem setThr_get {s : St} {t : Nat} {old : TSt} (x : TSt) (h : s.thr[t]? = some old) :
    (setThr s t x).thr[t]? = some x := by
  simp [setThr, (List.getElem?_eq_some_iff.1 h).1]

theorem setThr_self {s : St} {t : Nat} {x : TSt} (h : s.thr[t]? = some x) : setThr s t x = s := by
  have : s.thr.set t x = s.thr := by
    apply List.ext_getElem? ; intro i
    by_cases hi : t = i
    · subst hi; rw [List.getElem?_set_self (List.getElem?_eq_some_iff.1 h).1, h]
    · rw [List.getElem?_set_ne hi]
  simp only [setThr, this]

theorem heldData_eq (x : TSt) : x.heldData = dataSum x.held := by cases x <;> rfl

theorem holdsData_eq (x : TSt) : x.holdsData = x.held.any Msg.isData := by cases x <;> rfl

theorem kontState_cases (k : Kont) : (∃ r, kontState k = .idle r) ∨ ∃ l e, kontState k = .loopHead l e := by
  cases k with
  | loop l e n =>
    simp only [kontState]; split
    · exact .inl ⟨_, rfl⟩
    · exact .inr ⟨_, _, rfl⟩
  | _ => exact .inl ⟨_, rfl⟩

theorem holdOrDone_eq (s : St) (t : Nat) (ms : List Msg) (k : Kont) :
    holdOrDone s t ms k = setThr s t (holdState ms k) := by
  cases ms <;> rfl

theorem holdState_of {α : Type} (f : TSt → α) (g : List Msg → α) (hh : ∀ ms k, f (.hold ms k) = g ms)
    (hi : ∀ r, f (.idle r) = g []) (hl : ∀ l e, f (.loopHead l e) = g []) (ms : List Msg) (k : Kont) :
    f (holdState ms k) = g ms := by
  cases ms with
  | nil => rcases kontState_cases k with ⟨r, h⟩ | ⟨l, e, h⟩ <;> simp only [holdState, h, hi, hl]
  | cons m ms => exact hh _ k

theorem holdState_held (ms : List Msg) (k : Kont) : (holdState ms k).held = ms :=
  holdState_of TSt.held id (fun _ _ => rfl) (fun _ => rfl) (fun _ _ => rfl) ms k

theorem holdState_retNone (ms : List Msg) : (holdState ms .retNone).held = ms := holdState_held ms _

theorem holdState_heldData (ms : List Msg) (k : Kont) : (holdState ms k).heldData = dataSum ms := by
  rw [heldData_eq, holdState_held]

theorem holdState_heldAdj (ms : List Msg) (k : Kont) : (holdState ms k).heldAdj = adjSum ms :=
  holdState_of TSt.heldAdj adjSum (fun _ _ => rfl) (fun _ => rfl) (fun _ _ => rfl) ms k

@[simp] theorem mkData_dataLen (ext : Bool) (n : Nat) : (mkData ext n).dataLen = n := by cases ext <;> rfl
@[simp] theorem mkData_adjLen (ext : Bool) (n : Nat) : (mkData ext n).adjLen = 0 := by cases ext <;> rfl
@[simp] theorem mkData_isData (ext : Bool) (n : Nat) : (mkData ext n).isData = true := by cases ext <;> rfl

/-! ## the lock regions -/

theorem allocate_le (s : St) (want : Nat) :
    allocate s want ≤ s.outWin ∧ allocate s want ≤ want ∧ allocate s want ≤ s.maxPkt - 64 := by
  unfold allocate; simp only; split <;> split <;> omega

theorem allocate_pos (s : St) (want : Nat) (hw : 0 < want) (ho : 0 < s.outWin) (hp : 64 < s.maxPkt) :
    0 < allocate s want := by
  unfold allocate; simp only; split <;> split <;> omega

theorem sanitizePkt_ge (n : Nat) : 4096 ≤ sanitizePkt n := by
  unfold sanitizePkt MIN_PACKET_SIZE; omega

theorem sanitizePkt_id (n : Nat) (h1 : 4096 ≤ n) (h2 : n ≤ 4294967295) : sanitizePkt n = n := by
  unfold sanitizePkt MIN_PACKET_SIZE MAX_WINDOW_SIZE; omega

/-- State of the calling thread after the lock region of `_send`, or after `out_buffer_cv.wait` returned, for a
    request of `want` bytes made by a plain send (`lp = none`) or by `sendall` (`lp = some l`), and the number of
    bytes taken from the window.  A reservation is made only on an open channel, a thread sleeps only on a zero
    window. -/
inductive SendOut (cfg : Cfg) (s : St) (want : Nat) (ext : Bool) (lp : Option Loop) : TSt → Nat → Prop where
  | sockClosed : SendOut cfg s want ext lp (.idle .sockClosed) 0
  | timeout : SendOut cfg s want ext lp (.idle .timeout) 0
  | wait (left : Option Nat) : s.outWin = 0 → SendOut cfg s want ext lp (.waiting want ext left lp) 0
  | zeroPlain : lp = none → SendOut cfg s want ext lp (.idle (.ret 0)) 0
  | zeroLoopOld (l : Loop) : lp = some l → cfg.raiseOnZero = false → SendOut cfg s want ext lp (.loopHead l ext) 0
  | granted (n : Nat) : 0 < n → n ≤ want → n ≤ s.outWin → n ≤ s.maxPkt - 64 → s.closed = false →
      s.eofSent = false →
      SendOut cfg s want ext lp
        (.hold [mkData ext n] (match lp with | none => Kont.retN n | some l => Kont.loop l ext n)) n

def SendEff (cfg : Cfg) (s : St) (t want : Nat) (ext : Bool) (lp : Option Loop) (s' : St) : Prop :=
  ∃ x d, s' = setThr { s with outWin := s.outWin - d } t x ∧ SendOut cfg s want ext lp x d

theorem zeroResult_out (cfg : Cfg) (s : St) (t want : Nat) (ext : Bool) (lp : Option Loop) :
    SendEff cfg s t want ext lp (zeroResult cfg s t ext lp) := by
  unfold zeroResult
  split
  · exact ⟨_, 0, rfl, .zeroPlain rfl⟩
  · next l =>
    split
    · exact ⟨_, 0, rfl, .sockClosed⟩
    · next h => exact ⟨_, 0, rfl, .zeroLoopOld l rfl (by simpa using h)⟩

theorem grant_out (cfg : Cfg) (s : St) (t want : Nat) (ext : Bool) (lp : Option Loop)
    (hc : s.closed = false) (he : s.eofSent = false) : SendEff cfg s t want ext lp (grant cfg s t want ext lp) := by
  unfold grant
  simp only
  split
  · exact zeroResult_out cfg s t want ext lp
  · have ⟨h1, h2, h3⟩ := allocate_le s want
    exact ⟨_, allocate s want, rfl, .granted _ (by omega) h2 h1 h3 hc he⟩

theorem sendRegion_out (cfg : Cfg) (s : St) (t want : Nat) (ext : Bool) (lp : Option Loop) :
    SendEff cfg s t want ext lp (sendRegion cfg s t want ext lp) := by
  unfold sendRegion
  split
  · exact ⟨_, 0, rfl, .sockClosed⟩
  · next hc =>
    split
    · exact zeroResult_out cfg s t want ext lp
    · next he =>
      split
      · next h0 =>
        split
        · exact ⟨_, 0, rfl, .timeout⟩
        · exact ⟨_, 0, rfl, .wait _ h0⟩
        · exact ⟨_, 0, rfl, .timeout⟩
        · exact ⟨_, 0, rfl, .wait _ h0⟩
      · exact grant_out cfg s t want ext lp (by simpa using hc) (by simpa using he)

theorem wakeRegion_out (cfg : Cfg) (s : St) (t dt want : Nat) (ext : Bool) (left : Option Nat)
    (lp : Option Loop) : SendEff cfg s t want ext lp (wakeRegion cfg s t dt want ext left lp) := by
  have cont : ∀ left', SendEff cfg s t want ext lp (if s.outWin = 0 then
      if (s.closed || s.eofSent) = true then zeroResult cfg s t ext lp
      else setThr s t (.waiting want ext left' lp)
    else if (s.closed || s.eofSent) = true then zeroResult cfg s t ext lp
    else grant cfg s t want ext lp) := by
    intro left'
    split
    · next h0 =>
      split
      · exact zeroResult_out cfg s t want ext lp
      · exact ⟨_, 0, rfl, .wait _ h0⟩
    · split
      · exact zeroResult_out cfg s t want ext lp
      · next h =>
        rw [Bool.or_eq_true, not_or, Bool.not_eq_true, Bool.not_eq_true] at h
        exact grant_out cfg s t want ext lp h.1 h.2
  unfold wakeRegion
  simp only
  split
  · exact cont none
  · split
    · exact ⟨_, 0, rfl, .timeout⟩
    · exact cont _

theorem SendOut.held {cfg : Cfg} {s : St} {want : Nat} {ext : Bool} {lp : Option Loop} {x : TSt} {d : Nat}
    (h : SendOut cfg s want ext lp x d) :
    (x.held = [] ∧ d = 0) ∨
    (x.held = [mkData ext d] ∧ 0 < d ∧ d ≤ s.outWin ∧ d ≤ s.maxPkt - 64 ∧ s.closed = false ∧
      s.eofSent = false) := by
  cases h with
  | granted n h1 _ h3 h4 h5 h6 => exact .inr ⟨rfl, h1, h3, h4, h5, h6⟩
  | _ => exact .inl ⟨rfl, rfl⟩

theorem SendOut.heldData {cfg : Cfg} {s : St} {want : Nat} {ext : Bool} {lp : Option Loop} {x : TSt} {d : Nat}
    (h : SendOut cfg s want ext lp x d) : x.heldData = d ∧ d ≤ s.outWin := by
  rw [heldData_eq]
  rcases h.held with ⟨e, rfl⟩ | ⟨e, _, h3, _⟩ <;> rw [e]
  · exact ⟨rfl, Nat.zero_le _⟩
  · exact ⟨by simp [dataSum], h3⟩

theorem SendOut.heldAdj {cfg : Cfg} {s : St} {want : Nat} {ext : Bool} {lp : Option Loop} {x : TSt} {d : Nat}
    (h : SendOut cfg s want ext lp x d) : x.heldAdj = 0 := by
  cases h <;> simp [TSt.heldAdj, adjSum]

/-- the receiving side still accounts for what it reads -/
def acct (s : St) : Bool := !(s.closed || s.eofRecv || !s.active)

/-- `_check_add_window(n)` leaves `in_window_sofar = v` and returns `ack` -/
structure Credit (s : St) (n v ack : Nat) : Prop where
  le : v + ack ≤ s.inSofar + n
  eq : acct s = true → v + ack = s.inSofar + n
  sofar : s.inSofar ≤ s.inThreshold → v ≤ s.inThreshold
  big : ack = 0 ∨ s.inThreshold < ack
  closed : s.closed = true → v = s.inSofar ∧ ack = 0

theorem checkAdd_credit (s : St) (n : Nat) :
    ∃ v, (checkAdd s n).1 = { s with inSofar := v } ∧ Credit s n v (checkAdd s n).2 := by
  unfold checkAdd
  split
  · next h =>
    refine ⟨s.inSofar, rfl, Nat.le_add_right .., ?_, id, .inl rfl, fun _ => ⟨rfl, rfl⟩⟩
    intro ha; simp [acct, h] at ha
  · next h =>
    have hc : s.closed = false := by cases hc : s.closed <;> simp [hc] at h ⊢
    split
    · next hle => exact ⟨_, rfl, Nat.le_refl _, fun _ => rfl, fun _ => hle, .inl rfl, by simp [hc]⟩
    · next hgt => exact ⟨0, rfl, by simp, fun _ => by simp, fun _ => Nat.zero_le _, .inr (by omega), by simp [hc]⟩

def acks (ack : Nat) : List Msg := if ack = 0 then [] else [.adjust ack]

theorem acks_sums (ack : Nat) : adjSum (acks ack) = ack ∧ dataSum (acks ack) = 0 := by
  unfold acks; split <;> simp [adjSum, dataSum, Msg.adjLen, Msg.dataLen, *]

theorem holdState_acks (ack : Nat) (k : Kont) :
    holdState (acks ack) k = if ack = 0 then kontState k else .hold [.adjust ack] k := by
  unfold acks; split <;> rfl

theorem mem_acks {ack : Nat} {m : Msg} (h : m ∈ acks ack) : m = .adjust ack := by
  unfold acks at h; split at h <;> simp at h; exact h

theorem sendEof_cases (s : St) :
    (s.eofSent = true ∧ sendEof s = (s, [])) ∨
    (s.eofSent = false ∧
      sendEof s = ({ s with eofSent := true, raced := s.raced || s.thr.any TSt.holdsData }, [.eof])) := by
  unfold sendEof
  cases h : s.eofSent <;> simp

theorem closeInternal_cases (s : St) :
    ((s.active = false ∨ s.closed = true) ∧ closeInternal s = (s, [])) ∨
    (s.active = true ∧ s.closed = false ∧ s.eofSent = true ∧ closeInternal s = (setClosed s, [.close])) ∨
    (s.active = true ∧ s.closed = false ∧ s.eofSent = false ∧
      closeInternal s = (setClosed { s with eofSent := true, raced := s.raced || s.thr.any TSt.holdsData },
        [.eof, .close])) := by
  unfold closeInternal sendEof
  cases ha : s.active <;> cases hc : s.closed <;> cases he : s.eofSent <;> simp

/-- What `_send_eof` and `_close_internal` decide under the lock: the state afterwards and the messages the
    calling thread is left to write. -/
inductive Ends (s : St) : St → List Msg → Prop where
  | none : Ends s s []
  | eof : s.eofSent = false →
      Ends s { s with eofSent := true, raced := s.raced || s.thr.any TSt.holdsData } [.eof]
  | close : s.active = true → s.closed = false → s.eofSent = true → Ends s (setClosed s) [.close]
  | eofClose : s.active = true → s.closed = false → s.eofSent = false →
      Ends s (setClosed { s with eofSent := true, raced := s.raced || s.thr.any TSt.holdsData }) [.eof, .close]

theorem sendEof_ends (s : St) : Ends s (sendEof s).1 (sendEof s).2 := by
  rcases sendEof_cases s with ⟨_, e⟩ | ⟨h, e⟩ <;> rw [e]
  · exact .none
  · exact .eof h

theorem closeInternal_ends (s : St) : Ends s (closeInternal s).1 (closeInternal s).2 := by
  rcases closeInternal_cases s with ⟨_, e⟩ | ⟨h1, h2, h3, e⟩ | ⟨h1, h2, h3, e⟩ <;> rw [e]
  · exact .none
  · exact .close h1 h2 h3
  · exact .eofClose h1 h2 h3

theorem closeInternal_closed_of_active (s : St) (h : s.active = true) : (closeInternal s).1.closed = true := by
  rcases closeInternal_cases s with ⟨h0, e⟩ | ⟨_, _, _, e⟩ | ⟨_, _, _, e⟩ <;> rw [e]
  · exact h0.resolve_left (by simp [h])
  · rfl
  · rfl

/-- the frame lemmas about `Step` read an `Ends` through this -/
theorem Ends.shape {s s0 : St} {ms : List Msg} (h : Ends s s0 ms) :
    ∃ c e r p, s0 = { s with closed := c, eofSent := e, raced := r, pipesClosed := p } := by
  cases h <;> exact ⟨_, _, _, _, rfl⟩

theorem Ends.msgs {s s0 : St} {ms : List Msg} (h : Ends s s0 ms) : ∀ m ∈ ms, m = .eof ∨ m = .close := by
  cases h <;> simp

theorem Ends.sums {s s0 : St} {ms : List Msg} (h : Ends s s0 ms) : dataSum ms = 0 ∧ adjSum ms = 0 := by
  cases h <;> exact ⟨rfl, rfl⟩

/-! ## the transition relation -/

/-- the three entries to the send path: the thread state they start from, the request, the `sendall` bookkeeping -/
inductive SendCall : Act → Nat → TSt → Nat → Bool → Option Loop → Prop where
  | send {t n : Nat} {ext : Bool} {r : Res} : SendCall (.send t n ext) t (.idle r) n ext none
  | iter {t : Nat} {l : Loop} {ext : Bool} : SendCall (.iter t) t (.loopHead l ext) l.rem ext (some l)
  | wake {t dt want : Nat} {ext : Bool} {left : Option Nat} {lp : Option Loop} :
      SendCall (.wake t dt) t (.waiting want ext left lp) want ext lp

theorem SendCall.held {a : Act} {t want : Nat} {old : TSt} {ext : Bool} {lp : Option Loop}
    (h : SendCall a t old want ext lp) : old.held = [] ∧ old.heldAdj = 0 := by
  cases h <;> exact ⟨rfl, rfl⟩

/-- outcomes that leave the calling thread `t` with nothing in hand and change nothing else -/
inductive Quiet : Act → Nat → TSt → Prop where
  | sendallNil {t : Nat} {ext : Bool} : Quiet (.sendall t 0 ext) t (.idle (.doneAll 0 0))
  | sendall {t n : Nat} {ext : Bool} : n ≠ 0 → Quiet (.sendall t n ext) t (.loopHead ⟨n, 0, n⟩ ext)
  | recvTimeout {t k : Nat} {err : Bool} : Quiet (.recv t k err) t (.idle .timeout)
  | recvEof {t k : Nat} {err : Bool} : Quiet (.recv t k err) t (.gotBytes 0)

theorem Quiet.held {a : Act} {t : Nat} {x : TSt} (h : Quiet a t x) : x.held = [] ∧ x.heldAdj = 0 := by
  cases h <;> exact ⟨rfl, rfl⟩

/-- the lock regions that may decide EOF and CLOSE -/
inductive EndCall : Act → Nat → Prop where
  | close (t : Nat) : EndCall (.close t) t
  | shutdownWrite (t : Nat) : EndCall (.shutdownWrite t) t
  | peerClose (t : Nat) : EndCall (.peerClose t) t
  | requestFailed (t : Nat) : EndCall (.requestFailed t) t

/-- What an action does.  `skip`: the thread named cannot take the action, or the flag it would set is set.
    `recv` does not say which of the two buffers was read, only that the bytes moved from a buffer to the reader. -/
inductive Step (cfg : Cfg) (s : St) : Act → St → Prop where
  | skip (a : Act) : Step cfg s a s
  | sends {a : Act} {t want d : Nat} {old x : TSt} {ext : Bool} {lp : Option Loop} :
      SendCall a t old want ext lp → s.thr[t]? = some old → SendOut cfg s want ext lp x d →
      Step cfg s a (setThr { s with outWin := s.outWin - d } t x)
  | quiet {a : Act} {t : Nat} {r : Res} {x : TSt} :
      s.thr[t]? = some (.idle r) → Quiet a t x → Step cfg s a (setThr s t x)
  | recv {t k got i e : Nat} {err : Bool} {r : Res} :
      s.thr[t]? = some (.idle r) → i + e + got = s.inBuf + s.errBuf →
      Step cfg s (.recv t k err)
        (setThr { s with inBuf := i, errBuf := e, consumed := s.consumed + got } t (.gotBytes got))
  | emit {t : Nat} {m : Msg} {ms : List Msg} {k : Kont} :
      s.thr[t]? = some (.hold (m :: ms) k) →
      Step cfg s (.emit t) (setThr { s with wire := s.wire ++ [m] } t (holdState ms k))
  | emitFail {t : Nat} {m : Msg} {ms : List Msg} {k : Kont} :
      s.thr[t]? = some (.hold (m :: ms) k) →
      Step cfg s (.emitFail t) (setThr { s with leaked := s.leaked + dataSum (m :: ms) } t (.idle .sshError))
  | check {t n v ack : Nat} :
      s.thr[t]? = some (.gotBytes n) → Credit s n v ack →
      Step cfg s (.check t) (setThr { s with inSofar := v } t (holdState (acks ack) (.retBytes n)))
  | drop {t code n : Nat} : cfg.creditDiscarded = false →
      Step cfg s (.feedExt t code n) { s with recvd := s.recvd + n, discarded := s.discarded + n }
  | credit {t code n v : Nat} : Credit s n v 0 →
      Step cfg s (.feedExt t code n) { s with recvd := s.recvd + n, discarded := s.discarded + n, inSofar := v }
  | creditAck {t code n v ack : Nat} {r : Res} : s.thr[t]? = some (.idle r) → Credit s n v ack → ack ≠ 0 →
      Step cfg s (.feedExt t code n)
        (setThr { s with recvd := s.recvd + n, discarded := s.discarded + n, inSofar := v } t
          (.hold [.adjust ack] .retNone))
  | ends {a : Act} {t : Nat} {r : Res} {s0 : St} {ms : List Msg} {l : Bool} :
      EndCall a t → s.thr[t]? = some (.idle r) → Ends s s0 ms →
      l = s.linked ∨ (l = false ∧ (s.active = true → s0.closed = true)) →
      Step cfg s a (setThr { s0 with linked := l } t (holdState ms .retNone))
  | shutdownRead : Step cfg s .shutdownRead { s with eofRecv := true }
  | setMode (m : Mode) : Step cfg s (.setMode m) { s with mode := m }
  | peerEof : Step cfg s .peerEof { s with eofRecv := true, pipesClosed := true }
  | feed (n : Nat) : Step cfg s (.feed n) { s with inBuf := s.inBuf + n, recvd := s.recvd + n }
  | feedExt (t n : Nat) : Step cfg s (.feedExt t 1 n) { s with inBuf := s.inBuf + n, recvd := s.recvd + n }
  | feedErr (t n : Nat) : Step cfg s (.feedExt t 1 n) { s with errBuf := s.errBuf + n, recvd := s.recvd + n }
  | adjust (n : Nat) : Step cfg s (.adjust n) { s with outWin := s.outWin + n, granted := s.granted + n }
  | unlink : s.closed = false → Step cfg s .unlink { setClosed s with linked := false }

theorem Ends.relink {s s0 : St} {ms : List Msg} (h : Ends s s0 ms) : { s0 with linked := s.linked } = s0 := by
  cases h <;> rfl

private theorem step_ends {cfg : Cfg} {s s0 : St} {a : Act} {t : Nat} {ms : List Msg} (hc : EndCall a t)
    (hid : idleOf s t = true) (he : Ends s s0 ms) : Step cfg s a (holdOrDone s0 t ms .retNone) := by
  obtain ⟨r, hr⟩ := idleOf_spec hid
  rw [holdOrDone_eq, ← he.relink]
  exact .ends hc hr he (.inl rfl)

theorem step_sound (cfg : Cfg) (s : St) (a : Act) : Step cfg s a (step cfg s a) := by
  cases a with
  | send t n ext =>
    simp only [step]; split
    · next hid =>
      obtain ⟨r, hr⟩ := idleOf_spec hid
      obtain ⟨x, d, e, ho⟩ := sendRegion_out cfg s t n ext none
      rw [e]; exact .sends .send hr ho
    · exact .skip _
  | iter t =>
    simp only [step]; split
    · next l ext hr =>
      obtain ⟨x, d, e, ho⟩ := sendRegion_out cfg s t l.rem ext (some l)
      rw [e]; exact .sends .iter hr ho
    · exact .skip _
  | wake t dt =>
    simp only [step]; split
    · next want ext left lp hr =>
      obtain ⟨x, d, e, ho⟩ := wakeRegion_out cfg s t dt want ext left lp
      rw [e]; exact .sends .wake hr ho
    · exact .skip _
  | sendall t n ext =>
    simp only [step]; split
    · next hid =>
      obtain ⟨r, hr⟩ := idleOf_spec hid
      split
      · next h => subst h; exact .quiet hr .sendallNil
      · next h => exact .quiet hr (.sendall h)
    · exact .skip _
  | recv t k err =>
    simp only [step]; split
    · next hid =>
      obtain ⟨r, hr⟩ := idleOf_spec hid
      cases err
      all_goals
        simp only [Bool.false_eq_true, if_false, if_true]
        split
        · split
          · exact .quiet hr .recvEof
          · split <;> first | exact .quiet hr .recvTimeout | exact .skip _
        · refine .recv hr ?_
          split <;> omega
    · exact .skip _
  | emit t =>
    simp only [step]; split
    · next m ms k hr => rw [holdOrDone_eq]; exact .emit hr
    · exact .skip _
  | emitFail t =>
    simp only [step]; split
    · next m ms k hr => exact .emitFail hr
    · exact .skip _
  | check t =>
    simp only [step]; split
    · next n hr =>
      obtain ⟨v, e, hc⟩ := checkAdd_credit s n
      have := Step.check (cfg := cfg) hr hc
      rw [holdState_acks] at this
      rw [e]
      split
      · next h0 => rwa [if_pos h0] at this
      · next h0 => rwa [if_neg h0] at this
    · exact .skip _
  | close t =>
    simp only [step]; split
    · next hid => exact step_ends (.close t) hid (closeInternal_ends s)
    · exact .skip _
  | requestFailed t =>
    simp only [step]; split
    · next hid => exact step_ends (.requestFailed t) hid (closeInternal_ends s)
    · exact .skip _
  | shutdownWrite t =>
    simp only [step]; split
    · next hid => exact step_ends (.shutdownWrite t) hid (sendEof_ends s)
    · exact .skip _
  | peerClose t =>
    simp only [step]; split
    · next hid =>
      obtain ⟨r, hr⟩ := idleOf_spec hid
      rw [holdOrDone_eq]
      exact .ends (.peerClose t) hr (closeInternal_ends s) (.inr ⟨rfl, closeInternal_closed_of_active s⟩)
    · exact .skip _
  | feedExt t code n =>
    simp only [step]; split
    · next h => subst h; split; exact .feedExt t n; exact .feedErr t n
    · split
      · split
        · next hid =>
          obtain ⟨r, hr⟩ := idleOf_spec hid
          obtain ⟨v, e, hc⟩ := checkAdd_credit { s with recvd := s.recvd + n, discarded := s.discarded + n } n
          have hc' : Credit s n v _ := ⟨hc.le, hc.eq, hc.sofar, hc.big, hc.closed⟩
          rw [e]
          split
          · next h0 => rw [h0] at hc'; exact .credit hc'
          · next h0 => exact .creditAck hr hc' h0
        · exact .skip _
      · next h => exact .drop (by simpa using h)
  | shutdownRead => exact .shutdownRead
  | setMode m => exact .setMode m
  | feed n => exact .feed n
  | adjust n => exact .adjust n
  | peerEof => simp only [step]; split; exact .skip _; exact .peerEof
  | unlink => simp only [step]; split; exact .skip _; next h => exact .unlink (by simpa using h)

theorem Step.fixed {cfg : Cfg} {s s' : St} {a : Act} (h : Step cfg s a s') :
    s'.maxPkt = s.maxPkt ∧ s'.inThreshold = s.inThreshold ∧ s'.active = s.active ∧ s'.combine = s.combine := by
  cases h with
  | ends _ _ he _ => obtain ⟨c, e, r, p, rfl⟩ := he.shape; exact ⟨rfl, rfl, rfl, rfl⟩
  | _ => exact ⟨rfl, rfl, rfl, rfl⟩

theorem run_maxPkt (cfg : Cfg) (s : St) (as : List Act) : (run cfg s as).maxPkt = s.maxPkt :=
  run_inv (P := fun s' => s'.maxPkt = s.maxPkt) cfg (fun s' a h => (step_sound cfg s' a).fixed.1.trans h) s as rfl

/-! ## window invariant: sent + reserved + outWin + lost = granted -/

def WInv (s : St) : Prop := dataSum s.wire + heldDataAll s.thr + s.outWin + s.leaked = s.granted

/-- thread `t` trades what it held for what it holds now; `s0` differs from `s` in the other fields only -/
theorem winv_setThr {s s0 : St} {t : Nat} {old : TSt} (x : TSt) (hr : s.thr[t]? = some old) (hthr : s0.thr = s.thr)
    (hi : WInv s)
    (h : dataSum s0.wire + x.heldData + s0.outWin + s0.leaked + s.granted =
      dataSum s.wire + old.heldData + s.outWin + s.leaked + s0.granted) : WInv (setThr s0 t x) := by
  have := sumBy_set TSt.heldData s.thr t old x hr
  simp only [WInv, setThr, heldDataAll, hthr] at *
  omega

theorem WInv.step {cfg : Cfg} {s s' : St} {a : Act} (h : Step cfg s a s') (hi : WInv s) : WInv s' := by
  cases h with
  | sends hc hr ho =>
    have ⟨h1, h2⟩ := ho.heldData
    refine winv_setThr _ hr rfl hi ?_
    rw [h1, heldData_eq _, hc.held.1]; dsimp only [dataSum]; omega
  | quiet hr hq => exact winv_setThr _ hr rfl hi (by rw [heldData_eq _, hq.held.1]; rfl)
  | recv hr _ => exact winv_setThr _ hr rfl hi rfl
  | emit hr =>
    refine winv_setThr _ hr rfl hi ?_
    rw [holdState_heldData]; simp only [TSt.heldData, dataSum_append, dataSum]; omega
  | emitFail hr => refine winv_setThr _ hr rfl hi ?_; simp only [TSt.heldData]; omega
  | check hr _ => exact winv_setThr _ hr rfl hi (by rw [holdState_heldData, (acks_sums _).2]; rfl)
  | creditAck hr _ _ => exact winv_setThr _ hr rfl hi rfl
  | ends _ hr he _ =>
    obtain ⟨c, e, r, p, rfl⟩ := he.shape
    exact winv_setThr _ hr rfl hi (by rw [holdState_heldData, he.sums.1]; rfl)
  | adjust n => simp only [WInv] at *; omega
  | _ => exact hi

theorem run_winv (cfg : Cfg) (s : St) (as : List Act) (hi : WInv s) : WInv (run cfg s as) :=
  run_inv cfg (fun s a => WInv.step (step_sound cfg s a)) s as hi

/-! ## packet-size invariant -/

def okMsg (p : Nat) (m : Msg) : Prop := m.isData = true → 1 ≤ m.dataLen ∧ m.dataLen ≤ p - 64

def TSt.okHeld (p : Nat) (x : TSt) : Prop := ∀ ms k, x = .hold ms k → ∀ m ∈ ms, okMsg p m

def PktInv (s : St) : Prop :=
  (∀ m ∈ s.wire, okMsg s.maxPkt m) ∧ (∀ x ∈ s.thr, x.okHeld s.maxPkt)

theorem okHeld_iff (p : Nat) (x : TSt) : x.okHeld p ↔ ∀ m ∈ x.held, okMsg p m := by
  cases x <;> simp [TSt.okHeld, TSt.held]

theorem okMsg_nodata (p : Nat) (m : Msg) (h : m.isData = false) : okMsg p m := by
  intro h'; rw [h] at h'; cases h'

theorem pkt_setThr {s s0 : St} (t : Nat) (x : TSt) (hw : s0.wire = s.wire) (hthr : s0.thr = s.thr)
    (hp : s0.maxPkt = s.maxPkt) (hx : ∀ m ∈ x.held, okMsg s.maxPkt m) (hi : PktInv s) : PktInv (setThr s0 t x) := by
  refine ⟨by simpa only [setThr, hw, hp] using hi.1, ?_⟩
  intro y hy
  simp only [setThr, hthr, hp] at hy ⊢
  rcases List.mem_or_eq_of_mem_set hy with h | rfl
  · exact hi.2 y h
  · exact (okHeld_iff _ _).2 hx

theorem PktInv.step {cfg : Cfg} {s s' : St} {a : Act} (h : Step cfg s a s') (hi : PktInv s) : PktInv s' := by
  have nodata : ∀ ms : List Msg, (∀ m ∈ ms, m.isData = false) → ∀ m ∈ ms, okMsg s.maxPkt m :=
    fun ms h m hm => okMsg_nodata _ m (h m hm)
  cases h with
  | sends hc hr ho =>
    refine pkt_setThr _ _ rfl rfl rfl ?_ hi
    rcases ho.held with ⟨e, _⟩ | ⟨e, h1, _, h3, _⟩ <;> simp only [e, List.mem_singleton, List.not_mem_nil]
    · intro m hm; cases hm
    · intro m hm _; subst hm; simp only [mkData_dataLen]; omega
  | quiet hr hq => exact pkt_setThr _ _ rfl rfl rfl (by simp [hq.held.1]) hi
  | recv hr _ => exact pkt_setThr _ _ rfl rfl rfl (by simp [TSt.held]) hi
  | emit hr =>
    have hold := (okHeld_iff _ _).1 (hi.2 _ (List.mem_of_getElem? hr))
    simp only [TSt.held, List.mem_cons, forall_eq_or_imp] at hold
    refine ⟨?_, (pkt_setThr _ _ rfl rfl rfl (by rw [holdState_held]; exact hold.2) hi).2⟩
    intro m' hm'
    rcases List.mem_append.1 hm' with h | h
    · exact hi.1 m' h
    · rw [List.mem_singleton.1 h]; exact hold.1
  | emitFail hr => exact pkt_setThr _ _ rfl rfl rfl (by simp [TSt.held]) hi
  | check hr _ =>
    refine pkt_setThr _ _ rfl rfl rfl ?_ hi
    rw [holdState_held]; exact nodata _ fun m hm => by rw [mem_acks hm]; rfl
  | creditAck hr _ _ =>
    exact pkt_setThr _ _ rfl rfl rfl (nodata _ fun m hm => by rw [List.mem_singleton.1 hm]; rfl) hi
  | ends _ hr he _ =>
    obtain ⟨c, e, r, p, rfl⟩ := he.shape
    refine pkt_setThr _ _ rfl rfl rfl ?_ hi
    rw [holdState_held]; exact nodata _ fun m hm => by rcases he.msgs m hm with rfl | rfl <;> rfl
  | _ => exact hi

theorem run_pkt (cfg : Cfg) (s : St) (as : List Act) (hi : PktInv s) : PktInv (run cfg s as) :=
  run_inv cfg (fun s a => PktInv.step (step_sound cfg s a)) s as hi

/-! ## receiver accounting: acks ≤ bytes consumed or discarded; nothing received is lost -/

def AInv (s : St) : Prop :=
  adjSum s.wire + heldAdjAll s.thr + s.inSofar ≤ s.consumed + s.discarded ∧
  s.consumed + s.discarded + s.inBuf + s.errBuf = s.recvd

theorem ainv_setThr {s s0 : St} {t : Nat} {old : TSt} (x : TSt) (hr : s.thr[t]? = some old) (hthr : s0.thr = s.thr)
    (hi : AInv s)
    (h1 : adjSum s0.wire + x.heldAdj + s0.inSofar + s.consumed + s.discarded ≤
      adjSum s.wire + old.heldAdj + s.inSofar + s0.consumed + s0.discarded)
    (h2 : s0.consumed + s0.discarded + s0.inBuf + s0.errBuf + s.recvd =
      s.consumed + s.discarded + s.inBuf + s.errBuf + s0.recvd) : AInv (setThr s0 t x) := by
  have := sumBy_set TSt.heldAdj s.thr t old x hr
  obtain ⟨i1, i2⟩ := hi
  refine ⟨?_, by dsimp only [setThr]; omega⟩
  dsimp only [setThr, heldAdjAll] at i1 ⊢
  rw [hthr]; omega

theorem AInv.step {cfg : Cfg} {s s' : St} {a : Act} (h : Step cfg s a s') (hi : AInv s) : AInv s' := by
  cases h with
  | sends hc hr ho => exact ainv_setThr _ hr rfl hi (by rw [ho.heldAdj, hc.held.2]; exact Nat.le_refl _) rfl
  | quiet hr hq => exact ainv_setThr _ hr rfl hi (by rw [hq.held.2]; exact Nat.le_refl _) rfl
  | recv hr h => exact ainv_setThr _ hr rfl hi (by dsimp only [TSt.heldAdj]; omega) (by dsimp only; omega)
  | emit hr =>
    refine ainv_setThr _ hr rfl hi ?_ rfl
    rw [holdState_heldAdj]; simp only [TSt.heldAdj, adjSum_append, adjSum]; omega
  | emitFail hr => exact ainv_setThr _ hr rfl hi (by dsimp only [TSt.heldAdj]; omega) rfl
  | check hr hc =>
    refine ainv_setThr _ hr rfl hi ?_ rfl
    have := hc.le
    rw [holdState_heldAdj, (acks_sums _).1]; dsimp only [TSt.heldAdj]; omega
  | credit hc =>
    have := hc.le
    exact ⟨by have := hi.1; dsimp only at this ⊢; omega, by have := hi.2; dsimp only; omega⟩
  | creditAck hr hc _ =>
    refine ainv_setThr _ hr rfl hi ?_ (by dsimp only; omega)
    have := hc.le
    simp only [TSt.heldAdj, adjSum, Msg.adjLen]; omega
  | ends _ hr he _ =>
    obtain ⟨c, e, r, p, rfl⟩ := he.shape
    exact ainv_setThr _ hr rfl hi (by rw [holdState_heldAdj, he.sums.2]; exact Nat.le_refl _) rfl
  | drop | feed | feedExt | feedErr => exact ⟨by have := hi.1; dsimp only; omega, by have := hi.2; dsimp only; omega⟩
  | _ => exact hi

theorem run_ainv (cfg : Cfg) (s : St) (as : List Act) (hi : AInv s) : AInv (run cfg s as) :=
  run_inv cfg (fun s a => AInv.step (step_sound cfg s a)) s as hi

/-! ## the ghost `granted` is exactly the initial window plus the adjustments in the schedule -/

def Act.adjustOf : Act → Nat
  | .adjust n => n
  | _ => 0

def adjustsIn : List Act → Nat
  | [] => 0
  | a :: as => a.adjustOf + adjustsIn as

theorem Step.window {cfg : Cfg} {s s' : St} {a : Act} (h : Step cfg s a s') (ha : ∀ n, a ≠ .adjust n) :
    s'.granted = s.granted ∧ s'.outWin ≤ s.outWin := by
  cases h with
  | sends _ _ _ => exact ⟨rfl, Nat.sub_le ..⟩
  | ends _ _ he _ => obtain ⟨c, e, r, p, rfl⟩ := he.shape; exact ⟨rfl, Nat.le_refl _⟩
  | adjust n => exact absurd rfl (ha n)
  | _ => exact ⟨rfl, Nat.le_refl _⟩

theorem step_granted (cfg : Cfg) (s : St) (a : Act) : (step cfg s a).granted = s.granted + a.adjustOf := by
  cases a with
  | adjust n => rfl
  | _ => exact ((step_sound cfg s _).window (by intro n h; cases h)).1

theorem run_granted (cfg : Cfg) (s : St) (as : List Act) :
    (run cfg s as).granted = s.granted + adjustsIn as := by
  induction as generalizing s with
  | nil => rfl
  | cons a as ih =>
    show (run cfg (step cfg s a) as).granted = _
    rw [ih, step_granted]; simp only [adjustsIn]; omega

end PV.Chan
