/-
  PV.Model.BufFileLemmas — the vocabulary in which the BufferedFile theorems are stated (pending bytes,
  configuration, lines) and the write side over the short-write stream `chanOps`.  The read side is in
  PV.Model.ReadGeneric, for any lawful stream.
-/
import PV.Model.BufFile
namespace PV.BufFile
open PV

/-- bytes the caller has not received yet: read-ahead buffer, then what the stream still holds -/
def pending (f : BF Chan) : Bytes := f.rbuf ++ f.s.inp

/-- configuration that no operation changes -/
structure Cfg where
  rd : Bool
  wr : Bool
  app : Bool
  buffered : Bool
  lineBuf : Bool
  bufsize : Nat
  dflt : Nat
  deriving DecidableEq, Repr

def cfg {σ : Type} (f : BF σ) : Cfg := ⟨f.rd, f.wr, f.app, f.buffered, f.lineBuf, f.bufsize, f.dflt⟩

/-- write side of the state (reads never touch it) -/
def wside (f : BF Chan) : Bytes × List Nat × Bytes := (f.s.out, f.s.wg, f.wbuf)
/-- read side of the state (writes never touch it) -/
def rside (f : BF Chan) : Bytes × Bytes × List Nat := (f.rbuf, f.s.inp, f.s.rg)

/-- `_DEFAULT_BUFSIZE ≥ 1` and `_bufsize ≥ 1` (what `_set_mode` establishes) -/
def WF {σ : Type} (f : BF σ) : Prop := 1 ≤ f.dflt ∧ 1 ≤ f.bufsize

theorem grant_le (g : List Nat) (n : Nat) : grant g n ≤ n := by
  cases g <;> simp [grant]; omega

theorem grant_pos (g : List Nat) (n : Nat) (h : 1 ≤ n) : 1 ≤ grant g n := by
  cases g <;> simp [grant] <;> omega

theorem take_isEmpty_iff (l : Bytes) (k : Nat) (hk : 1 ≤ k) : (l.take k).isEmpty = true ↔ l = [] := by
  cases l with
  | nil => simp
  | cons a t =>
    cases k with
    | zero => omega
    | succ k => simp

@[simp] theorem chanOps_read (s : Chan) (p : Int) (n : Nat) :
    chanOps.read s p n =
      ({ s with inp := s.inp.drop (grant s.rg n), rg := s.rg.tail }, .ok (s.inp.take (grant s.rg n))) := rfl

@[simp] theorem chanOps_write (s : Chan) (p : Int) (d : Bytes) :
    chanOps.write s p d =
      ({ s with out := s.out ++ d.take (grant s.wg d.length), wg := s.wg.tail }, .ok (grant s.wg d.length)) := rfl

@[simp] theorem chanOps_bound (s : Chan) (p : Int) : chanOps.bound s p = s.inp.length := rfl

@[simp] theorem chanOps_seekable : chanOps.seekable = false := rfl

@[simp] theorem syncForRead_chan (f : BF Chan) : syncForRead chanOps f = (f, .ok ()) := by
  simp [syncForRead]

@[simp] theorem dropReadAhead_chan (f : BF Chan) (d : Bytes) : dropReadAhead chanOps f d = f := by
  simp [dropReadAhead]

theorem take_append_or {α : Type} (a b : List α) (n : Nat) (h : n ≤ a.length ∨ b = []) :
    (a ++ b).take n = a.take n := by
  rcases h with h | h
  · exact List.take_append_of_le_length h
  · subst h; simp

theorem drop_take_length {α : Type} (r : List α) (k : Nat) : r.drop (r.take k).length = r.drop k := by
  rw [List.length_take]
  by_cases h : k ≤ r.length
  · rw [Nat.min_eq_left h]
  · rw [Nat.min_eq_right (by omega), List.drop_of_length_le (Nat.le_refl _), List.drop_of_length_le (by omega)]

/-! ## `_set_mode` -/

theorem setFlags_eq {σ : Type} (f : BF σ) (mode : List Char) (sz : Int) :
    setFlags f mode sz =
      { f with rd := if mode.contains 'r' || mode.contains '+' then true else f.rd,
               wr := if (mode.contains 'w' || mode.contains '+') || mode.contains 'a' then true else f.wr,
               app := if mode.contains 'a' then true else f.app,
               size := if mode.contains 'a' then sz else f.size,
               pos := if mode.contains 'a' then sz else f.pos,
               realpos := if mode.contains 'a' then sz else f.realpos,
               bin := if mode.contains 'b' then true else f.bin } := by
  unfold setFlags
  generalize mode.contains 'r' = br
  generalize mode.contains '+' = bp
  generalize mode.contains 'w' = bw
  generalize mode.contains 'a' = ba
  generalize mode.contains 'b' = bb
  cases br <;> cases bp <;> cases bw <;> cases ba <;> cases bb <;> rfl

/-- negative and 0 mean unbuffered, 1 line buffered, more is the size -/
theorem setBuf_eq {σ : Type} (f : BF σ) (bs : Int) :
    setBuf f bs =
      { f with bufsize := if 1 < bs then bs.toNat else f.dflt, buffered := decide (1 ≤ bs),
               lineBuf := decide (bs = 1) } := by
  unfold setBuf
  by_cases h0 : bs < 0
  · have h1 : ¬ 1 < bs := by omega
    have h2 : ¬ 1 ≤ bs := by omega
    have h3 : ¬ bs = 1 := by omega
    simp [h0, h1, h2, h3]
  · by_cases h1 : bs = 1
    · subst h1; simp
    · by_cases h2 : 1 < bs
      · have h3 : 1 ≤ bs := by omega
        simp [h0, h1, h2, h3]
      · have h3 : ¬ 1 ≤ bs := by omega
        simp [h0, h1, h2, h3]
/-! ## lines -/

theorem idxOf_lt_of_contains (t : Bytes) (h : t.contains LF = true) : t.idxOf LF < t.length :=
  List.idxOf_lt_length_iff.2 (List.contains_iff_mem.1 h)

theorem take_idx_snoc (t : Bytes) (h : t.contains LF = true) :
    t.take (t.idxOf LF) ++ [LF] = t.take (t.idxOf LF + 1) := by
  have hlt := idxOf_lt_of_contains t h
  rw [← List.take_append_getElem hlt, List.getElem_idxOf hlt]

theorem take_idx_noLF (t : Bytes) : (t.take (t.idxOf LF)).contains LF = false := by
  induction t with
  | nil => simp
  | cons a t ih =>
    rw [List.idxOf_cons]
    by_cases ha : a = LF
    · subst ha; simp
    · have hb : (a == LF) = false := by simpa using ha
      have hb' : (LF == a) = false := by simpa using fun h => ha h.symm
      simp only [hb, cond_false, List.take_succ_cons, List.contains_cons, hb', Bool.false_or]
      exact ih

theorem lineOf_of_contains (t : Bytes) (h : t.contains LF = true) : lineOf t = t.take (t.idxOf LF + 1) := by
  unfold lineOf; rw [if_pos h]

theorem lineOf_of_not_contains (t : Bytes) (h : t.contains LF = false) : lineOf t = t := by
  unfold lineOf; rw [if_neg (by rw [h]; decide)]

theorem lineOf_append (a b : Bytes) (h : a.contains LF = true) : lineOf (a ++ b) = lineOf a := by
  have hm : LF ∈ a := List.contains_iff_mem.1 h
  have hlt := idxOf_lt_of_contains a h
  rw [lineOf_of_contains a h, lineOf_of_contains (a ++ b) (by rw [List.contains_append, h]; rfl)]
  rw [List.idxOf_append, if_pos hm]
  exact List.take_append_of_le_length (by omega)

theorem lineOf_length_le (t : Bytes) : (lineOf t).length ≤ t.length := by
  unfold lineOf; split <;> simp [List.length_take]; omega

/-- a line, as returned by `readline`: ends at the first LF, or contains none -/
theorem lineOf_shape (t : Bytes) :
    (∃ body, lineOf t = body ++ [LF] ∧ body.contains LF = false) ∨ (lineOf t = t ∧ t.contains LF = false) := by
  by_cases h : t.contains LF = true
  · exact Or.inl ⟨t.take (t.idxOf LF), by rw [lineOf_of_contains t h, take_idx_snoc t h], take_idx_noLF t⟩
  · have h' : t.contains LF = false := by simpa using h
    exact Or.inr ⟨lineOf_of_not_contains t h', h'⟩

theorem lineOf_prefix (p : Bytes) : ∃ k, lineOf p = p.take k := by
  unfold lineOf; split
  · exact ⟨_, rfl⟩
  · exact ⟨p.length, by simp⟩

theorem specLine_prefix (size : Option Nat) (p : Bytes) : ∃ k, specLine size p = p.take k := by
  cases size with
  | none => exact lineOf_prefix p
  | some sz =>
    obtain ⟨k, hk⟩ := lineOf_prefix (p.take sz)
    exact ⟨min k sz, by simp only [specLine]; rw [hk, List.take_take]⟩

theorem prefix_append_drop {α : Type} (p out : List α) (h : ∃ k, out = p.take k) :
    out ++ p.drop out.length = p := by
  obtain ⟨k, rfl⟩ := h
  rw [drop_take_length]; exact List.take_append_drop k p

theorem lineOf_eq_nil (p : Bytes) (h : lineOf p = []) : p = [] := by
  unfold lineOf at h
  split at h
  · cases p with
    | nil => rfl
    | cons a t => simp at h
  · exact h

/-- the size limit has not been reached by the accumulated `line` -/
def NoTrunc (size : Option Nat) (line : Bytes) : Prop :=
  match size with
  | none => True
  | some sz => line.length < sz

theorem specLine_of_contains (size : Option Nat) (line b : Bytes) (h : NoTrunc size line)
    (hc : line.contains LF = true) : specLine size (line ++ b) = lineOf line := by
  cases size with
  | none => exact lineOf_append line b hc
  | some sz =>
    simp only [NoTrunc] at h
    simp only [specLine]
    rw [List.take_append, List.take_of_length_le (by omega)]
    exact lineOf_append line _ hc

theorem specLine_eof (size : Option Nat) (line : Bytes) (h : NoTrunc size line)
    (hc : line.contains LF = false) : specLine size line = line := by
  cases size with
  | none => exact lineOf_of_not_contains line hc
  | some sz =>
    simp only [NoTrunc] at h
    simp only [specLine]
    rw [List.take_of_length_le (by omega)]
    exact lineOf_of_not_contains line hc

/-- `LinesOf p ls p'`: `ls` are the successive non-empty first lines of `p`, and `p'` is what is left -/
inductive LinesOf : Bytes → List Bytes → Bytes → Prop
  | nil (p : Bytes) : LinesOf p [] p
  | cons (p l : Bytes) (ls : List Bytes) (p' : Bytes) :
      l = lineOf p → l ≠ [] → LinesOf (p.drop l.length) ls p' → LinesOf p (l :: ls) p'

theorem LinesOf.flatten_append {p p' : Bytes} {ls : List Bytes} (h : LinesOf p ls p') :
    ls.flatten ++ p' = p := by
  induction h with
  | nil p => simp
  | cons p l ls p' hl _ _ ih =>
    rw [List.flatten_cons, List.append_assoc, ih]
    exact prefix_append_drop p l (by rw [hl]; exact lineOf_prefix p)

/-! ## writing -/

theorem dropReadAhead_nil {σ : Type} (o : Ops σ) (f : BF σ) (d : Bytes) (h : f.rbuf = [] ∨ d = []) :
    dropReadAhead o f d = f := by
  rcases h with h | h <;> simp [dropReadAhead, h]

theorem writeAll_nil {σ : Type} (o : Ops σ) (f : BF σ) : writeAll o f [] = (f, .ok ()) := by
  unfold writeAll
  rw [dropReadAhead_nil o f [] (Or.inr rfl)]
  simp [writeAllLoop]

theorem flush_nil {σ : Type} (o : Ops σ) (f : BF σ) (h : f.wbuf = []) : flush o f = (f, .ok ()) := by
  unfold flush
  rw [h, writeAll_nil]
  show ({ f with wbuf := [] }, _) = _
  rw [← h]


theorem writeAllLoop_chan (fuel : Nat) (f : BF Chan) (data : Bytes) (hf : data.length < fuel) :
    ∃ f', writeAllLoop chanOps fuel f data = (f', .ok ()) ∧ f'.s.out = f.s.out ++ data ∧ f'.wbuf = f.wbuf ∧
      rside f' = rside f ∧ cfg f' = cfg f ∧ f'.closed = f.closed := by
  induction fuel generalizing f data with
  | zero => omega
  | succ fuel ih =>
    rw [writeAllLoop]
    by_cases he : data.isEmpty = true
    · have : data = [] := by simpa using he
      exact ⟨f, by simp [this], by simp [this], rfl, rfl, rfl, rfl⟩
    · have hlen : 0 < data.length := List.length_pos_iff.2 (by simpa using he)
      have hk := grant_pos f.s.wg data.length hlen
      have hk0 : (grant f.s.wg data.length == 0) = false := by simp; omega
      simp only [he, Bool.false_eq_true, if_false, chanOps_write, hk0]
      -- append mode or not, only the position fields differ, and nothing below reads them
      split <;>
      · obtain ⟨f', h, h1, h2, h3, h4, h5⟩ := ih _ (data.drop (grant f.s.wg data.length)) (by simp; omega)
        exact ⟨f', h, by rw [h1]; simp [List.append_assoc], h2, h3, h4, h5⟩

theorem writeAll_chan (f : BF Chan) (data : Bytes) :
    ∃ f', writeAll chanOps f data = (f', .ok ()) ∧ f'.s.out = f.s.out ++ data ∧ f'.wbuf = f.wbuf ∧
      rside f' = rside f ∧ cfg f' = cfg f ∧ f'.closed = f.closed := by
  unfold writeAll
  rw [dropReadAhead_chan]
  exact writeAllLoop_chan (data.length + 1) f data (by omega)

theorem flush_chan (f : BF Chan) :
    ∃ f', flush chanOps f = (f', .ok ()) ∧ f'.s.out = f.s.out ++ f.wbuf ∧ f'.wbuf = [] ∧
      rside f' = rside f ∧ cfg f' = cfg f ∧ f'.closed = f.closed := by
  obtain ⟨f', h, h1, _, h3, h4, h5⟩ := writeAll_chan f f.wbuf
  exact ⟨{ f' with wbuf := [] }, by rw [flush, h], h1, rfl, h3, h4, h5⟩

theorem close_chan (f : BF Chan) :
    ∃ f', close chanOps f = (f', .ok ()) ∧ f'.s.out = f.s.out ++ f.wbuf ∧ f'.wbuf = [] ∧
      rside f' = rside f ∧ cfg f' = cfg f ∧ f'.closed = true := by
  obtain ⟨f', h, h1, h2, h3, h4, _⟩ := flush_chan f
  exact ⟨{ f' with closed := true }, by rw [close, h], h1, h2, h3, h4, rfl⟩

theorem rfindLF_spec (data : Bytes) (p : Nat) (h : rfindLF data = some p) :
    p < data.length ∧ (data.drop (p + 1)).contains LF = false := by
  unfold rfindLF at h
  split at h
  · rename_i hc
    have hm : LF ∈ data.reverse := by simpa using List.contains_iff_mem.1 hc
    have hi : data.reverse.idxOf LF < data.reverse.length := List.idxOf_lt_length_iff.2 hm
    simp only [List.length_reverse] at hi
    injection h with h
    subst h
    refine ⟨by omega, ?_⟩
    -- the bytes after the last LF are the reversed bytes before the first LF of the reversed data
    have h1 : data.length - 1 - data.reverse.idxOf LF + 1 = data.length - data.reverse.idxOf LF := by omega
    have h2 : data.drop (data.length - data.reverse.idxOf LF) = (data.reverse.take (data.reverse.idxOf LF)).reverse := by
      rw [List.take_reverse]; simp
    rw [h1, h2, List.contains_reverse]
    exact take_idx_noLF data.reverse
  · cases h

theorem rfindLF_none (data : Bytes) (h : rfindLF data = none) : data.contains LF = false := by
  unfold rfindLF at h
  split at h
  · cases h
  · rename_i hc; simpa using hc

/-- what a write leaves in the write buffer, per buffering mode -/
def WInv (f : BF Chan) : Prop :=
  (f.buffered = false → f.wbuf = []) ∧
  (f.buffered = true → f.lineBuf = true → f.wbuf.contains LF = false) ∧
  (f.buffered = true → f.lineBuf = false → f.wbuf.length < f.bufsize)

theorem WInv.of_nil {f : BF Chan} (hw : f.wbuf = []) (hb : 1 ≤ f.bufsize) : WInv f :=
  ⟨fun _ => hw, fun _ _ => by rw [hw]; rfl, fun _ _ => by rw [hw]; exact hb⟩

theorem WInv.line {f : BF Chan} (hb : f.buffered = true) (hl : f.lineBuf = true) (h : f.wbuf.contains LF = false) :
    WInv f :=
  ⟨fun h' => (by rw [hb] at h'; cases h'), fun _ _ => h, fun _ h' => (by rw [hl] at h'; cases h')⟩

theorem WInv.sized {f : BF Chan} (hb : f.buffered = true) (hl : f.lineBuf = false) (h : f.wbuf.length < f.bufsize) :
    WInv f :=
  ⟨fun h' => (by rw [hb] at h'; cases h'), fun _ h' => (by rw [hl] at h'; cases h'), fun _ _ => h⟩

theorem write_chan (f : BF Chan) (data : Bytes) (hb : 1 ≤ f.bufsize) (hc : f.closed = false) (hw : f.wr = true)
    (hi : WInv f) :
    ∃ f', write chanOps f data = (f', .ok ()) ∧ f'.s.out ++ f'.wbuf = f.s.out ++ f.wbuf ++ data ∧
      rside f' = rside f ∧ cfg f' = cfg f ∧ f'.closed = f.closed ∧ WInv f' := by
  unfold write
  rw [if_neg (by simp [hc]), if_neg (by simp [hw])]
  by_cases hbuf : f.buffered = true
  · rw [if_neg (by simp [hbuf])]
    simp only
    by_cases hl : f.lineBuf = true
    · rw [if_pos hl]
      cases hp : rfindLF data with
      | none =>
        refine ⟨_, rfl, by simp, rfl, rfl, rfl, WInv.line hbuf hl ?_⟩
        simp only [List.contains_append, hi.2.1 hbuf hl, rfindLF_none data hp, Bool.or_self]
      | some p =>
        obtain ⟨hp1, hp2⟩ := rfindLF_spec data p hp
        have hcut : p + ((f.wbuf ++ data).length - data.length) + 1 = f.wbuf.length + (p + 1) := by
          simp; omega
        simp only [hcut]
        obtain ⟨f', h, h1, _, h3, h4, h5⟩ :=
          writeAll_chan { f with wbuf := f.wbuf ++ data } ((f.wbuf ++ data).take (f.wbuf.length + (p + 1)))
        rw [h]
        refine ⟨_, rfl, ?_, h3, h4, h5, WInv.line ((congrArg Cfg.buffered h4).trans hbuf)
          ((congrArg Cfg.lineBuf h4).trans hl) ?_⟩
        · rw [h1]; simp only [List.append_assoc, List.take_append_drop]
        · show ((f.wbuf ++ data).drop (f.wbuf.length + (p + 1))).contains LF = false
          rw [List.drop_append, List.drop_of_length_le (by omega)]
          simpa using hp2
    · have hl' : f.lineBuf = false := by simpa using hl
      rw [if_neg (by simp [hl'])]
      by_cases hfull : (f.wbuf ++ data).length ≥ f.bufsize
      · rw [if_pos hfull]
        obtain ⟨f', h, h1, h2, h3, h4, h5⟩ := flush_chan { f with wbuf := f.wbuf ++ data }
        refine ⟨f', h, by rw [h1, h2]; simp, h3, h4, h5, WInv.of_nil h2 ?_⟩
        rw [show f'.bufsize = f.bufsize from congrArg Cfg.bufsize h4]; exact hb
      · rw [if_neg hfull]
        exact ⟨_, rfl, by simp, rfl, rfl, rfl, WInv.sized hbuf hl' (by show (f.wbuf ++ data).length < f.bufsize; omega)⟩
  · have hbuf' : f.buffered = false := by simpa using hbuf
    rw [if_pos (by simp [hbuf'])]
    obtain ⟨f', h, h1, h2, h3, h4, h5⟩ := writeAll_chan f data
    have hw0 := hi.1 hbuf'
    refine ⟨f', h, by rw [h1, h2, hw0]; simp, h3, h4, h5, WInv.of_nil (h2.trans hw0) ?_⟩
    rw [show f'.bufsize = f.bufsize from congrArg Cfg.bufsize h4]; exact hb

theorem write_refused {σ : Type} (o : Ops σ) (f : BF σ) (data : Bytes) (h : f.closed = true ∨ f.wr = false) :
    write o f data = (f, .error (if f.closed then .closed else .notWritable)) := by
  unfold write
  rcases h with h | h
  · simp [h]
  · cases hc : f.closed <;> simp [h]

end PV.BufFile
