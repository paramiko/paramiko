/-
  PV.Model.PacketTrunc — a receiver that has only a prefix of a stream behaves like the receiver with the whole
  stream until it runs out of bytes (EOF / "waits for more data"); no assumption on the stream or the primitives.
-/
import PV.Model.PacketRoundtrip
namespace PV.Packet
open PV

theorem runBuf_take {α : Type} (m : Rd α) : ∀ (buf : Bytes) (a : α) (rest : Bytes),
    runBuf m buf = .ok a rest → ∀ k : Nat,
      runBuf m (buf.take k) = .err .eof ∨ ∃ j, runBuf m (buf.take k) = .ok a (rest.take j) := by
  induction m with
  | ret x =>
    intro buf a rest h k
    simp only [runBuf] at h
    injection h with h1 h2
    subst h1; subst h2
    exact Or.inr ⟨k, rfl⟩
  | fail e => intro buf a rest h; simp [runBuf] at h
  | read n cr kk ih =>
    intro buf a rest h k
    unfold runBuf at h ⊢
    by_cases h0 : n ≤ 0
    · simp only [h0, if_true] at h ⊢
      exact ih [] buf a rest h k
    · simp only [h0, if_false] at h ⊢
      by_cases hl : n.toNat ≤ buf.length
      · simp only [hl, if_true] at h
        by_cases hk : n.toNat ≤ (buf.take k).length
        · simp only [hk, if_true]
          have hnk : n.toNat ≤ k := by rw [List.length_take] at hk; omega
          have e1 : (buf.take k).take n.toNat = buf.take n.toNat := by
            rw [List.take_take, Nat.min_eq_left hnk]
          have e2 : (buf.take k).drop n.toNat = (buf.drop n.toNat).take (k - n.toNat) := by
            rw [List.drop_take]
          rw [e1, e2]
          exact ih _ _ a rest h (k - n.toNat)
        · simp only [hk, if_false]
          exact Or.inl trivial
      · simp only [hl, if_false] at h
        cases h

/-- whatever `buf` is: if the receiver gets through all its reads on `buf`, then on any prefix of `buf` it delivers a
prefix of the same messages and either gets through as well or stops with EOF -/
theorem recvAll_take {p : Prims} (ops : List (Op p)) : ∀ (r : Receiver p) (buf : Bytes),
    (recvAll r ops buf).stop = none → ∀ k : Nat,
      (recvAll r ops (buf.take k)).msgs <+: (recvAll r ops buf).msgs ∧
      ((recvAll r ops (buf.take k)).stop = none ∨ (recvAll r ops (buf.take k)).stop = some .eof) := by
  induction ops with
  | nil => intro r buf _ k; exact ⟨List.prefix_refl _, .inl rfl⟩
  | cons op ops ih =>
    intro r buf h k
    cases op with
    | msg d rnd =>
      cases hrun : runBuf (readMessage r) buf with
      | err e => simp only [recvAll, hrun] at h; cases h
      | ok o rest =>
        simp only [recvAll, hrun] at h ⊢
        rcases runBuf_take _ _ _ _ hrun k with he | ⟨j, hj⟩
        · simp only [he]
          exact ⟨List.nil_prefix, .inr trivial⟩
        · obtain ⟨i1, i2⟩ := ih o.st rest h j
          simp only [hj]
          exact ⟨List.cons_prefix_cons.2 ⟨rfl, i1⟩, i2⟩
    | _ => exact ih _ _ h k

/-- **Truncation / not-yet-arrived data.** Whatever prefix of the honest stream (followed by anything) the receiver
has, it delivers a prefix of the sent messages and then either has done all its reads or stops with EOF. -/
theorem truncated_seq {p : Prims} (W : Laws p) (ops : List (Op p)) (s : Sender p) (r : Receiver p)
    (hp : PairedSt W s r) (hok : ∀ op ∈ ops, OpOk W op)
    (s' : Sender p) (w : Bytes) (log : List Auth) (hs : sendAll s ops = .ok (s', w, log)) (t : Bytes) (k : Nat) :
    (recvAll r ops ((w ++ t).take k)).msgs <+: msgsOf s.seq ops ∧
    ((recvAll r ops ((w ++ t).take k)).stop = none ∨ (recvAll r ops ((w ++ t).take k)).stop = some .eof) := by
  obtain ⟨h1, h2, -⟩ := roundtrip_seq W ops s r hp hok s' w log hs t
  exact h1 ▸ recvAll_take ops r (w ++ t) h2 k

end PV.Packet
