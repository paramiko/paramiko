/-
  Lemmas about PV.Model.AuthServer shared by PV/Props/C14, C15, C16: `sendAuthResult` in closed form, what
  `perform` does with each `Act`, and one walk over the decision functions (`decideAct` and below; they only
  touch `authUser`, `gssSub`, `expected`) that yields everything the properties need of the act chosen.
-/
import PV.Model.AuthServer
namespace PV.AuthServer
open PV PV.Wire PV.Generated.AuthTables

/-- case analysis on an `if` under a predicate.  The decision trees are walked with this and `rcases` on the
scrutinee of a `match`: `split` simplifies the whole remaining tree at every branch, which is slow on `authMethod`. -/
theorem ite_ind {α : Sort _} {P : α → Prop} {c : Prop} [Decidable c] {x y : α}
    (hx : c → P x) (hy : ¬ c → P y) : P (if c then x else y) := by
  split
  · exact hx ‹_›
  · exact hy ‹_›

/-! ## message recognisers -/

/-- a USERAUTH_FAILURE whose "partial success" flag is false -/
def isNPF (m : Bytes) : Bool := m.head? == some 51 && m.reverse.head? == some 0
/-- number of non-partial failures among sent messages -/
def np (l : List Bytes) : Nat := (l.filter isNPF).length

@[simp] theorem isNPF_failure (a : Bytes) (p : Bool) : isNPF (msgFailure a p) = !p := by
  cases p <;> simp [isNPF, msgFailure]
@[simp] theorem isNPF_success : isNPF msgSuccess = false := by decide
@[simp] theorem isNPF_disconnect (c : Nat) (d : Bytes) : isNPF (msgDisconnect c d) = false := by
  simp [isNPF, msgDisconnect]
@[simp] theorem np_nil : np [] = 0 := rfl
@[simp] theorem np_append (a b : List Bytes) : np (a ++ b) = np a + np b := by simp [np]
theorem np_cons (a : Bytes) (b : List Bytes) : np (a :: b) = (if isNPF a then 1 else 0) + np b := by
  simp only [np, List.filter_cons]; split <;> simp <;> omega

theorem ne_of_head {a b : UInt8} {x y : Bytes} (h : a ≠ b) : a :: x ≠ b :: y := by
  intro e; exact h (List.cons.inj e).1

theorem success_ne_disc : msgSuccess ≠ msgDiscNoMoreAuth := ne_of_head (by decide)
theorem failure_ne_disc (a : Bytes) (p : Bool) : msgFailure a p ≠ msgDiscNoMoreAuth := ne_of_head (by decide)
theorem failure_ne_success (a : Bytes) (p : Bool) : msgFailure a p ≠ msgSuccess := ne_of_head (by decide)
theorem disc_ne_success (c : Nat) (d : Bytes) : msgDisconnect c d ≠ msgSuccess := ne_of_head (by decide)
theorem success_ne_disconnect (c : Nat) (d : Bytes) : msgSuccess ≠ msgDisconnect c d := ne_of_head (by decide)
theorem success_ne_discS : msgSuccess ≠ msgDiscService := ne_of_head (by decide)

/-- a message that is neither a counted failure nor USERAUTH_SUCCESS -/
def Plain (m : Bytes) : Prop := isNPF m = false ∧ m ≠ msgSuccess

/-- every message the server builds starts with its type byte; only 51 (USERAUTH_FAILURE) and
52 (USERAUTH_SUCCESS) are not plain -/
theorem plain_of_type {t : UInt8} {x : Bytes} (h1 : t ≠ 51 := by decide) (h2 : t ≠ 52 := by decide) :
    Plain (t :: x) :=
  ⟨by simp [isNPF, h1], ne_of_head h2⟩

theorem plain_singleton {t : UInt8} {x : Bytes} (h1 : t ≠ 51 := by decide) (h2 : t ≠ 52 := by decide) :
    ∀ m ∈ [t :: x], Plain m :=
  List.forall_mem_singleton.mpr (plain_of_type h1 h2)

theorem np_plain {l : List Bytes} (h : ∀ m ∈ l, Plain m) : np l = 0 := by
  simp only [np, List.length_eq_zero_iff, List.filter_eq_nil_iff]
  exact fun m hm => by simp [(h m hm).1]

/-- the username a credential-evaluating callback is asked about -/
def userOf : Cb → Option Bytes
  | .authNone u => some u
  | .authPassword u _ => some u
  | .authPubkey u _ => some u
  | .authInter u _ => some u
  | .gssKeyex u => some u
  | .gssMic u => u
  | _ => none

/-- callbacks that evaluate a credential (everything except banner / allowed-list / gss switch) -/
def isCredential : Cb → Bool
  | .enableGss => false
  | .banner => false
  | .allowed _ => false
  | _ => true

/-- the callback evaluated a credential and returned AUTH_SUCCESSFUL -/
def Call.approves (c : Call) : Prop := isCredential c.cb = true ∧ c.res = some AUTH_SUCCESSFUL

/-! ## `sendAuthResult` -/

/-- the failure counter after the verdict `r` -/
def counted (n r : Nat) : Nat := if r = AUTH_SUCCESSFUL ∨ r = AUTH_PARTIALLY_SUCCESSFUL then n else n + 1

theorem counted_bounds (n r : Nat) : n ≤ counted n r ∧ counted n r ≤ n + 1 := by
  unfold counted; split <;> omega

section sar
variable (s : St) (e : Env) (u : Option Bytes) (r : Nat)

theorem sar_eq : sendAuthResult s e u r =
    ({ s with authenticated := s.authenticated || decide (r = AUTH_SUCCESSFUL),
              failCount := counted s.failCount r,
              active := s.active && decide (counted s.failCount r < FAIL_CAP) },
     { cbs := if r = AUTH_SUCCESSFUL then [] else [Call.mk (.allowed u) none],
       sent := (if r = AUTH_SUCCESSFUL then msgSuccess
                else msgFailure e.allowed (decide (r = AUTH_PARTIALLY_SUCCESSFUL))) ::
         if counted s.failCount r < FAIL_CAP then [] else [msgDiscNoMoreAuth] }) := by
  unfold sendAuthResult counted
  have h10 : AUTH_PARTIALLY_SUCCESSFUL ≠ AUTH_SUCCESSFUL := by decide
  by_cases h0 : r = AUTH_SUCCESSFUL
  · by_cases hc : s.failCount < FAIL_CAP <;> simp [h0, hc, Nat.not_le_of_lt, Nat.le_of_not_lt]
  by_cases h1 : r = AUTH_PARTIALLY_SUCCESSFUL
  · by_cases hc : s.failCount < FAIL_CAP <;> simp [h1, h10, hc, Nat.not_le_of_lt, Nat.le_of_not_lt]
  · by_cases hc : s.failCount + 1 < FAIL_CAP <;> simp [h0, h1, hc, Nat.not_le_of_lt, Nat.le_of_not_lt]

theorem sar_frame : (sendAuthResult s e u r).1.authUser = s.authUser ∧ (sendAuthResult s e u r).1.gssSub = s.gssSub ∧
    (sendAuthResult s e u r).1.expected = s.expected ∧ (sendAuthResult s e u r).1.chans = s.chans := by
  rw [sar_eq]; exact ⟨rfl, rfl, rfl, rfl⟩

theorem sar_failCount : (sendAuthResult s e u r).1.failCount = counted s.failCount r := by rw [sar_eq]
theorem sar_exc : (sendAuthResult s e u r).2.exc = none := by rw [sar_eq]
theorem sar_delegated : (sendAuthResult s e u r).2.delegated = false := by rw [sar_eq]

theorem sar_active : (sendAuthResult s e u r).1.active =
    (s.active && decide ((sendAuthResult s e u r).1.failCount < FAIL_CAP)) := by rw [sar_eq]

theorem sar_authenticated : (sendAuthResult s e u r).1.authenticated =
    (s.authenticated || decide (r = AUTH_SUCCESSFUL)) := by rw [sar_eq]

theorem sar_cbs : ∀ c ∈ (sendAuthResult s e u r).2.cbs, c = Call.mk (.allowed u) none := by
  rw [sar_eq]; split <;> simp

theorem sar_sent : (sendAuthResult s e u r).2.sent =
    (if r = AUTH_SUCCESSFUL then msgSuccess else msgFailure e.allowed (decide (r = AUTH_PARTIALLY_SUCCESSFUL))) ::
      if (sendAuthResult s e u r).1.failCount < FAIL_CAP then [] else [msgDiscNoMoreAuth] := by rw [sar_eq]

theorem sar_count : (sendAuthResult s e u r).1.failCount = s.failCount + np (sendAuthResult s e u r).2.sent := by
  have hb : np (if (sendAuthResult s e u r).1.failCount < FAIL_CAP then [] else [msgDiscNoMoreAuth]) = 0 := by
    split <;> simp [np_cons, msgDiscNoMoreAuth]
  rw [sar_sent, np_cons, hb, sar_failCount, counted]
  by_cases h0 : r = AUTH_SUCCESSFUL
  · simp [h0]
  · by_cases h1 : r = AUTH_PARTIALLY_SUCCESSFUL <;> simp_all [AUTH_SUCCESSFUL, AUTH_PARTIALLY_SUCCESSFUL]

theorem sar_np_le : np (sendAuthResult s e u r).2.sent ≤ 1 := by
  have := sar_count s e u r
  have := sar_failCount s e u r
  have := counted_bounds s.failCount r
  omega

theorem sar_disc (h : FAIL_CAP ≤ (sendAuthResult s e u r).1.failCount) :
    msgDiscNoMoreAuth ∈ (sendAuthResult s e u r).2.sent := by
  rw [sar_sent, if_neg (Nat.not_lt.mpr h)]; simp

theorem sar_success : msgSuccess ∈ (sendAuthResult s e u r).2.sent ↔ r = AUTH_SUCCESSFUL := by
  rw [sar_sent]
  by_cases h0 : r = AUTH_SUCCESSFUL
  · simp [h0]
  · simp only [h0, if_false, List.mem_cons, iff_false, not_or]
    exact ⟨(failure_ne_success _ _).symm, by split <;> simp [success_ne_disc]⟩
end sar

/-! ## `perform` -/

/-- callbacks named by an act (consulted before any `_send_auth_result`) -/
def Act.cbs : Act → List Call
  | .nop => []
  | .reply c _ => c
  | .die c _ _ => c
  | .disconnect c _ => c
  | .result c _ _ => c
  | .resultDie c _ _ _ => c
  | .rejectTwice c _ => c
  | .delegate _ => []

/-- messages an act sends outside `_send_auth_result` carry no non-partial failure and no SUCCESS -/
def Act.plainOK : Act → Prop
  | .reply _ msgs => ∀ m ∈ msgs, Plain m
  | .die _ msgs _ => ∀ m ∈ msgs, Plain m
  | .disconnect _ m => Plain m
  | _ => True

/-- an act may end in USERAUTH_SUCCESS only if one of the callbacks it names approved -/
def Act.grantOK : Act → Prop
  | .result cbs _ r => r = AUTH_SUCCESSFUL → ∃ c ∈ cbs, c.approves
  | .resultDie _ _ r _ => r ≠ AUTH_SUCCESSFUL
  | _ => True

section perform
variable (s : St) (e : Env) (a : Act)

theorem perform_frame : (perform s e a).1.authUser = s.authUser ∧ (perform s e a).1.gssSub = s.gssSub ∧
    (perform s e a).1.expected = s.expected := by
  cases a with
  | rejectTwice cb u => simp only [perform]; split <;> simp only [sar_frame, and_self]
  | _ => simp only [perform, sar_frame, and_self]

theorem perform_authUser : (perform s e a).1.authUser = s.authUser := (perform_frame s e a).1
theorem perform_gssSub : (perform s e a).1.gssSub = s.gssSub := (perform_frame s e a).2.1
theorem perform_expected : (perform s e a).1.expected = s.expected := (perform_frame s e a).2.2

theorem perform_cbs : ∀ c ∈ (perform s e a).2.cbs, c ∈ a.cbs ∨ ∃ u, c = Call.mk (.allowed u) none := by
  intro c hc
  have sar : ∀ s u r, c ∈ (sendAuthResult s e u r).2.cbs → ∃ u, c = Call.mk (.allowed u) none :=
    fun s u r h => ⟨u, sar_cbs s e u r c h⟩
  cases a with
  | result cb u r => exact (List.mem_append.mp hc).imp id (sar s u r)
  | resultDie cb u r x => exact (List.mem_append.mp hc).imp id (sar s u r)
  | rejectTwice cb u =>
    simp only [perform] at hc
    split at hc <;> rcases List.mem_append.mp hc with h | h
    · exact (List.mem_append.mp h).imp id (sar _ u _)
    · exact Or.inr (sar _ u _ h)
    · exact (List.mem_append.mp h).imp id (sar _ u _)
    · exact Or.inr ⟨u, List.mem_singleton.mp h⟩
  | nop => cases hc
  | delegate c => cases hc
  | _ => exact Or.inl hc

theorem perform_count_lb (h : a.plainOK) :
    s.failCount + np (perform s e a).2.sent ≤ (perform s e a).1.failCount := by
  cases a with
  | reply cb m => exact Nat.le_of_eq (congrArg _ (np_plain h))
  | die cb m x => exact Nat.le_of_eq (congrArg _ (np_plain h))
  | disconnect cb m => simp [perform, np_cons, h.1]
  | result cb u r => exact Nat.le_of_eq (sar_count s e u r).symm
  | resultDie cb u r x => exact Nat.le_of_eq (sar_count s e u r).symm
  | rejectTwice cb u =>
    simp only [perform]
    split
    · simp [sar_count]; omega
    · simp [sar_count]
  | _ => exact Nat.le_refl _

theorem perform_cap (h : a.plainOK) (hlt : s.failCount < FAIL_CAP) :
    s.failCount + np (perform s e a).2.sent ≤ FAIL_CAP := by
  cases a with
  | reply cb m => exact (np_plain h ▸ Nat.le_of_lt hlt : s.failCount + np m ≤ FAIL_CAP)
  | die cb m x => exact (np_plain h ▸ Nat.le_of_lt hlt : s.failCount + np m ≤ FAIL_CAP)
  | disconnect cb m => simp [perform, np_cons, h.1]; omega
  | result cb u r =>
    have := sar_np_le s e u r
    show s.failCount + np (sendAuthResult s e u r).2.sent ≤ FAIL_CAP
    omega
  | resultDie cb u r x =>
    have := sar_np_le s e u r
    show s.failCount + np (sendAuthResult s e u r).2.sent ≤ FAIL_CAP
    omega
  | rejectTwice cb u =>
    simp only [perform]
    have h1 := sar_np_le s e u AUTH_FAILED
    have h2 := sar_count s e u AUTH_FAILED
    split
    · -- still active after the first rejection: it was counted below the cap
      rename_i hact
      have h4 := sar_np_le (sendAuthResult s e u AUTH_FAILED).1 e u AUTH_FAILED
      rw [sar_active] at hact
      have hb := of_decide_eq_true (Bool.and_eq_true_iff.mp hact).2
      simp; omega
    · simp; omega
  | _ => exact Nat.le_of_lt hlt

theorem perform_inactive (h : s.active = false) : (perform s e a).1.active = false := by
  cases a with
  | nop => exact h
  | reply cb m => exact h
  | result cb u r => simp only [perform, sar_active, h, Bool.false_and]
  | rejectTwice cb u =>
    simp only [perform]
    split
    · rfl
    · rename_i hx; simpa using hx
  | delegate c => simp only [perform, h, Bool.false_and]
  | _ => rfl

theorem perform_inv (h : s.active = true → s.failCount < FAIL_CAP) :
    (perform s e a).1.active = true → (perform s e a).1.failCount < FAIL_CAP := by
  cases a with
  | nop => exact h
  | reply cb m => exact h
  | result cb u r =>
    intro ha
    rw [show (perform s e (.result cb u r)).1 = (sendAuthResult s e u r).1 from rfl, sar_active] at ha
    exact of_decide_eq_true (Bool.and_eq_true_iff.mp ha).2
  | rejectTwice cb u =>
    simp only [perform]
    split
    · nofun
    · rename_i hx; intro ha; exact absurd ha hx
  | delegate c => exact fun ha => h (Bool.and_eq_true_iff.mp ha).1
  | _ => nofun

theorem perform_cross (hs : s.active = true) (hlt : s.failCount < FAIL_CAP) (hge : FAIL_CAP ≤ (perform s e a).1.failCount) :
    (perform s e a).1.active = false ∧ msgDiscNoMoreAuth ∈ (perform s e a).2.sent := by
  refine ⟨?_, ?_⟩
  · cases h : (perform s e a).1.active
    · rfl
    · exact absurd (perform_inv s e a (fun _ => hlt) h) (Nat.not_lt.mpr hge)
  cases a with
  | result cb u r => exact sar_disc s e u r hge
  | resultDie cb u r x => exact sar_disc s e u r hge
  | rejectTwice cb u =>
    simp only [perform] at hge ⊢
    by_cases hact : (sendAuthResult s e u AUTH_FAILED).1.active = true
    · rw [if_pos hact] at hge ⊢
      exact List.mem_append_right _ (sar_disc _ e u AUTH_FAILED hge)
    · -- the first rejection already reached the cap
      rw [if_neg hact]
      apply sar_disc
      rw [sar_active, hs] at hact
      simpa using hact
  | _ => exact absurd hlt (Nat.not_lt.mpr hge)

theorem perform_chans (h : a ≠ .delegate true) : (perform s e a).1.chans = s.chans := by
  cases a with
  | rejectTwice cb u => simp only [perform]; split <;> simp only [sar_frame]
  | delegate c =>
    cases c
    · rfl
    · exact absurd rfl h
  | _ => simp only [perform, sar_frame]
end perform

/-! ## the decision functions -/

/-- every credential callback in `cbs` asks about the username `u` -/
def About (u : Option Bytes) (cbs : List Call) : Prop := ∀ c ∈ cbs, ∀ v, userOf c.cb = some v → u = some v

/-- what the handlers guarantee about the act they choose, `u` being the username pinned at that moment:
every credential callback it names asks about `u`; its plain messages are harmless; it grants only on an
approval; and it hands the message to the connection layer only if `conn` holds -/
structure Act.OK (u : Option Bytes) (conn : Prop) (a : Act) : Prop where
  about : About u a.cbs
  plain : a.plainOK
  grant : a.grantOK
  gate : a = .delegate true → conn

theorem forall_nil {α : Type} {p : α → Prop} : ∀ x ∈ ([] : List α), p x := nofun

theorem forall_cons {α : Type} {p : α → Prop} {a : α} {l : List α} (h : p a) (hl : ∀ x ∈ l, p x) :
    ∀ x ∈ a :: l, p x := List.forall_mem_cons.mpr ⟨h, hl⟩

section ok
variable {su : Option Bytes} {conn : Prop} {cbs : List Call} {v : Option Bytes}

theorem about_gss : About su [cGss] := forall_cons nofun forall_nil

theorem about_cred {u : Bytes} {cb : Cb} (hu : su = some u) (hcb : userOf cb = some u) (res : Option Nat) :
    About su [cGss, Call.mk cb res] :=
  forall_cons nofun (forall_cons (fun _ h => hu.trans (hcb.symm.trans h)) forall_nil)

theorem ok_nop : Act.nop.OK su conn := ⟨forall_nil, trivial, trivial, nofun⟩
theorem ok_drop (x : Option Exc) : (Act.die [] [] x).OK su conn := ⟨forall_nil, forall_nil, trivial, nofun⟩

theorem ok_verdict {u : Bytes} {cb : Cb} (hu : su = some u) (hcb : userOf cb = some u) (hc : isCredential cb = true)
    (r : Nat) : (Act.result [cGss, Call.mk cb (some r)] v r).OK su conn :=
  ⟨about_cred hu hcb _, trivial,
   fun hr => ⟨_, List.mem_cons_of_mem _ (List.mem_singleton.mpr rfl), hc, congrArg some hr⟩, nofun⟩

theorem ok_failed (h : About su cbs) : (Act.result cbs v AUTH_FAILED).OK su conn :=
  ⟨h, trivial, fun hr => absurd hr (by decide), nofun⟩

theorem ok_failedDie (h : About su cbs) (x : Exc) : (Act.resultDie cbs v AUTH_FAILED x).OK su conn :=
  ⟨h, trivial, (by decide : AUTH_FAILED ≠ AUTH_SUCCESSFUL), nofun⟩

theorem ok_interAct {cb : Cb} {r : IRes} (h : About su cbs) (hm : Call.mk cb (codeOf r) ∈ cbs)
    (hc : isCredential cb = true) : (interAct cbs v r).OK su conn := by
  cases r with
  | query q => exact ⟨h, plain_singleton, trivial, nofun⟩
  | code n => exact ⟨h, trivial, fun hn => ⟨_, hm, hc, congrArg some hn⟩, nofun⟩
end ok

/-- the decision functions leave counters, activity, the authentication flag and the channels alone and never
replace a pinned username (what they move is `gssSub` and `expected`) -/
structure Frame (s s1 : St) : Prop where
  failCount : s1.failCount = s.failCount
  active : s1.active = s.active
  authenticated : s1.authenticated = s.authenticated
  chans : s1.chans = s.chans
  pin : ∀ u, s.authUser = some u → s1.authUser = some u

theorem Frame.trans {s s1 s2 : St} (h : Frame s s1) (h' : Frame s1 s2) : Frame s s2 :=
  ⟨h'.failCount.trans h.failCount, h'.active.trans h.active, h'.authenticated.trans h.authenticated,
   h'.chans.trans h.chans, fun u hu => h'.pin u (h.pin u hu)⟩

/-- a connection-layer handler may run only for an authenticated client or an existing channel -/
def connOpen (s : St) : Prop := s.authenticated = true ∨ s.chans ≠ 0

/-- what every decision function guarantees about the state it returns and the act it chooses -/
structure DecOK (s : St) (d : St × Act) : Prop where
  frame : Frame s d.1
  act : d.2.OK d.1.authUser (connOpen s)

/-- a decision that moves at most `gssSub` and `expected` (`(s, a)` included) -/
theorem DecOK.same {s : St} {a : Act} {g : Bool} {x : List Nat} (h : a.OK s.authUser (connOpen s)) :
    DecOK s ({ s with gssSub := g, expected := x }, a) := ⟨⟨rfl, rfl, rfl, rfl, fun _ h => h⟩, h⟩

/-- a decision taken on a state the caller has prepared (`gssSub`/`expected` reset, username pinned) -/
theorem DecOK.from {s s' : St} {d : St × Act} (h : DecOK s' d) (hf : Frame s s') : DecOK s d :=
  ⟨hf.trans h.frame, h.act.about, h.act.plain, h.act.grant,
   fun hd => (h.act.gate hd).imp (fun x => hf.authenticated ▸ x) (fun x => hf.chans ▸ x)⟩

section decisions
variable (sc : SigScheme) (sid : Bytes) (s : St) (p : Nat) (b : Bytes) (e : Env)

theorem parseServiceRequest_ok : DecOK s (parseServiceRequest s b e) := by
  unfold parseServiceRequest
  rcases getText _ with ⟨_ | svc, _⟩
  · exact .same (ok_drop _)
  dsimp only
  refine ite_ind (fun _ => ?_) fun _ => .same ⟨forall_nil, plain_of_type, trivial, nofun⟩
  rcases e.banner with _ | ⟨bn, lang⟩
  · exact .same ⟨forall_cons nofun forall_nil, plain_singleton, trivial, nofun⟩
  · exact .same ⟨forall_cons nofun forall_nil, forall_cons plain_of_type (plain_singleton),
      trivial, nofun⟩

theorem authMethod_ok (u sv m : Bytes) (r : Rd) (hu : s.authUser = some u) :
    DecOK s (authMethod sc sid s e u sv m r) := by
  unfold authMethod
  refine ite_ind (fun _ => ?none) fun _ => ite_ind (fun _ => ?password) fun _ => ite_ind (fun _ => ?publickey)
    fun _ => ite_ind (fun _ => ?kbdint) fun _ => ite_ind (fun _ => ?gssMic) fun _ => ite_ind (fun _ => ?gssKeyex)
    fun _ => ?other
  case none | other => exact .same (ok_verdict hu rfl rfl _)
  case password =>
    rcases getBool r with ⟨changereq, r1⟩
    dsimp only
    rcases r1.getString with ⟨pw, _⟩
    dsimp only
    exact ite_ind (fun _ => .same (ok_failed about_gss)) fun _ => .same (ok_verdict hu rfl rfl _)
  case publickey =>
    rcases getBool r with ⟨attached, r1⟩
    dsimp only
    rcases getText r1 with ⟨_ | algo, r2⟩
    · exact .same ⟨about_gss, forall_nil, trivial, nofun⟩
    dsimp only
    rcases r2.getString with ⟨keyblob, r3⟩
    dsimp only
    rcases e.keyCanon with _ | key
    · exact .same ⟨about_gss, plain_of_type, trivial, nofun⟩
    dsimp only
    refine ite_ind (fun _ => ite_ind (fun _ => ?_) fun _ => ?_) fun _ => .same (ok_verdict hu rfl rfl _)
    · exact .same ⟨about_cred hu rfl _, plain_singleton, trivial, nofun⟩
    · rcases r3.getString with ⟨sig, _⟩
      exact ite_ind (fun _ => .same (ok_verdict hu rfl rfl _)) fun _ => .same (ok_failed (about_cred hu rfl _))
  case kbdint =>
    rcases r.getString with ⟨sub, _⟩
    dsimp only
    exact .same (ok_interAct (about_cred hu rfl _) (List.mem_cons_of_mem _ (List.mem_singleton.mpr rfl)) rfl)
  case gssMic =>
    rcases r.getInt with ⟨mechs, _⟩
    dsimp only
    refine ite_ind (fun _ => .same ⟨about_gss, plain_singleton, trivial, nofun⟩) fun _ => ?_
    exact .same ⟨about_gss, plain_singleton, trivial, nofun⟩
  case gssKeyex =>
    exact ite_ind (fun _ => .same ⟨about_gss, trivial, trivial, nofun⟩) fun _ =>
      ite_ind (fun _ => .same (ok_failedDie about_gss _)) fun _ => .same (ok_verdict hu rfl rfl _)

theorem parseUserauthRequest_ok : DecOK s (parseUserauthRequest sc sid s b e) := by
  unfold parseUserauthRequest
  refine ite_ind (fun _ => .same ok_nop) fun _ => ?_
  rcases getText _ with ⟨_ | user, r1⟩
  · exact .same (ok_drop _)
  dsimp only
  rcases getText r1 with ⟨_ | service, r2⟩
  · exact .same (ok_drop _)
  dsimp only
  rcases getText r2 with ⟨_ | method, r3⟩
  · exact .same (ok_drop _)
  dsimp only
  refine ite_ind (fun _ => .same ⟨forall_nil, plain_of_type, trivial, nofun⟩) fun _ =>
    ite_ind (fun _ => .same ⟨forall_nil, plain_of_type, trivial, nofun⟩) fun hpin => ?_
  -- the request names the pinned username, or pins its own
  refine .from (authMethod_ok sc sid _ e _ _ _ _ rfl) ⟨rfl, rfl, rfl, rfl, fun u hu => ?_⟩
  rw [hu] at hpin
  simp only [ne_eq, reduceCtorEq, not_false_eq_true, Option.some.injEq, true_and, Decidable.not_not] at hpin
  rw [hpin]

theorem parseInfoResponse_ok : DecOK s (parseInfoResponse s b e) := by
  unfold parseInfoResponse
  rcases Rd.getInt _ with ⟨n, r⟩
  dsimp only
  rcases getTexts n r with _ | rs
  · exact .same (ok_drop _)
  · exact .same (ok_interAct (forall_cons nofun forall_nil) (List.mem_singleton.mpr rfl) rfl)

theorem gssToken_ok : DecOK s (gssToken s e) := by
  unfold gssToken
  rcases e.accept with _ | _ | t
  · exact .same (ok_failedDie forall_nil _)
  · exact .same ok_nop
  · exact .same ⟨forall_nil, plain_singleton, trivial, nofun⟩

theorem gssMic_ok : DecOK s (gssMic s e) := by
  unfold gssMic
  refine ite_ind (fun _ => .same (ok_failedDie forall_nil _)) fun _ => .same ?_
  exact ⟨forall_cons (fun _ h => h) forall_nil, trivial,
    fun hr => ⟨_, List.mem_singleton.mpr rfl, rfl, congrArg some hr⟩, nofun⟩

theorem ensureAuthedReply_ok (u : Option Bytes) (conn : Prop) :
    (ensureAuthedReply p b).OK u conn := by
  unfold ensureAuthedReply
  refine ite_ind (fun _ => ⟨forall_nil, plain_singleton, trivial, nofun⟩) fun _ =>
    ite_ind (fun _ => ?_) fun _ => ok_drop _
  rcases getText _ with ⟨_ | _, r⟩
  · exact ok_drop _
  · exact ⟨forall_nil, plain_singleton, trivial, nofun⟩

theorem authDispatch_ok : DecOK s (authDispatch sc sid s p b e) := by
  have hsub : Frame s { s with gssSub := false } := ⟨rfl, rfl, rfl, rfl, fun _ h => h⟩
  unfold authDispatch
  refine ite_ind (fun _ => ?_) fun _ => ?_
  · exact ite_ind (fun _ => .same (ok_drop _)) fun _ =>
      ite_ind (fun _ => .from (parseServiceRequest_ok _ b e) hsub) fun _ =>
      ite_ind (fun _ => .from (parseUserauthRequest_ok sc sid _ b e) hsub) fun _ =>
      ite_ind (fun _ => gssToken_ok s e) fun _ => gssMic_ok s e
  · exact ite_ind (fun _ => parseServiceRequest_ok s b e) fun _ =>
      ite_ind (fun _ => parseUserauthRequest_ok sc sid s b e) fun _ => parseInfoResponse_ok s b e

theorem dispatch_ok : DecOK s (dispatch sc sid s p b e) := by
  unfold dispatch
  rcases classify s.gssSub p with _ | _ | _ | _ | _ | _ | _
  case transport =>
    refine ite_ind (fun _ => .same ⟨forall_nil, trivial, trivial, nofun⟩) fun _ =>
      ite_ind (fun _ => .same (ok_drop _)) fun _ => ite_ind (fun hauth => ?_) fun _ =>
      .same (ensureAuthedReply_ok p b _ _)
    simp only [St.isAuthenticated, Bool.and_eq_true] at hauth
    exact .same ⟨forall_nil, trivial, trivial, fun _ => Or.inl hauth.2⟩
  case channel =>
    exact ite_ind (fun _ => .same (ok_drop _)) fun hc => .same ⟨forall_nil, trivial, trivial, fun _ => Or.inr hc⟩
  case auth => exact authDispatch_ok sc sid s p b e
  all_goals
    exact ite_ind (fun _ => .same (ok_drop _)) fun _ => ite_ind (fun _ => .same ok_nop) fun _ =>
      .same ⟨forall_nil, plain_singleton, trivial, nofun⟩

theorem decideAct_ok : DecOK s (decideAct sc sid s p b e) := by
  unfold decideAct
  rcases classify s.gssSub p with _ | _ | _ | _ | _ | _ | _
  case ignore | debug => exact .same ok_nop
  case disconnect =>
    rcases getText _ with ⟨_ | _, _⟩ <;> exact .same (ok_drop _)
  all_goals
    exact ite_ind (fun _ => ite_ind (fun _ => .same (ok_drop _)) fun _ => ite_ind (fun _ => .same (ok_drop _)) fun _ =>
      .from (dispatch_ok sc sid _ p b e) ⟨rfl, rfl, rfl, rfl, fun _ h => h⟩) fun _ => dispatch_ok sc sid s p b e

/-! ## the path of a message through the loop -/

theorem classify_50 (g : Bool) : classify g 50 = .auth := by cases g <;> decide

theorem decideAct_eq (h : classify s.gssSub p ∈ [.transport, .channel, .auth, .unhandled]) :
    decideAct sc sid s p b e =
      if s.expected ≠ [] then
        if p ∉ s.expected then (s, .die [] [] (some .order))
        else if 30 ≤ p ∧ p ≤ 41 then (s, .die [] [] (some .attr))
        else dispatch sc sid { s with expected := [] } p b e
      else dispatch sc sid s p b e := by
  unfold decideAct
  generalize classify s.gssSub p = c at h ⊢
  cases c
  case ignore | disconnect | debug => simp at h
  all_goals rfl

theorem decideAct_dispatch (h : classify s.gssSub p ∈ [.transport, .channel, .auth, .unhandled]) :
    (∃ x, decideAct sc sid s p b e = (s, .die [] [] (some x))) ∨
    decideAct sc sid s p b e = dispatch sc sid { s with expected := [] } p b e := by
  rw [decideAct_eq sc sid s p b e h]
  by_cases hexp : s.expected = []
  · rw [if_neg (not_not_intro hexp)]
    exact Or.inr (by rw [← hexp])
  rw [if_pos hexp]
  by_cases hin : p ∈ s.expected
  · rw [if_neg (not_not_intro hin)]
    by_cases hk : 30 ≤ p ∧ p ≤ 41
    · exact Or.inl ⟨_, if_pos hk⟩
    · exact Or.inr (if_neg hk)
  · exact Or.inl ⟨_, if_pos hin⟩

/-- a USERAUTH_REQUEST that reaches the normal auth handler -/
theorem step_request (hact : s.active = true) (hsub : s.gssSub = false) (hexp : s.expected = []) :
    step sc sid s 50 b e =
      perform (parseUserauthRequest sc sid s b e).1 e (parseUserauthRequest sc sid s b e).2 := by
  simp [step, hact, decideAct, dispatch, classify_50, hexp, authDispatch, hsub]

theorem parseUserauthRequest_eq (hauth : s.authenticated = false) {user service method : Bytes} {r1 r2 r3 : Rd}
    (h1 : getText { content := b, pos := 0 } = (some user, r1)) (h2 : getText r1 = (some service, r2))
    (h3 : getText r2 = (some method, r3)) :
    parseUserauthRequest sc sid s b e =
      if service ≠ sSshConnection then (s, .disconnect [] msgDiscService)
      else if s.authUser ≠ none ∧ s.authUser ≠ some user then (s, .disconnect [] msgDiscNoMoreAuth)
      else authMethod sc sid { s with authUser := some user } e user service method r3 := by
  simp only [parseUserauthRequest, hauth, Bool.false_eq_true, if_false, h1, h2, h3]
end decisions

/-! ## one step of the loop -/

section step
variable (sc : SigScheme) (sid : Bytes) (s : St) (p : Nat) (b : Bytes) (e : Env)

theorem step_idle (h : s.active = false) : step sc sid s p b e = (s, {}) := by
  simp [step, h]

theorem step_active (h : s.active = true) :
    step sc sid s p b e = perform (decideAct sc sid s p b e).1 e (decideAct sc sid s p b e).2 := by
  simp [step, h]

/-- a step on an ended loop is idle; any other step performs a sound act on a state that differs from `s` in
the bookkeeping fields only -/
theorem step_cases : (s.active = false ∧ step sc sid s p b e = (s, {})) ∨
    (s.active = true ∧ ∃ s1 a, Frame s s1 ∧ a.OK s1.authUser (connOpen s) ∧ step sc sid s p b e = perform s1 e a) := by
  cases h : s.active
  · exact Or.inl ⟨rfl, step_idle sc sid s p b e h⟩
  · have d := decideAct_ok sc sid s p b e
    exact Or.inr ⟨rfl, _, _, d.frame, d.act, step_active sc sid s p b e h⟩

theorem step_user_mono (u : Bytes) (hu : s.authUser = some u) : (step sc sid s p b e).1.authUser = some u := by
  rcases step_cases sc sid s p b e with ⟨_, h⟩ | ⟨_, s1, a, hf, _, h⟩ <;> rw [h]
  · exact hu
  · rw [perform_authUser]; exact hf.pin u hu

theorem step_cbs_user (c : Call) (hc : c ∈ (step sc sid s p b e).2.cbs) (u : Bytes)
    (hu : userOf c.cb = some u) : (step sc sid s p b e).1.authUser = some u := by
  rcases step_cases sc sid s p b e with ⟨_, h⟩ | ⟨_, s1, a, _, ha, h⟩ <;> rw [h] at hc ⊢
  · cases hc
  · rw [perform_authUser]
    rcases perform_cbs _ _ _ c hc with h1 | ⟨x, rfl⟩
    · exact ha.about c h1 u hu
    · cases hu

theorem step_count_lb : s.failCount + np (step sc sid s p b e).2.sent ≤ (step sc sid s p b e).1.failCount := by
  rcases step_cases sc sid s p b e with ⟨_, h⟩ | ⟨_, s1, a, hf, ha, h⟩ <;> rw [h]
  · exact Nat.le_refl _
  · exact hf.failCount ▸ perform_count_lb s1 e a ha.plain

theorem step_cap (hlt : s.failCount < FAIL_CAP) : s.failCount + np (step sc sid s p b e).2.sent ≤ FAIL_CAP := by
  rcases step_cases sc sid s p b e with ⟨_, h⟩ | ⟨_, s1, a, hf, ha, h⟩ <;> rw [h]
  · exact Nat.le_of_lt hlt
  · rw [← hf.failCount] at hlt ⊢
    exact perform_cap s1 e a ha.plain hlt

theorem step_inactive_stays (h : s.active = false) : (step sc sid s p b e).1.active = false := by
  rw [step_idle _ _ _ _ _ _ h]; exact h

theorem step_inv (hinv : s.active = true → s.failCount < FAIL_CAP) :
    (step sc sid s p b e).1.active = true → (step sc sid s p b e).1.failCount < FAIL_CAP := by
  rcases step_cases sc sid s p b e with ⟨_, h⟩ | ⟨_, s1, a, hf, _, h⟩ <;> rw [h]
  · exact hinv
  · exact perform_inv s1 e a (hf.failCount ▸ hf.active ▸ hinv)

theorem step_cross (hs : s.active = true) (hlt : s.failCount < FAIL_CAP)
    (hge : FAIL_CAP ≤ (step sc sid s p b e).1.failCount) :
    (step sc sid s p b e).1.active = false ∧ msgDiscNoMoreAuth ∈ (step sc sid s p b e).2.sent := by
  rcases step_cases sc sid s p b e with ⟨h0, _⟩ | ⟨_, s1, a, hf, _, h⟩
  · rw [h0] at hs; cases hs
  · rw [h] at hge ⊢
    exact perform_cross s1 e a (hf.active ▸ hs) (hf.failCount ▸ hlt) hge
end step

/-! ## histories -/

theorem run_cons (sc : SigScheme) (sid : Bytes) (s : St) (m : Msg) (ms : List Msg) :
    run sc sid s (m :: ms) =
      ((run sc sid (step sc sid s m.ptype m.payload m.env).1 ms).1,
       (step sc sid s m.ptype m.payload m.env).2 :: (run sc sid (step sc sid s m.ptype m.payload m.env).1 ms).2) := rfl

theorem run_inv (sc : SigScheme) (sid : Bytes) {P : St → Prop}
    (hstep : ∀ s p b e, P s → P (step sc sid s p b e).1) (s : St) (ms : List Msg) (h : P s) :
    P (run sc sid s ms).1 := by
  induction ms generalizing s with
  | nil => exact h
  | cons m ms ih => exact ih _ (hstep s m.ptype m.payload m.env h)

end PV.AuthServer
