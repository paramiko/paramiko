/-
  PV.Model.PacketAuth — lemmas for C02: what a successful `read_message` on an ARBITRARY byte string implies
  (inversion of the receive paths), and "same authenticated content ⇒ same wire bytes".
-/
import PV.Model.PacketRoundtrip
namespace PV.Packet
open PV

/-! ## inversion of `runBuf` along a successful run -/

theorem runBuf_read_inv {α : Type} {n : Int} {cr : Bool} {k : Bytes → Rd α} {buf : Bytes} {a : α} {rest : Bytes}
    (h : runBuf (.read n cr k) buf = .ok a rest) :
    ∃ x y, buf = x ++ y ∧ x.length = n.toNat ∧ runBuf (k x) y = .ok a rest := by
  unfold runBuf at h
  by_cases h0 : n ≤ 0
  · rw [if_pos h0] at h
    exact ⟨[], buf, rfl, by rw [Int.toNat_of_nonpos h0]; rfl, h⟩
  · rw [if_neg h0] at h
    by_cases hl : n.toNat ≤ buf.length
    · rw [if_pos hl] at h
      exact ⟨buf.take n.toNat, buf.drop n.toNat, (List.take_append_drop _ _).symm,
        by rw [List.length_take]; exact Nat.min_eq_left hl, h⟩
    · rw [if_neg hl] at h
      cases h

theorem runBuf_liftE_inv {α : Type} {e : Except Err α} {buf : Bytes} {a : α} {rest : Bytes}
    (h : runBuf (liftE e) buf = .ok a rest) : e = .ok a ∧ buf = rest := by
  cases e with
  | error x => cases h
  | ok v => cases h; exact ⟨rfl, rfl⟩

/-- a test that raises: the run went on only if it did not -/
theorem runBuf_guard_inv {α : Type} {c : Prop} [Decidable c] {e : Err} {m : Rd α} {buf : Bytes} {a : α} {rest : Bytes}
    (h : runBuf (if c then .fail e else m) buf = .ok a rest) : ¬ c ∧ runBuf m buf = .ok a rest := by
  by_cases hc : c
  · rw [if_pos hc] at h; cases h
  · rw [if_neg hc] at h; exact ⟨hc, h⟩

/-- a check that must pass: the run went on only if it did -/
theorem runBuf_check_inv {α : Type} {c : Prop} [Decidable c] {e : Err} {m : Rd α} {buf : Bytes} {a : α} {rest : Bytes}
    (h : runBuf (if c then m else .fail e) buf = .ok a rest) : c ∧ runBuf m buf = .ok a rest := by
  by_cases hc : c
  · rw [if_pos hc] at h; exact ⟨hc, h⟩
  · rw [if_neg hc] at h; cases h

theorem readMessage_ok_inv {p : Prims} {r : Receiver p} {buf rest : Bytes} {o : RecvOut p}
    (h : runBuf (readMessage r) buf = .ok o rest) :
    ∃ hdr y, buf = hdr ++ y ∧ hdr.length = r.block ∧
      runBuf (match r.ciph with
        | .etm st mk => readEtm r st mk hdr
        | .aead k iv => readAead r k iv hdr
        | .plain => readPlain r hdr
        | .classic st mk => readClassic r st mk hdr) y = .ok o rest := by
  obtain ⟨hdr, y, hb, hl, h⟩ := runBuf_read_inv h
  exact ⟨hdr, y, hb, hl, h⟩

theorem finish_ok_inv {p : Prims} {r : Receiver p} {c : InC p} {psize : Nat} {packet : Bytes} {au : Option Auth}
    {o : RecvOut p} (h : finish r c psize packet au = .ok o) :
    o.auth = au ∧ o.st.ciph = c ∧ o.st.seq = nextSeq r.seq ∧ o.msg.seqno = r.seq ∧
    o.st.block = r.block ∧ o.st.macLen = r.macLen ∧ o.st.kexDone = r.kexDone := by
  unfold finish at h
  cases packet with
  | nil => cases h
  | cons padb tl =>
    simp only at h
    cases hd : decompIn r.decomp (pySlice1 (padb :: tl) ((psize : Int) - padb.toNat)) with
    | error e => rw [hd] at h; cases h
    | ok zp =>
      obtain ⟨z', pl⟩ := zp
      rw [hd] at h
      simp only at h
      by_cases hr : nextSeq r.seq = 0 ∧ ¬ r.kexDone
      · rw [if_pos hr] at h; cases h
      · rw [if_neg hr] at h
        cases pl with
        | nil => cases h
        | cons cmd body =>
          cases h
          exact ⟨rfl, rfl, rfl, rfl, rfl, rfl, rfl⟩

/-! ## what acceptance implies, per receive path -/

theorem be32_take4_drop4_append (x m : Bytes) (h : 4 ≤ x.length) : be32 (beVal (x.take 4)) ++ (x.drop 4 ++ m) = x ++ m := by
  rw [← List.append_assoc, be32_take4_drop4 x h]

theorem mac_arg_eq (sq x m : Bytes) (h : 4 ≤ x.length) :
    sq ++ be32 (beVal (x.take 4)) ++ (x.drop 4 ++ m) = sq ++ (x ++ m) := by
  rw [List.append_assoc, be32_take4_drop4_append x m h]

/-- encrypt-then-MAC: a delivery means the `macLen` bytes after the packet are the MAC of
`seq ‖ length ‖ ciphertext`, all of them -/
theorem readEtm_ok_inv {p : Prims} {r : Receiver p} {st : p.CSt} {mk : p.MKey} {hdr buf rest : Bytes}
    {o : RecvOut p} (h : runBuf (readEtm r st mk hdr) buf = .ok o rest) :
    4 ≤ hdr.length ∧ ∃ more tag, buf = more ++ (tag ++ rest) ∧ tag.length = r.macLen ∧
      (more.length : Int) = max (remainingEtm (beVal (hdr.take 4)) r.block) 0 ∧
      tag = (p.mac mk (be32 r.seq ++ (hdr ++ more))).take r.macLen ∧
      finish r (.etm (p.dec st (hdr.drop 4 ++ more)).1 mk) (beVal (hdr.take 4)) (p.dec st (hdr.drop 4 ++ more)).2
        (some ⟨r.seq, [], hdr ++ more⟩) = .ok o := by
  unfold readEtm at h
  obtain ⟨hl, h⟩ := runBuf_guard_inv h
  have h4 : 4 ≤ hdr.length := Nat.le_of_not_lt hl
  obtain ⟨more, y, rfl, hml, h⟩ := runBuf_read_inv h
  obtain ⟨tag, z, rfl, htl, h⟩ := runBuf_read_inv h
  obtain ⟨hc, h⟩ := runBuf_check_inv h
  obtain ⟨hf, rfl⟩ := runBuf_liftE_inv h
  rw [mac_arg_eq _ hdr more h4] at hc
  rw [be32_take4_drop4_append hdr more h4] at hf
  exact ⟨h4, more, tag, rfl, by rw [htl]; rfl, by omega, ((ctEq_iff _ _).1 hc).symm, hf⟩

/-- AES-GCM: a delivery means `decrypt(iv, ciphertext ‖ tag, aad = length)` succeeded -/
theorem readAead_ok_inv {p : Prims} {r : Receiver p} {k : p.AKey} {iv hdr buf rest : Bytes}
    {o : RecvOut p} (h : runBuf (readAead r k iv hdr) buf = .ok o rest) :
    4 ≤ hdr.length ∧ ∃ more plain iv', buf = more ++ rest ∧
      p.adec k iv (hdr.drop 4 ++ more) (hdr.take 4) = some plain ∧ incIv iv = .ok iv' ∧
      finish r (.aead k iv') (beVal (hdr.take 4)) plain (some ⟨r.seq, iv, hdr ++ more⟩) = .ok o := by
  unfold readAead at h
  obtain ⟨hl, h⟩ := runBuf_guard_inv h
  obtain ⟨more, y, rfl, -, h⟩ := runBuf_read_inv h
  cases hd : p.adec k iv (hdr.drop 4 ++ more) (hdr.take 4) with
  | none => simp only [hd] at h; cases h
  | some plain =>
    cases hi : incIv iv with
    | error e => simp only [hd, hi] at h; cases h
    | ok iv' =>
      simp only [hd, hi] at h
      obtain ⟨hf, rfl⟩ := runBuf_liftE_inv h
      rw [← List.append_assoc, List.take_append_drop] at hf
      exact ⟨Nat.le_of_not_lt hl, more, plain, iv', rfl, hd, rfl, hf⟩

/-- classic: a delivery means the blocking test passed and (when a MAC is configured) what follows the packet, cut
to `macLen` bytes, is the MAC of `seq ‖ plaintext packet` — length field included — cut to `macLen` bytes -/
theorem readClassic_ok_inv {p : Prims} {r : Receiver p} {st : p.CSt} {mk : p.MKey} {hdr buf rest : Bytes}
    {o : RecvOut p} (h : runBuf (readClassic r st mk hdr) buf = .ok o rest) (hm : 0 < r.macLen) :
    4 ≤ (p.dec st hdr).2.length ∧
    badBlocking (beVal ((p.dec st hdr).2.take 4)) ((p.dec st hdr).2.drop 4).length r.block = false ∧
    ∃ c1 tag, buf = c1 ++ (tag ++ rest) ∧
      ((c1 ++ tag).length : Int)
        = max (classicSize (beVal ((p.dec st hdr).2.take 4)) r.macLen ((p.dec st hdr).2.drop 4).length) 0 ∧
      c1 = (c1 ++ tag).take (beVal ((p.dec st hdr).2.take 4) - ((p.dec st hdr).2.drop 4).length) ∧
      tag.take r.macLen
        = (p.mac mk (be32 r.seq ++ ((p.dec st hdr).2 ++ (p.dec (p.dec st hdr).1 c1).2))).take r.macLen ∧
      finish r (.classic (p.dec (p.dec st hdr).1 c1).1 mk) (beVal ((p.dec st hdr).2.take 4))
        ((p.dec st hdr).2.drop 4 ++ (p.dec (p.dec st hdr).1 c1).2)
        (some ⟨r.seq, [], (p.dec st hdr).2 ++ (p.dec (p.dec st hdr).1 c1).2⟩) = .ok o := by
  unfold readClassic at h
  simp only at h
  generalize p.dec st hdr = d0 at h ⊢
  obtain ⟨hl, h⟩ := runBuf_guard_inv h
  have h4 : 4 ≤ d0.2.length := Nat.le_of_not_lt hl
  obtain ⟨hbb, h⟩ := runBuf_guard_inv h
  obtain ⟨x, y, rfl, hxl, h⟩ := runBuf_read_inv h
  rw [if_pos hm] at h
  obtain ⟨hc, h⟩ := runBuf_check_inv h
  obtain ⟨hf, rfl⟩ := runBuf_liftE_inv h
  rw [mac_arg_eq _ d0.2 _ h4] at hc
  rw [be32_take4_drop4_append d0.2 _ h4] at hf
  refine ⟨h4, Bool.eq_false_iff.2 hbb, x.take _, x.drop _, ?_, ?_, ?_, ((ctEq_iff _ _).1 hc).symm, hf⟩
  · rw [← List.append_assoc, List.take_append_drop]
  · rw [List.take_append_drop]; omega
  · rw [List.take_append_drop]

/-! ## authenticating configurations produce authentication records -/

/-- the receiver's configuration authenticates every packet -/
def AuthCfg {p : Prims} (c : InC p) (macLen : Nat) : Prop :=
  match c with
  | .plain => False
  | .classic _ _ => 0 < macLen
  | _ => True

/-- the same of the sender's -/
def AuthOut {p : Prims} (c : OutC p) (macLen : Nat) : Prop :=
  match c with
  | .plain => False
  | .classic _ _ => 0 < macLen
  | _ => True

theorem AuthCfg.out {p : Prims} {W : Laws p} {s : Sender p} {r : Receiver p} (hA : AuthCfg r.ciph r.macLen)
    (hp : PairedSt W s r) : AuthOut s.ciph s.macLen := by
  rcases hp.ciph.cases with ⟨_, hrc, _⟩ | ⟨_, _, _, hsc, hrc, _⟩ | ⟨_, _, _, hsc, _⟩ | ⟨_, _, hsc, _⟩
  · rw [hrc] at hA; exact hA.elim
  · rw [hrc] at hA; rw [hsc, hp.macLen]; exact hA
  · rw [hsc]; trivial
  · rw [hsc]; trivial

theorem send_auth {p : Prims} {s : Sender p} {d rnd : Bytes} {o : SendOut p} (hs : sendMessage s d rnd = .ok o)
    (hA : AuthOut s.ciph s.macLen) :
    (∃ nonce x, o.auth = some ⟨s.seq, nonce, x⟩) ∧ AuthOut o.st.ciph o.st.macLen ∧ o.st.seq = nextSeq s.seq := by
  obtain ⟨B, padding, c, hS⟩ := sendMessage_ok hs
  obtain ⟨st, wire, auth⟩ := o
  have hen := hS.enc
  have hst := hS.st
  simp only at hen hst
  subst hst
  cases hsc : s.ciph with
  | plain => rw [hsc] at hA; exact hA.elim
  | classic se mk =>
    rw [hsc] at hA
    rw [encrypt_classic hsc] at hen
    cases hen
    exact ⟨⟨[], _, if_pos hA⟩, hA, rfl⟩
  | etm se mk =>
    rw [encrypt_etm hsc] at hen
    cases hen
    exact ⟨⟨_, _, rfl⟩, trivial, rfl⟩
  | aead k iv =>
    obtain ⟨iv', _, rfl, _, rfl⟩ := encrypt_aead_ok hsc hen
    exact ⟨⟨_, _, rfl⟩, trivial, rfl⟩

theorem recv_auth {p : Prims} {r : Receiver p} {w rest : Bytes} {o : RecvOut p}
    (hr : runBuf (readMessage r) w = .ok o rest) (hA : AuthCfg r.ciph r.macLen) :
    (∃ nonce x, o.auth = some ⟨r.seq, nonce, x⟩) ∧ AuthCfg o.st.ciph o.st.macLen ∧ o.st.seq = nextSeq r.seq := by
  obtain ⟨hdr, y, _, _, hr⟩ := readMessage_ok_inv hr
  cases hrc : r.ciph with
  | plain => rw [hrc] at hA; exact hA.elim
  | etm sd mk =>
    rw [hrc] at hr
    obtain ⟨_, _, _, _, _, _, _, hf⟩ := readEtm_ok_inv hr
    obtain ⟨h1, h2, h3, _⟩ := finish_ok_inv hf
    exact ⟨⟨_, _, h1⟩, by rw [h2]; trivial, h3⟩
  | aead k iv =>
    rw [hrc] at hr
    obtain ⟨_, _, _, _, _, _, _, hf⟩ := readAead_ok_inv hr
    obtain ⟨h1, h2, h3, _⟩ := finish_ok_inv hf
    exact ⟨⟨_, _, h1⟩, by rw [h2]; trivial, h3⟩
  | classic sd mk =>
    rw [hrc] at hr hA
    obtain ⟨_, _, _, _, _, _, _, _, hf⟩ := readClassic_ok_inv hr hA
    obtain ⟨h1, h2, h3, _, _, h6, _⟩ := finish_ok_inv hf
    exact ⟨⟨_, _, h1⟩, by rw [h2, h6]; exact hA, h3⟩

/-! ## same authenticated content ⇒ the receiver consumed exactly the sender's packet -/

theorem take_split_lengths {α : Type} {a b : List α} {k m : Nat} (hl : (a ++ b).length = k + m)
    (ha : a = (a ++ b).take k) : a.length = k ∧ b.length = m := by
  have h := congrArg List.length ha
  rw [List.length_take, hl] at h
  rw [List.length_append] at hl
  omega

theorem consumed_eq_wire {p : Prims} (W : Laws p) (Bj : CipherBij p W.blk W.Paired)
    {s : Sender p} {r : Receiver p} (hp : PairedSt W s r) (hA : AuthCfg r.ciph r.macLen)
    {d rnd : Bytes} {o : SendOut p} (hs : sendMessage s d rnd = .ok o)
    {w rest : Bytes} {o' : RecvOut p} (hr : runBuf (readMessage r) w = .ok o' rest) (hau : o'.auth = o.auth) :
    w = o.wire ++ rest := by
  obtain ⟨B, padding, cc, hS⟩ := sendMessage_ok hs
  obtain ⟨hdr, y, rfl, hhl, hr⟩ := readMessage_ok_inv hr
  obtain ⟨st, wire, auth⟩ := o
  have hen := hS.enc
  simp only at hen hau ⊢
  rcases hp.ciph.cases with ⟨_, hrc, _⟩ | ⟨se, sd, mk, hsc, hrc, hP, hblk, hmac⟩ |
    ⟨se, sd, mk, hsc, hrc, _⟩ | ⟨k, iv, hsc, hrc, _⟩
  · rw [hrc] at hA; exact hA.elim
  · -- classic: the verified record is the decrypted packet; re-encrypting it gives the bytes that were read
    rw [hrc] at hr hA
    obtain ⟨h4, -, c1, tag, rfl, hctl, hc1, htag, hf⟩ := readClassic_ok_inv hr hA
    rw [encrypt_classic hsc, if_pos (hp.macLen ▸ hA)] at hen
    cases hen
    have hcont := (finish_ok_inv hf).1
    rw [hau, Option.some.injEq, Auth.mk.injEq] at hcont
    obtain ⟨-, -, hcont⟩ := hcont
    have hal : (4 + B.length) % r.block = 0 := hp.block ▸ hS.aligned8 (by rw [hsc]; rfl)
    obtain ⟨hge, hc1al, hcs⟩ := classic_sizes r.macLen (hp.block ▸ hp.blk4) hal
    have hblk' : W.blk se = r.block := hp.block ▸ hblk
    have hhal : hdr.length % W.blk se = 0 := by rw [hhl, hblk', Nat.mod_self]
    have hAl : (p.dec sd hdr).2.length = r.block := by
      rw [Bj.dec_len sd hdr (by rw [W.ciph.paired_blk se sd hP]; exact hhal), hhl]
    have hpsz : beVal ((p.dec sd hdr).2.take 4) = B.length := by
      rw [← List.take_append_of_le_length h4, ← hcont, take4_be32_append, beVal_be32 _ hS.size]
    rw [hpsz, List.length_drop, hAl] at hctl hc1
    rw [hcs, Int.max_eq_left (Int.natCast_nonneg _), Int.natCast_inj] at hctl
    obtain ⟨hc1l, htl⟩ := take_split_lengths hctl hc1
    rw [hcont, Bj.enc_dec_two W.ciph hP hhal (by rw [hc1l, hblk']; exact hc1al), hp.seq, hp.macLen, ← htag,
      ← htl, List.take_length]
    simp only [List.append_assoc]
  · rw [hrc] at hr
    obtain ⟨_, more, tag, rfl, _, _, htag, hf⟩ := readEtm_ok_inv hr
    rw [encrypt_etm hsc] at hen
    cases hen
    have hcont := (finish_ok_inv hf).1
    rw [hau, Option.some.injEq, Auth.mk.injEq] at hcont
    rw [hcont.2.2, hp.seq, hp.macLen, ← htag]
    simp only [List.append_assoc]
  · rw [hrc] at hr
    obtain ⟨_, more, _, _, rfl, _, _, hf⟩ := readAead_ok_inv hr
    obtain ⟨_, _, _, rfl, rfl⟩ := encrypt_aead_ok hsc hen
    have hcont := (finish_ok_inv hf).1
    rw [hau, Option.some.injEq, Auth.mk.injEq] at hcont
    rw [hcont.2.2, List.append_assoc]

/-- a switch operation installs an authenticating configuration on the receiver -/
def OpAuth {p : Prims} : Op p → Prop
  | .setCipher _ m _ _ ci => AuthCfg ci m
  | _ => True

/-- **no forgery ⇒ prefix.**  `recvAll` on an arbitrary byte string `w`: if the k-th record the receiver verified
is the k-th record the sender authenticated (for all k), the delivered messages are a prefix of the sent ones,
and if the receiver got through all its reads it delivered exactly the sent ones. -/
theorem prefix_seq {p : Prims} (W : Laws p) (Bj : CipherBij p W.blk W.Paired) (ops : List (Op p)) :
    ∀ (s : Sender p) (r : Receiver p), PairedSt W s r → AuthCfg r.ciph r.macLen →
    (∀ op ∈ ops, OpOk W op ∧ OpAuth op) →
    ∀ s' wire log, sendAll s ops = .ok (s', wire, log) → ∀ w : Bytes,
    (∀ (k : Nat) (e : Auth), (recvAll r ops w).auths[k]? = some e → log[k]? = some e) →
      (recvAll r ops w).msgs <+: msgsOf s.seq ops ∧
      ((recvAll r ops w).stop = none → (recvAll r ops w).msgs = msgsOf s.seq ops) := by
  induction ops with
  | nil =>
    intro s r _ _ _ s' wire log _ w _
    exact ⟨List.prefix_refl _, fun _ => rfl⟩
  | cons op ops ih =>
    intro s r hp hA hok s' wire log hs w hnf
    have hok' : ∀ op ∈ ops, OpOk W op ∧ OpAuth op := fun o ho => hok o (List.mem_cons_of_mem _ ho)
    obtain ⟨hop, hopA⟩ := hok op (List.mem_cons_self ..)
    cases op with
    | msg d rnd =>
      obtain ⟨o, w1, l1, hsm, hsa, rfl, rfl⟩ := sendAll_msg_ok hs
      cases hrun : runBuf (readMessage r) w with
      | err e =>
        simp only [recvAll, hrun]
        exact ⟨List.nil_prefix, fun h => by cases h⟩
      | ok o' rest =>
        obtain ⟨⟨n', x', he'⟩, hA', -⟩ := recv_auth hrun hA
        obtain ⟨⟨n, x, he⟩, -, -⟩ := send_auth hsm (hA.out hp)
        simp only [recvAll, hrun, he', he] at hnf ⊢
        -- position 0 of the hypothesis: this packet's record is the sender's, so it was the sender's packet
        have hau : o'.auth = o.auth := by rw [he', he]; exact (hnf 0 _ rfl).symm
        have hw := consumed_eq_wire W Bj hp hA hsm hrun hau
        obtain ⟨o'', c, body, rfl, hrun', hmsg, -, hp', -⟩ := roundtrip1 W hp hsm rest
        rw [← hw, hrun] at hrun'
        cases hrun'
        obtain ⟨i1, i2⟩ := ih o.st o'.st hp' hA' hok' s' w1 l1 hsa rest (fun k e hk => hnf (k + 1) e hk)
        rw [sendMessage_seq hsm] at i1 i2
        simp only [msgsOf, List.singleton_append, hmsg]
        exact ⟨(List.cons_prefix_cons).2 ⟨rfl, i1⟩, fun h => by rw [i2 h]⟩
    | setCipher b m sd co ci => exact ih _ _ (hp.setCipher hop.1 hop.2 sd) hopA hok' s' wire log hs w hnf
    | setComp zo zi => exact ih _ _ (hp.setComp hop) hA hok' s' wire log hs w hnf
    | resetSeq => exact ih _ _ hp.resetSeq hA hok' s' wire log hs w hnf
    | kexDone => exact ih _ _ hp.kexDone hA hok' s' wire log hs w hnf

end PV.Packet
