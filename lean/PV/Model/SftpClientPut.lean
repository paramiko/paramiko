/-
  The link between the client's write requests and the server's file for one pipelined file `f`:
  requests travel in FIFO order on one channel and the server applies accepted writes in arrival order, so
  "what the server has applied" ++ "what is still unanswered on the wire" = "what the client has issued", with
  consecutive offsets — as long as no write of `f` has been rejected.
-/
import PV.Model.SftpClientInv
namespace PV.SftpClient
open PV

/-- the unanswered write requests of file `f` on the wire, in order: (offset, data) -/
def pend (f : Nat) : List Slot → List (Nat × Bytes)
  | [] => []
  | sl :: rest =>
    match sl.resp, sl.kind with
    | none, .write g off d => if g = f then (off, d) :: pend f rest else pend f rest
    | _, _ => pend f rest

def pdata (l : List (Nat × Bytes)) : Bytes := (l.map (·.2)).flatten

/-- consecutive offsets from `base`, ending at `e` -/
def consecutive (base : Nat) : List (Nat × Bytes) → Nat → Prop
  | [], e => e = base
  | (o, d) :: rest, e => o = base ∧ consecutive (base + d.length) rest e

structure PutInv (f : Nat) (acc : Bytes) (p : Nat) (cl : Bool) (s : St) : Prop where
  lenD : f < s.dest.length
  lenR : f < s.rejTot.length
  lenB : f < s.badSince.length
  pipe : (getFile s f).pipelined = true
  posEq : (getFile s f).pos = p
  clo : (getFile s f).closed = cl
  owned : ∀ sl ∈ s.wire, ∀ g off d, sl.kind = .write g off d → sl.owner.isSome = true
  same : s.rejTot.getD f 0 = s.badSince.getD f 0
  data : s.rejTot.getD f 0 = 0 →
    s.dest.getD f [] ++ pdata (pend f s.wire) = acc ∧ consecutive (s.dest.getD f []).length (pend f s.wire) acc.length

/-! ## list facts -/

theorem pend_append (f : Nat) (a b : List Slot) : pend f (a ++ b) = pend f a ++ pend f b := by
  induction a with
  | nil => rfl
  | cons x xs ih =>
    simp only [List.cons_append, pend]
    split
    · split
      · simp [ih]
      · exact ih
    · exact ih

theorem pend_served (f : Nat) (l : List Slot) (h : ∀ y ∈ l, y.resp ≠ none) : pend f l = [] := by
  induction l with
  | nil => rfl
  | cons x xs ih =>
    simp only [pend]
    have hx := h x (by simp)
    split
    · rename_i hr _; exact absurd hr hx
    · exact ih (fun y hy => h y (List.mem_cons_of_mem _ hy))

theorem pend_cons_served (f : Nat) (x : Slot) (rest : List Slot) (h : x.resp ≠ none) :
    pend f (x :: rest) = pend f rest := by
  simp only [pend]
  split
  · rename_i hr _; exact absurd hr h
  · rfl

theorem pdata_append (a b : List (Nat × Bytes)) : pdata (a ++ b) = pdata a ++ pdata b := by
  simp [pdata]

theorem consecutive_snoc {base e : Nat} {l : List (Nat × Bytes)} (d : Bytes) (h : consecutive base l e) :
    consecutive base (l ++ [(e, d)]) (e + d.length) := by
  induction l generalizing base with
  | nil => simp only [consecutive] at h; subst h; simp [consecutive]
  | cons x xs ih =>
    obtain ⟨o, d'⟩ := x
    simp only [List.cons_append, consecutive] at h ⊢
    exact ⟨h.1, ih h.2⟩

theorem writeAt_end (c d : Bytes) : writeAt c c.length d = c ++ d := by
  unfold writeAt zeros
  simp

/-! ## frame -/

theorem pipelined_setFile {s : St} {g f : Nat} {h : FileSt → FileSt}
    (hh : ∀ x, (h x).pipelined = x.pipelined ∧ (h x).pos = x.pos ∧ (h x).closed = x.closed) :
    (getFile (setFile s g h) f).pipelined = (getFile s f).pipelined ∧ (getFile (setFile s g h) f).pos = (getFile s f).pos ∧
    (getFile (setFile s g h) f).closed = (getFile s f).closed := by
  rcases getFile_setFile s g f h with e | e <;> rw [e]
  · exact ⟨rfl, rfl, rfl⟩
  · exact hh _

theorem putInv_setFile {f : Nat} {acc : Bytes} {p : Nat} {cl : Bool} {s : St} (g : Nat) {h : FileSt → FileSt}
    (hh : ∀ x, (h x).pipelined = x.pipelined ∧ (h x).pos = x.pos ∧ (h x).closed = x.closed)
    (hp : PutInv f acc p cl s) : PutInv f acc p cl (setFile s g h) :=
  have h5 := pipelined_setFile (s := s) (g := g) (f := f) hh
  { hp with pipe := h5.1 ▸ hp.pipe, posEq := h5.2.1 ▸ hp.posEq, clo := h5.2.2 ▸ hp.clo }

/-! ## the server step -/

theorem putInv_serve_at {f : Nat} {acc : Bytes} {p : Nat} {cl : Bool} {s : St} {pre post : List Slot} {x : Slot}
    (hp : PutInv f acc p cl s) (hw : s.wire = pre ++ x :: post) (hpre : ∀ y ∈ pre, y.resp ≠ none) (hx : x.resp = none) :
    PutInv f acc p cl { (serveSlot s x).2 with wire := pre ++ (serveSlot s x).1 :: post } := by
  have hxmem : x ∈ s.wire := by rw [hw]; simp
  have hpend_new : ∀ c, pend f (pre ++ { x with resp := some c } :: post) = pend f post := by
    intro c
    rw [pend_append, pend_served f pre hpre, pend_cons_served f _ post (by simp)]; rfl
  have hpend_old : pend f s.wire = pend f (x :: post) := by
    rw [hw, pend_append, pend_served f pre hpre]; rfl
  have howned : ∀ c, ∀ sl ∈ pre ++ { x with resp := some c } :: post, ∀ g off d,
      sl.kind = .write g off d → sl.owner.isSome = true := by
    intro c sl hsl g off d hkd
    rw [List.mem_append, List.mem_cons] at hsl
    rcases hsl with h | h | h
    · exact hp.owned sl (by rw [hw]; simp [h]) g off d hkd
    · rw [h] at hkd ⊢; exact hp.owned x hxmem g off d hkd
    · exact hp.owned sl (by rw [hw]; simp [h]) g off d hkd
  -- a request that is not a write of `f` leaves the pending data alone
  have hskip : (∀ off d, x.kind ≠ .write f off d) → pend f (x :: post) = pend f post := by
    intro hk
    simp only [pend, hx]
    split
    · rename_i g off d _ hkd
      split
      · rename_i hgf; exact absurd (hgf ▸ hkd) (hk off d)
      · rfl
    · rfl
  -- requests other than writes touch at most the server's own counter
  have hother : ∀ c ns, serveSlot s x = ({ x with resp := some c }, { s with ns := ns }) →
      (∀ off d, x.kind ≠ .write f off d) →
      PutInv f acc p cl { (serveSlot s x).2 with wire := pre ++ (serveSlot s x).1 :: post } := by
    intro c ns hst hk
    rw [hst]
    refine { hp with owned := howned _, data := fun hz => ?_ }
    have := hp.data hz
    rw [hpend_old, hskip hk] at this
    dsimp only
    rwa [hpend_new]
  cases hkind : x.kind with
  | write g off d =>
    have hxo : x.owner.isSome = true := hp.owned x hxmem g off d hkind
    by_cases hcode : s.wfaults.getD s.nw 0 = 0
    · -- accepted
      have hst : serveSlot s x = ({ x with resp := some 0 },
          { s with nw := s.nw + 1, dest := s.dest.modify g (fun c => writeAt c off d) }) := by
        unfold serveSlot; simp only [hkind, hcode, if_true]
      rw [hst]
      refine { hp with lenD := by simp [hp.lenD], owned := howned 0, data := fun hz => ?_ }
      dsimp only
      rw [hpend_new]
      obtain ⟨d1, d2⟩ := hp.data hz
      rw [hpend_old] at d1 d2
      by_cases hgf : g = f
      · subst hgf
        have hpx : pend g (x :: post) = (off, d) :: pend g post := by
          simp only [pend, hx, hkind, if_true]
        rw [hpx] at d1 d2
        simp only [consecutive] at d2
        rw [getD_modify_self _ hp.lenD, d2.1, writeAt_end]
        constructor
        · rw [← d1]; simp [pdata, List.append_assoc]
        · rw [List.length_append]; exact d2.2
      · rw [hskip (fun off' d' hc => hgf (by rw [hkind] at hc; cases hc; rfl))] at d1 d2
        rw [getD_modify_ne _ hgf]
        exact ⟨d1, d2⟩
    · -- rejected
      have hst : serveSlot s x = ({ x with resp := some (s.wfaults.getD s.nw 0) },
          { s with nw := s.nw + 1, rejTot := bump s.rejTot g, badSince := bump s.badSince g }) := by
        unfold serveSlot; simp only [hkind, hcode, if_false, bumpIf, hxo, if_true]
      rw [hst]
      refine { hp with lenR := by simp [bump, hp.lenR], lenB := by simp [bump, hp.lenB], owned := howned _,
                       same := ?_, data := fun hz => ?_ }
      · show (bump s.rejTot g).getD f 0 = (bump s.badSince g).getD f 0
        unfold bump
        by_cases hgf : g = f
        · subst hgf
          rw [getD_modify_self _ hp.lenR, getD_modify_self _ hp.lenB, hp.same]
        · rw [getD_modify_ne _ hgf, getD_modify_ne _ hgf]; exact hp.same
      · replace hz : (bump s.rejTot g).getD f 0 = 0 := hz
        dsimp only
        rw [hpend_new]
        unfold bump at hz
        by_cases hgf : g = f
        · subst hgf
          rw [getD_modify_self _ hp.lenR] at hz
          omega
        · rw [getD_modify_ne _ hgf] at hz
          have := hp.data hz
          rwa [hpend_old, hskip (fun off' d' hc => hgf (by rw [hkind] at hc; cases hc; rfl))] at this
  | sync =>
    exact hother (s.sfaults.getD s.ns 0) (s.ns + 1) (by unfold serveSlot; simp only [hkind])
      (fun off d hc => by rw [hkind] at hc; cases hc)
  | close g =>
    exact hother 0 s.ns (by unfold serveSlot; simp only [hkind]) (fun off d hc => by rw [hkind] at hc; cases hc)

theorem putInv_serveOne {f : Nat} {acc : Bytes} {p : Nat} {cl : Bool} {s s' : St} (hp : PutInv f acc p cl s)
    (h : serveOne s = some s') : PutInv f acc p cl s' := by
  obtain ⟨pre, sl, post, h1, h2, h3, rfl⟩ := serveOne_spec h
  exact putInv_serve_at hp h1 h2 h3

theorem putInv_serveMany {f : Nat} {acc : Bytes} {p : Nat} {cl : Bool} (k : Nat) {s : St} (hp : PutInv f acc p cl s) :
    PutInv f acc p cl (serveMany k s) :=
  serveMany_induction (fun _ _ h hs => putInv_serveOne h hs) k hp

theorem putInv_pop {f : Nat} {acc : Bytes} {p : Nat} {cl : Bool} {s : St} {x : Slot} {rest : List Slot}
    (hp : PutInv f acc p cl s) (hw : s.wire = x :: rest) (hx : x.resp ≠ none) : PutInv f acc p cl { s with wire := rest } := by
  refine { hp with owned := fun sl hsl => hp.owned sl (by rw [hw]; exact List.mem_cons_of_mem _ hsl),
                   data := fun hz => ?_ }
  have := hp.data hz
  rwa [hw, pend_cons_served f x rest hx] at this

theorem putInv_recvOne {f : Nat} {acc : Bytes} {p : Nat} {cl : Bool} {s s1 : St} {sl : Slot} {c : Nat} (hp : PutInv f acc p cl s)
    (h : recvOne s = some (sl, c, s1)) : PutInv f acc p cl s1 := by
  obtain ⟨x, rest, hw, ⟨hr, rfl, rfl⟩ | ⟨hr, rfl, rfl, rfl⟩⟩ := recvOne_some h
  · exact putInv_pop hp hw (by rw [hr]; simp)
  · have h1 := putInv_serve_at (pre := []) hp hw (by simp) hr
    have hresp : (serveSlot s x).1.resp ≠ none := by
      obtain ⟨c', _, _, _, _, _, heq, -⟩ := serveSlot_eq s x
      rw [heq]; simp
    exact putInv_pop (s := { (serveSlot s x).2 with wire := [] ++ (serveSlot s x).1 :: rest }) h1 rfl hresp

theorem putInv_asyncResponse {f : Nat} {acc : Bytes} {p : Nat} {cl : Bool} {s : St} (g num c : Nat) (hp : PutInv f acc p cl s) :
    PutInv f acc p cl (asyncResponse s g num c) :=
  putInv_setFile g (fun _ => ⟨rfl, rfl, rfl⟩) hp

theorem putInv_expDel {f : Nat} {acc : Bytes} {p : Nat} {cl : Bool} {s : St} (num : Nat) (hp : PutInv f acc p cl s) :
    PutInv f acc p cl (expDel s num) :=
  { hp with }

theorem putInv_readResponse {f : Nat} {acc : Bytes} {p : Nat} {cl : Bool} : ∀ (fuel : Nat) (s : St) (wf : Option Nat),
    PutInv f acc p cl s → PutInv f acc p cl (readResponse fuel s wf).1 := by
  intro fuel
  induction fuel with
  | zero => intro s wf hp; exact hp
  | succ fuel ih =>
    intro s wf hp
    -- every exit of the loop body: done, or once more with the same `waitfor`
    have tail : ∀ s', PutInv f acc p cl s' →
        PutInv f acc p cl (match wf with | none => (s', Res.ok) | some _ => readResponse fuel s' wf).1 := by
      intro s' h
      cases wf with
      | none => exact h
      | some n => exact ih s' (some n) h
    unfold readResponse
    cases hr : recvOne s with
    | none => exact hp
    | some q =>
      obtain ⟨sl, c, s1⟩ := q
      simp only
      have h1 := putInv_recvOne hp hr
      cases ho : expOwner s1 sl.num with
      | none => exact tail s1 h1
      | some owner =>
        simp only
        have h2 := putInv_expDel sl.num h1
        split
        · exact h2
        · cases owner with
          | none => exact tail _ h2
          | some g => exact tail _ (putInv_asyncResponse g sl.num c h2)

/-- sending a request that is not a write of `f` -/
theorem putInv_asyncRequest_other {f : Nat} {acc : Bytes} {p : Nat} {cl : Bool} {s : St} (owner : Option Nat) (kind : Kind)
    (hk : ∀ g off d, kind ≠ .write g off d) (hp : PutInv f acc p cl s) : PutInv f acc p cl (asyncRequest s owner kind).1 := by
  have hpend : pend f (s.wire ++ [⟨s.nextNum, owner, kind, none⟩]) = pend f s.wire := by
    rw [pend_append]
    have : pend f [⟨s.nextNum, owner, kind, none⟩] = [] := by
      simp only [pend]
      cases kind with
      | write g off d => exact absurd rfl (hk g off d)
      | sync => rfl
      | close g => rfl
    rw [this]; simp
  refine { hp with owned := ?_, data := ?_ }
  · intro sl hsl g off d hkd
    rcases List.mem_append.mp hsl with h | h
    · exact hp.owned sl h g off d hkd
    · rw [List.mem_singleton.mp h] at hkd; exact absurd hkd (hk g off d)
  · intro hz
    simp only [asyncRequest]
    rw [hpend]; exact hp.data hz

/-- sending the next pipelined write of `f` at the current position -/
theorem putInv_asyncRequest_write {f : Nat} {acc : Bytes} {cl : Bool} {s : St} (d : Bytes)
    (hp : PutInv f acc acc.length cl s) :
    PutInv f (acc ++ d) acc.length cl (asyncRequest s (some f) (.write f acc.length d)).1 := by
  have hpend : pend f (s.wire ++ [⟨s.nextNum, some f, .write f acc.length d, none⟩]) = pend f s.wire ++ [(acc.length, d)] := by
    rw [pend_append]
    simp [pend]
  refine { hp with owned := ?_, data := ?_ }
  · intro sl hsl g off d' hkd
    rcases List.mem_append.mp hsl with h | h
    · exact hp.owned sl h g off d' hkd
    · rw [List.mem_singleton.mp h]; rfl
  · intro hz
    simp only [asyncRequest]
    rw [hpend]
    obtain ⟨d1, d2⟩ := hp.data hz
    constructor
    · rw [pdata_append, ← List.append_assoc, d1]; simp [pdata]
    · rw [List.length_append]; exact consecutive_snoc d d2

theorem putInv_request {f : Nat} {acc : Bytes} {p : Nat} {cl : Bool} {s : St} (kind : Kind)
    (hk : ∀ g off d, kind ≠ .write g off d) (hp : PutInv f acc p cl s) : PutInv f acc p cl (request s kind).1 := by
  unfold request
  exact putInv_readResponse _ _ _ (putInv_asyncRequest_other none kind hk hp)

theorem putInv_checkException {f : Nat} {acc : Bytes} {p : Nat} {cl : Bool} {s : St} (g : Nat) (hp : PutInv f acc p cl s) :
    PutInv f acc p cl (checkException s g).1 := by
  unfold checkException
  split
  · exact hp
  · exact putInv_setFile g (fun _ => ⟨rfl, rfl, rfl⟩) hp

theorem putInv_finishResponses {f : Nat} {acc : Bytes} {p : Nat} {cl : Bool} : ∀ (fuel : Nat) (s : St) (g : Nat),
    PutInv f acc p cl s → PutInv f acc p cl (finishResponses fuel s g).1 := by
  intro fuel
  induction fuel with
  | zero => intro s g hp; exact hp
  | succ fuel ih =>
    intro s g hp
    unfold finishResponses
    split
    · have h1 := putInv_readResponse (f := f) (acc := acc) (p := p) 1 s none hp
      generalize readResponse 1 s none = rr at h1
      obtain ⟨s1, r1⟩ := rr
      cases r1 with
      | ok =>
        simp only
        have h2 := putInv_checkException g h1
        generalize checkException s1 g = cc at h2
        obtain ⟨s2, r2⟩ := cc
        cases r2 with
        | ok => exact ih s2 g h2
        | raised c => exact h2
        | hang => exact h2
      | raised c => exact h1
      | hang => exact h1
    · exact hp

theorem putInv_drainCheck {f : Nat} {acc : Bytes} {p : Nat} {cl : Bool} {s : St} (g : Nat) (hp : PutInv f acc p cl s) :
    PutInv f acc p cl (drainCheck s g).1 := by
  unfold drainCheck
  have h1 := putInv_finishResponses (f := f) (acc := acc) (p := p) (fuelOf s) s g hp
  generalize finishResponses (fuelOf s) s g = rr at h1
  obtain ⟨a, r⟩ := rr
  cases r with
  | ok => exact putInv_checkException g h1
  | raised c => exact h1
  | hang => exact h1


/-! ## writes, close, whole transfer -/

theorem putInv_writeChunk {f : Nat} {acc : Bytes} {s : St} (chunk : Bytes) (hp : PutInv f acc acc.length false s) :
    PutInv f (acc ++ chunk) acc.length false (writeChunk s f chunk).1 := by
  unfold writeChunk
  simp only [hp.pipe, Bool.not_true, Bool.false_eq_true, if_false, hp.posEq]
  have h1 := putInv_asyncRequest_write chunk hp
  have h2 : PutInv f (acc ++ chunk) acc.length false
      (setFile (asyncRequest s (some f) (.write f acc.length chunk)).1 f
        (fun x => { x with reqs := x.reqs ++ [(asyncRequest s (some f) (.write f acc.length chunk)).2] })) :=
    putInv_setFile f (fun _ => ⟨rfl, rfl, rfl⟩) h1
  split
  · exact putInv_finishResponses _ _ _ h2
  · exact h2

theorem putInv_setPos {f : Nat} {acc : Bytes} {p : Nat} {cl : Bool} {s : St} (n : Nat) (hp : PutInv f acc p cl s)
    (hf : f < s.files.length) : PutInv f acc (p + n) cl (setFile s f (fun x => { x with pos := x.pos + n })) := by
  have hg : getFile (setFile s f (fun x => { x with pos := x.pos + n })) f =
      { getFile s f with pos := (getFile s f).pos + n } := getFile_setFile_self hf
  exact { hp with pipe := hg ▸ hp.pipe, posEq := hg ▸ congrArg (· + n) hp.posEq, clo := hg ▸ hp.clo }

theorem putInv_writeAll {f : Nat} : ∀ (fuel : Nat) (s : St) (data acc : Bytes), Good none none s →
    f < s.files.length → PutInv f acc acc.length false s → 0 < s.maxReq → data.length < fuel →
    (writeAll fuel s f data).2 = .ok →
    PutInv f (acc ++ data) (acc ++ data).length false (writeAll fuel s f data).1 := by
  intro fuel
  induction fuel with
  | zero => intro s data acc _ _ _ _ h; omega
  | succ fuel ih =>
    intro s data acc hg hf hp hm hlen hok
    unfold writeAll at hok ⊢
    by_cases he : data.isEmpty = true
    · simp only [he, if_true]
      have : data = [] := List.isEmpty_iff.mp he
      subst this
      simpa using hp
    · simp only [he, Bool.false_eq_true, if_false] at hok ⊢
      have hne : data ≠ [] := by intro hc; subst hc; simp at he
      have hdl : 0 < data.length := List.length_pos_iff.mpr hne
      have hn : 0 < min data.length s.maxReq := by omega
      obtain ⟨a, b, c, d, e⟩ := writeChunk_good (data.take (min data.length s.maxReq)) hg hf
      have hpc := putInv_writeChunk (data.take (min data.length s.maxReq)) hp
      generalize hcc : writeChunk s f (data.take (min data.length s.maxReq)) = cc at a b c d e hpc hok
      obtain ⟨s1, r⟩ := cc
      simp only at a b c d e hpc hok ⊢
      cases r with
      | hang => exact absurd rfl a
      | raised code => simp at hok
      | ok =>
        simp only at hok ⊢
        have hg1 := b rfl
        have hf1 : f < s1.files.length := by rw [d]; exact hf
        have htl : (data.take (min data.length s.maxReq)).length = min data.length s.maxReq := by
          rw [List.length_take]; omega
        have hp2 := putInv_setPos (min data.length s.maxReq) hpc hf1
        have hlen2 : acc.length + min data.length s.maxReq = (acc ++ data.take (min data.length s.maxReq)).length := by
          rw [List.length_append, htl]
        rw [hlen2] at hp2
        have hg2 : Good none none (setFile s1 f (fun x => { x with pos := x.pos + min data.length s.maxReq })) :=
          good_setFile f _ (fun x => ⟨rfl, rfl⟩) hg1
        have := ih _ (data.drop (min data.length s.maxReq)) _ hg2
          (by rw [files_setFile_length]; exact hf1) hp2 (by show 0 < s1.maxReq; rw [e]; exact hm)
          (by rw [List.length_drop]; omega) hok
        rw [List.append_assoc, List.take_append_drop] at this
        exact this

theorem putInv_closeFile {f : Nat} {acc : Bytes} {p : Nat} {s : St} (hp : PutInv f acc p false s)
    (hf : f < s.files.length) : PutInv f acc p true (closeFile s f).1 := by
  rw [closeFile_open hp.clo]
  have hg : getFile (setFile s f (fun x => { x with closed := true })) f = { getFile s f with closed := true } :=
    getFile_setFile_self hf
  have h0 : PutInv f acc p true (setFile s f (fun x => { x with closed := true })) :=
    { hp with pipe := hg ▸ hp.pipe, posEq := hg ▸ hp.posEq, clo := hg ▸ rfl }
  have h1 : PutInv f acc p true (closePhase s f).1 := by
    unfold closePhase
    split
    · exact putInv_drainCheck f h0
    · exact putInv_checkException f h0
  have h2 := putInv_request (.close f) (by intro g off d hc; cases hc) h1
  split
  · exact h1
  · split <;> exact h2

/-- the operations `putfo` performs between `set_pipelined(True)` and `close()`: writes of the chunks it read, in
    order; the server may run at any time -/
def PutOp (f : Nat) : Op → Prop
  | .write g _ => g = f
  | .serve _ => True
  | _ => False

def written : List Op → Bytes
  | [] => []
  | .write _ d :: rest => d ++ written rest
  | _ :: rest => written rest

theorem putOp_opOK {f n : Nat} {op : Op} (hf : f < n) (h : PutOp f op) : OpOK n op := by
  cases op with
  | write g d => simp only [PutOp] at h; subst h; exact hf
  | serve k => trivial
  | sync => cases h
  | close g => cases h
  | setPipelined g b => cases h
  | deliver k => cases h

theorem body_run {f : Nat} : ∀ (body : List Op) (s : St) (acc : Bytes), Good none none s → f < s.files.length →
    0 < s.maxReq → PutInv f acc acc.length false s → (∀ op ∈ body, PutOp f op) →
    (∀ r ∈ (runOps s body).2, r = .ok) →
    Good none none (runOps s body).1 ∧ f < (runOps s body).1.files.length ∧
    PutInv f (acc ++ written body) (acc ++ written body).length false (runOps s body).1 := by
  intro body
  induction body with
  | nil => intro s acc hg hf _ hp _ _; simp only [runOps, written, List.append_nil]; exact ⟨hg, hf, hp⟩
  | cons op body ih =>
    intro s acc hg hf hm hp hops hres
    have hop := hops op (List.mem_cons_self ..)
    obtain ⟨_, g1, g2, g3⟩ := stepOp_good hg (putOp_opOK hf hop)
    simp only [runOps] at hres ⊢
    have hr0 : (stepOp s op).2 = .ok := hres _ (List.mem_cons_self ..)
    have hrest : ∀ r ∈ (runOps (stepOp s op).1 body).2, r = .ok :=
      fun r hr => hres r (List.mem_cons_of_mem _ hr)
    cases op with
    | write g d =>
      simp only [PutOp] at hop
      subst hop
      simp only [written]
      have hstep : PutInv g (acc ++ d) (acc ++ d).length false (stepOp s (.write g d)).1 := by
        simp only [stepOp, hp.clo, Bool.false_eq_true, if_false] at hr0 ⊢
        have hw := putInv_writeAll (d.length + 1) s d acc hg hf hp hm (Nat.lt_succ_self _) hr0
        rw [hr0]
        exact hw
      have := ih _ (acc ++ d) g1 (by rw [g2]; exact hf) (by rw [g3]; exact hm) hstep
        (fun o ho => hops o (List.mem_cons_of_mem _ ho)) hrest
      rw [List.append_assoc] at this
      exact this
    | serve k =>
      simp only [written]
      have hstep : PutInv f acc acc.length false (stepOp s (.serve k)).1 := putInv_serveMany k hp
      exact ih _ acc g1 (by rw [g2]; exact hf) (by rw [g3]; exact hm) hstep
        (fun o ho => hops o (List.mem_cons_of_mem _ ho)) hrest
    | sync => cases hop
    | close g => cases hop
    | setPipelined g b => cases hop
    | deliver k => cases hop

theorem pend_nil_of {f : Nat} {w : List Slot} (h : ∀ sl ∈ w, ∀ off d, sl.kind ≠ .write f off d) : pend f w = [] := by
  induction w with
  | nil => rfl
  | cons x xs ih =>
    simp only [pend]
    have hx := h x (by simp)
    have hxs := ih (fun sl hsl => h sl (List.mem_cons_of_mem _ hsl))
    split
    · rename_i g off d _ hk
      split
      · rename_i hgf; subst hgf; exact absurd hk (hx off d)
      · exact hxs
    · exact hxs

theorem putInv_start (maxReq nfiles : Nat) (wfaults sfaults : List Nat) {f : Nat} (hf : f < nfiles) :
    PutInv f [] 0 false (setFile (init maxReq nfiles wfaults sfaults) f (fun x => { x with pipelined := true })) := by
  have hlen0 : (init maxReq nfiles wfaults sfaults).files.length = nfiles := by simp [init]
  have hgf : getFile (setFile (init maxReq nfiles wfaults sfaults) f (fun x => { x with pipelined := true })) f
      = { getFile (init maxReq nfiles wfaults sfaults) f with pipelined := true } :=
    getFile_setFile_self (by rw [hlen0]; exact hf)
  have hnew : getFile (init maxReq nfiles wfaults sfaults) f = newFile := by
    simp [getFile, init, List.getD_eq_getElem?_getD, hf]
  refine ⟨by simp [setFile, init, hf], by simp [setFile, init, hf], by simp [setFile, init, hf], ?_, ?_, ?_, ?_, ?_, ?_⟩
  · rw [hgf]
  · rw [hgf, hnew]; rfl
  · rw [hgf, hnew]; rfl
  · intro sl hsl; simp [setFile, init] at hsl
  · simp [setFile, init]
  · intro _
    simp [setFile, init, pend, pdata, consecutive, List.getD_eq_getElem?_getD, hf]

/-- between calls, with no write of `f` rejected and none left on the wire, the server's file is what was issued -/
theorem putInv_dest {f : Nat} {acc : Bytes} {p : Nat} {cl : Bool} {s : St} (hp : PutInv f acc p cl s)
    (hg : Good none none s) (hbad : s.badSince.getD f 0 = 0) (hnone : ∀ sl ∈ s.wire, sl.owner ≠ some f) :
    s.dest.getD f [] = acc := by
  obtain ⟨d1, _⟩ := hp.data (hp.same.trans hbad)
  have hpend : pend f s.wire = [] := by
    refine pend_nil_of fun sl hsl off d hk => ?_
    -- between calls a write on the wire belongs to the file it writes
    have hown := hg.own sl hsl
    unfold OwnOK at hown
    cases ho : sl.owner with
    | none => rw [ho] at hown; cases hown
    | some g =>
      rw [ho] at hown
      obtain ⟨_, off', d', hk'⟩ := hown
      rw [hk] at hk'
      cases hk'
      exact hnone sl hsl ho
  rw [hpend] at d1
  simpa [pdata] using d1

end PV.SftpClient
