/-
  Liveness side of the prefetch model: the bookkeeping invariant ("every registered extent and every request a
  waiting party depends on is still in flight"), deadlock freedom for a reader that waits for a response, and the
  progress measure of the non-reader tasks.
-/
import PV.Model.PrefetchInv
namespace PV.Prefetch
open PV

def dispNum : Pc → Option Nat
  | .dispPf _ n _ => some n
  | .dispSync _ _ n _ => some n
  | _ => none

def syncNum : Pc → Option Nat
  | .recvSync _ n => some n
  | .dispSync _ n _ _ => some n
  | _ => none

def InQ (c2s : List Nat) (s2c : List (Nat × Resp)) (n : Nat) : Prop := n ∈ c2s ∨ n ∈ s2c.map (·.1)
def InFlight (c2s : List Nat) (s2c : List (Nat × Resp)) (pc : Pc) (n : Nat) : Prop :=
  InQ c2s s2c n ∨ dispNum pc = some n

def PfOwned (info : List Info) (n i : Nat) : Prop := ∃ o l, info[n]? = some ⟨o, l, .pf i⟩
def SyncOwned (info : List Info) (n : Nat) : Prop := ∃ o l, info[n]? = some ⟨o, l, .sync⟩

def ThrLive (info : List Info) (ext : List (Nat × Chunk)) (c2s : List Nat) (s2c : List (Nat × Resp)) (pc : Pc)
    (i : Nat) : TSt → Prop
  | .idle _ => True
  | .checked cs => cs ≠ []
  | .allocd n _ _ _ => PfOwned info n i ∧ dictHas ext n = false
  | .sent n _ _ _ => PfOwned info n i ∧ dictHas ext n = false ∧ InFlight c2s s2c pc n

/-- The liveness invariant over the fields it reads.  `thrs`, `exts`: every number a thread has sent and every
    registered extent is in flight (in a queue, or in the reader's hands while it dispatches).  `doneW`: while
    prefetching there is a thread, and as long as `_prefetch_done` is unset some thread has work or an extent is
    registered.  The last three speak of the reader's program counter: it waits for a prefetch answer only while
    prefetching and not done (`recvW`); its own request, once sent, is in a queue (`syncW`); the number it holds
    between allocating and sending is its own (`heldW`). -/
structure LiveF (info : List Info) (c2s : List Nat) (s2c : List (Nat × Resp)) (threads : List Thread)
    (ext : List (Nat × Chunk)) (done : Bool) (pc : Pc) (pf : Bool) : Prop where
  thrs : ∀ i t, threads[i]? = some t → ThrLive info ext c2s s2c pc i t.st ∧ t.cap ≠ some 0
  exts : ∀ e ∈ ext, (∃ j, PfOwned info e.1 j) ∧ InFlight c2s s2c pc e.1
  c2sB : ∀ n ∈ c2s, n < info.length
  doneW : (pf = true → threads ≠ []) ∧ (done = false → threads ≠ [] → (∃ t ∈ threads, t.st ≠ .idle []) ∨ ext ≠ [])
  recvW : ∀ c, pc = .recvPf c → done = false ∧ pf = true
  syncW : ∀ n, syncNum pc = some n → SyncOwned info n ∧ InQ c2s s2c n
  heldW : ∀ c n, pc = .sendSync c n → SyncOwned info n

def Live (s : St) : Prop := LiveF s.info s.c2s s.s2c s.threads s.extents s.done s.pc s.prefetching

theorem get_set {α : Type} {l : List α} {i j : Nat} {a t : α} (h : (l.set i a)[j]? = some t) :
    (j = i ∧ t = a) ∨ (j ≠ i ∧ l[j]? = some t) := by
  rw [List.getElem?_set] at h
  split at h
  · rename_i hij
    split at h
    · exact .inl ⟨hij.symm, (Option.some.inj h).symm⟩
    · cases h
  · rename_i hij
    exact .inr ⟨fun hc => hij hc.symm, h⟩

theorem forall_set {α : Type} {l : List α} {i : Nat} {new : α} {P Q : Nat → α → Prop}
    (h : ∀ j t, l[j]? = some t → P j t) (hnew : Q i new) (hother : ∀ j t, j ≠ i → P j t → Q j t) :
    ∀ j t, (l.set i new)[j]? = some t → Q j t := by
  intro j t ht
  rcases get_set ht with ⟨rfl, rfl⟩ | ⟨hj, ht'⟩
  · exact hnew
  · exact hother j t hj (h j t ht')

theorem thrLive_transfer {info info' : List Info} {ext ext' : List (Nat × Chunk)} {c2s c2s' : List Nat}
    {s2c s2c' : List (Nat × Resp)} {pc pc' : Pc} {i : Nat} {st : TSt}
    (h : ThrLive info ext c2s s2c pc i st)
    (hinfo : ∀ n, PfOwned info n i → PfOwned info' n i)
    (hext : ∀ n, PfOwned info n i → dictHas ext n = false → dictHas ext' n = false)
    (hfl : ∀ n, PfOwned info n i → dictHas ext n = false → InFlight c2s s2c pc n → InFlight c2s' s2c' pc' n) :
    ThrLive info' ext' c2s' s2c' pc' i st := by
  cases st with
  | idle c => trivial
  | checked c => exact h
  | allocd n o l r => exact ⟨hinfo n h.1, hext n h.1 h.2⟩
  | sent n o l r => exact ⟨hinfo n h.1, hext n h.1 h.2.1, hfl n h.1 h.2.1 h.2.2⟩

theorem pfOwned_append {info : List Info} {n i : Nat} (h : PfOwned info n i) (m : List Info) :
    PfOwned (info ++ m) n i := by
  obtain ⟨o, l, hh⟩ := h; exact ⟨o, l, getElem?_append_some hh m⟩

theorem syncOwned_append {info : List Info} {n : Nat} (h : SyncOwned info n) (m : List Info) :
    SyncOwned (info ++ m) n := by
  obtain ⟨o, l, hh⟩ := h; exact ⟨o, l, getElem?_append_some hh m⟩

theorem pfOwned_lt {info : List Info} {n i : Nat} (h : PfOwned info n i) : n < info.length := by
  obtain ⟨o, l, hh⟩ := h; exact (List.getElem?_eq_some_iff.mp hh).1

theorem pfOwned_inj {info : List Info} {n i j : Nat} (h1 : PfOwned info n i) (h2 : PfOwned info n j) : i = j := by
  obtain ⟨o, l, a⟩ := h1
  obtain ⟨o', l', b⟩ := h2
  rw [a] at b
  simp at b
  exact b.2.2

theorem pf_not_sync {info : List Info} {n i : Nat} (h1 : PfOwned info n i) (h2 : SyncOwned info n) : False := by
  obtain ⟨o, l, a⟩ := h1
  obtain ⟨o', l', b⟩ := h2
  rw [a] at b
  simp at b


theorem inQ_pop {c2s : List Nat} {n' : Nat} {r : Resp} {rest : List (Nat × Resp)} {m : Nat}
    (h : InQ c2s ((n', r) :: rest) m) (hne : m ≠ n') : InQ c2s rest m := by
  rcases h with h | h
  · exact Or.inl h
  · right
    simp only [List.map_cons, List.mem_cons] at h
    exact h.resolve_left hne

theorem inQ_send {c2s : List Nat} {s2c : List (Nat × Resp)} {n : Nat} (num : Nat) (h : InQ c2s s2c n) :
    InQ (c2s ++ [num]) s2c n :=
  h.imp (List.mem_append_left _) id

theorem inQ_reply {num : Nat} {rest : List Nat} {s2c : List (Nat × Resp)} {n : Nat} (r : Resp)
    (h : InQ (num :: rest) s2c n) : InQ rest (s2c ++ [(num, r)]) n := by
  rcases h with h | h
  · rcases List.mem_cons.mp h with h1 | h1
    · right; subst h1; simp
    · left; exact h1
  · right; simp only [List.map_append, List.mem_append]; left; exact h

theorem inFlight_mono {c2s c2s' : List Nat} {s2c s2c' : List (Nat × Resp)} {pc : Pc} {n : Nat}
    (hq : InQ c2s s2c n → InQ c2s' s2c' n) (h : InFlight c2s s2c pc n) : InFlight c2s' s2c' pc n :=
  h.imp hq id

/-! ## with and without the reader's program counter -/

/-- queue-level invariant: `LiveF` for an idle reader, whose three pc-clauses say nothing -/
abbrev LiveQ (info : List Info) (c2s : List Nat) (s2c : List (Nat × Resp)) (threads : List Thread)
    (ext : List (Nat × Chunk)) (done : Bool) (pf : Bool) : Prop :=
  LiveF info c2s s2c threads ext done .idle pf

theorem inFlight_idle {c2s : List Nat} {s2c : List (Nat × Resp)} {n : Nat} (h : InFlight c2s s2c .idle n) :
    InQ c2s s2c n :=
  h.resolve_right nofun

/-- `thrs` and `exts` read the queues and the program counter only through `InFlight`, at numbers a prefetch
    thread owns; the request table may have grown -/
theorem flight_mono {info info' : List Info} {c2s c2s' : List Nat} {s2c s2c' : List (Nat × Resp)}
    {threads : List Thread} {ext : List (Nat × Chunk)} {pc pc' : Pc}
    (hinfo : ∀ n j, PfOwned info n j → PfOwned info' n j)
    (hthr : ∀ i t, threads[i]? = some t → ThrLive info ext c2s s2c pc i t.st ∧ t.cap ≠ some 0)
    (hext : ∀ e ∈ ext, (∃ j, PfOwned info e.1 j) ∧ InFlight c2s s2c pc e.1)
    (hf : ∀ n j, PfOwned info n j → InFlight c2s s2c pc n → InFlight c2s' s2c' pc' n) :
    (∀ i t, threads[i]? = some t → ThrLive info' ext c2s' s2c' pc' i t.st ∧ t.cap ≠ some 0) ∧
    (∀ e ∈ ext, (∃ j, PfOwned info' e.1 j) ∧ InFlight c2s' s2c' pc' e.1) := by
  constructor
  · intro i t ht
    obtain ⟨a, b⟩ := hthr i t ht
    exact ⟨thrLive_transfer a (fun n x => hinfo n i x) (fun _ _ x => x) (fun n hn _ x => hf n i hn x), b⟩
  · intro e he
    obtain ⟨⟨j, a⟩, b⟩ := hext e he
    exact ⟨⟨j, hinfo _ j a⟩, hf _ j a b⟩

/-- Changing the reader's program counter: `thrs` and `exts` only gain from a dispatch in progress, the three
    pc-clauses are asked of the new counter. -/
theorem LiveF.repc {info c2s s2c threads ext done pf} {pc pc' : Pc}
    (hl : LiveF info c2s s2c threads ext done pc pf) (hd : ∀ n, dispNum pc = some n → dispNum pc' = some n)
    (hr : ∀ c, pc' = .recvPf c → done = false ∧ pf = true)
    (hs : ∀ n, syncNum pc' = some n → SyncOwned info n ∧ InQ c2s s2c n)
    (hh : ∀ c n, pc' = .sendSync c n → SyncOwned info n) : LiveF info c2s s2c threads ext done pc' pf :=
  have ⟨h1, h2⟩ := flight_mono (fun _ _ x => x) hl.thrs hl.exts (fun n _ _ x => x.imp id (hd n))
  ⟨h1, h2, hl.c2sB, hl.doneW, hr, hs, hh⟩

theorem liveQ_of_nodisp {info c2s s2c threads ext done pf} {pc : Pc}
    (hl : LiveF info c2s s2c threads ext done pc pf) (hd : dispNum pc = none) : LiveQ info c2s s2c threads ext done pf :=
  hl.repc (by rw [hd]; nofun) nofun nofun nofun

theorem liveF_of_liveQ {info c2s s2c threads ext done pf} {pc : Pc} (hq : LiveQ info c2s s2c threads ext done pf)
    (hr : ∀ c, pc = .recvPf c → done = false ∧ pf = true)
    (hs : ∀ n, syncNum pc = some n → SyncOwned info n ∧ InQ c2s s2c n)
    (hh : ∀ c n, pc = .sendSync c n → SyncOwned info n) : LiveF info c2s s2c threads ext done pc pf :=
  hq.repc nofun hr hs hh

/-- popping a response that no prefetch bookkeeping depends on -/
theorem liveQ_pop {info c2s threads ext done pf} {n' : Nat} {r : Resp} {rest : List (Nat × Resp)}
    (hQ : LiveQ info c2s ((n', r) :: rest) threads ext done pf) (hne : ∀ m i, PfOwned info m i → m ≠ n') :
    LiveQ info c2s rest threads ext done pf :=
  have ⟨h1, h2⟩ := flight_mono (fun _ _ x => x) hQ.thrs hQ.exts
    (fun m j hm x => Or.inl (inQ_pop (inFlight_idle x) (hne m j hm)))
  ⟨h1, h2, hQ.c2sB, hQ.doneW, nofun, nofun, nofun⟩

/-- the answer to the reader's own request is no prefetch thread's -/
theorem liveQ_pop_own {info c2s threads ext done pf} {c : RCtx} {num : Nat} {r : Resp} {rest : List (Nat × Resp)}
    (hl : LiveF info c2s ((num, r) :: rest) threads ext done (.recvSync c num) pf) :
    LiveQ info c2s rest threads ext done pf :=
  liveQ_pop (liveQ_of_nodisp hl rfl) fun _ _ hm hc => pf_not_sync (hc ▸ hm) (hl.syncW _ rfl).1

/-- popping a response to dispatch it: it stays in flight in the reader's hands -/
theorem liveQ_take {info c2s threads ext done pf} {n' : Nat} {r : Resp} {rest : List (Nat × Resp)} {pc : Pc}
    (hQ : LiveQ info c2s ((n', r) :: rest) threads ext done pf) (hd : dispNum pc = some n') :
    (∀ i t, threads[i]? = some t → ThrLive info ext c2s rest pc i t.st ∧ t.cap ≠ some 0) ∧
    (∀ e ∈ ext, (∃ j, PfOwned info e.1 j) ∧ InFlight c2s rest pc e.1) := by
  refine flight_mono (fun _ _ x => x) hQ.thrs hQ.exts fun m _ _ x => ?_
  by_cases hmn : m = n'
  · right; rw [hmn]; exact hd
  · left; exact inQ_pop (inFlight_idle x) hmn

/-! ## the reader-local computation -/

theorem Stop.live {s t : St} {c : RCtx} (hs : Stop s c t)
    (hq : LiveQ s.info s.c2s s.s2c s.threads s.extents s.done s.prefetching) : Live t := by
  cases hs with
  | fin | cont => exact liveF_of_liveQ hq nofun nofun nofun
  | recvPf hm hz hp hd => exact liveF_of_liveQ hq (fun _ _ => ⟨hd, hp⟩) nofun nofun
  | sync hm hz pf hp =>
    exact liveF_of_liveQ ⟨hq.thrs, hq.exts, hq.c2sB, ⟨fun h => hq.doneW.1 (hp h), hq.doneW.2⟩, nofun, nofun, nofun⟩
      nofun nofun nofun

theorem live_advance {s : St} (fuel : Nat) (c : RCtx)
    (hq : LiveQ s.info s.c2s s.s2c s.threads s.extents s.done s.prefetching) : Live (advance fuel s c) := by
  obtain ⟨b, p, a, z, hs⟩ := advance_stop_any fuel s c
  exact hs.live hq

theorem live_afterCheck {s : St} (c : RCtx)
    (hq : LiveQ s.info s.c2s s.s2c s.threads s.extents s.done s.prefetching) : Live (afterCheck s c) := by
  unfold afterCheck
  split
  · exact liveF_of_liveQ hq nofun nofun nofun
  · exact live_advance _ _ hq

/-- after the locked region of `_async_response` for request `n` the queue-level invariant holds again -/
theorem liveQ_asyncResponse {s s1 : St} {n : Nat} {r : Resp} (hl : Live s) (hd : dispNum s.pc = some n)
    (h : asyncResponse s n r = some s1) :
    LiveQ s1.info s1.c2s s1.s2c s1.threads s1.extents s1.done s1.prefetching := by
  obtain ⟨off, len, hv, rfl⟩ := asyncResponse_some h
  have hhas := dictHas_of_mem (dictGet_mem hv)
  have hf : ∀ m, m ≠ n → InFlight s.c2s s.s2c s.pc m → InQ s.c2s s.s2c m := by
    intro m hm hn
    refine hn.resolve_right fun hc => hm ?_
    rw [hd] at hc
    exact (Option.some.inj hc).symm
  refine ⟨?_, ?_, hl.c2sB, ?_, nofun, nofun, nofun⟩
  · intro i t ht
    obtain ⟨a, b⟩ := hl.thrs i t ht
    refine ⟨thrLive_transfer a (fun _ x => x) (fun _ _ x => dictHas_dictDel_false_iff.mpr (.inr x)) ?_, b⟩
    intro m _ hm hfl
    refine Or.inl (hf m ?_ hfl)
    intro hc; subst hc; rw [hhas] at hm; cases hm
  · intro e he
    obtain ⟨he1, he2⟩ := mem_dictDel he
    obtain ⟨a, b⟩ := hl.exts e he1
    exact ⟨a, Or.inl (hf _ he2 b)⟩
  · refine ⟨hl.doneW.1, fun hdone _ => ?_⟩
    right
    replace hdone : (if (dictDel s.extents n).isEmpty then true else s.done) = false := hdone
    split at hdone
    · cases hdone
    · rename_i hne
      show dictDel s.extents n ≠ []
      intro hc; rw [hc] at hne; simp at hne

/-! ## every action keeps `Live` -/

def opCapOK : Op → Prop
  | .prefetch _ cap => cap ≠ some 0
  | .readv _ cap => cap ≠ some 0
  | _ => True

def actOK : Act → Prop
  | .rOp op => opCapOK op
  | _ => True

/-- a thread that moves on (to anything but "nothing left to do") keeps the `done` clause -/
theorem doneW_set {threads : List Thread} {ext : List (Nat × Chunk)} {done pf : Bool} {i : Nat} {old new : Thread}
    (h : (pf = true → threads ≠ []) ∧ (done = false → threads ≠ [] → (∃ t ∈ threads, t.st ≠ .idle []) ∨ ext ≠ []))
    (hth : threads[i]? = some old) (hn : new.st ≠ .idle []) :
    (pf = true → threads.set i new ≠ []) ∧
    (done = false → threads.set i new ≠ [] → (∃ t ∈ threads.set i new, t.st ≠ .idle []) ∨ ext ≠ []) :=
  ⟨fun hp hc => h.1 hp ((List.set_eq_nil_iff _ _).mp hc),
   fun _ _ => Or.inl ⟨new, List.mem_set ((List.getElem?_eq_some_iff.mp hth).1) new, hn⟩⟩

theorem live_reply {s : St} (hl : Live s) {num : Nat} {rest : List Nat} (hc : s.c2s = num :: rest) (r : Resp) :
    Live { s with c2s := rest, s2c := s.s2c ++ [(num, r)] } := by
  unfold Live at hl ⊢
  rw [hc] at hl
  obtain ⟨h1, h2⟩ := flight_mono (fun _ _ x => x) hl.thrs hl.exts (fun n _ _ x => inFlight_mono (inQ_reply r) x)
  refine ⟨h1, h2, ?_, hl.doneW, hl.recvW, ?_, hl.heldW⟩
  · intro n hn; exact hl.c2sB n (List.mem_cons_of_mem _ hn)
  · intro n hn
    obtain ⟨a, b⟩ := hl.syncW n hn
    exact ⟨a, inQ_reply r b⟩

theorem live_startPrefetch {s : St} (hl : Live s) (hpc : s.pc = .idle) (ch : List Chunk) (cap : Option Nat)
    (hne : ch ≠ []) (hcap : cap ≠ some 0) : Live (startPrefetch s ch cap) := by
  unfold Live at hl ⊢
  simp only [startPrefetch]
  refine ⟨?_, hl.exts, hl.c2sB, ?_, ?_, hl.syncW, hl.heldW⟩
  · intro i t ht
    by_cases hi : i < s.threads.length
    · rw [List.getElem?_append_left hi] at ht
      exact hl.thrs i t ht
    · rw [List.getElem?_append_right (by omega)] at ht
      obtain rfl : ⟨.idle ch, cap⟩ = t := by
        cases hk : i - s.threads.length with
        | zero => rw [hk] at ht; exact Option.some.inj ht
        | succ k => rw [hk] at ht; cases ht
      exact ⟨trivial, hcap⟩
  · refine ⟨fun _ hc => by simp at hc, fun _ _ => ?_⟩
    left
    exact ⟨⟨.idle ch, cap⟩, by simp, fun hc => hne (TSt.idle.inj hc)⟩
  · intro c hc; exact absurd (hpc.symm.trans hc) nofun

theorem step_live {s s' : St} {a : Act} (hl : Live s) (ha : actOK a) (h : Step s a s') : Live s' := by
  cases h with
  | serve hq hi => exact live_reply hl hq _
  | serveFail hq hi => exact live_reply hl hq _
  | tCheck hth hc =>
    unfold Live at hl ⊢
    exact ⟨forall_set hl.thrs ⟨List.cons_ne_nil _ _, (hl.thrs _ _ hth).2⟩ (fun _ _ _ x => x), hl.exts, hl.c2sB,
      doneW_set hl.doneW hth nofun, hl.recvW, hl.syncW, hl.heldW⟩
  | @tAlloc i c rest cap hth =>
    unfold Live at hl ⊢
    obtain ⟨h1, h2⟩ := flight_mono (info' := s.info ++ [⟨c.1, c.2, .pf i⟩]) (fun _ _ x => pfOwned_append x _)
      hl.thrs hl.exts (fun _ _ _ x => x)
    refine ⟨forall_set h1 ⟨⟨⟨c.1, c.2, List.getElem?_concat_length⟩, ?_⟩, (hl.thrs _ _ hth).2⟩ (fun _ _ _ x => x), h2,
      fun n hn => ?_, doneW_set hl.doneW hth nofun, hl.recvW,
      fun n hn => ⟨syncOwned_append (hl.syncW n hn).1 _, (hl.syncW n hn).2⟩,
      fun c' n hc => syncOwned_append (hl.heldW c' n hc) _⟩
    · -- the number is fresh: every registered extent has an older one
      rw [← Bool.not_eq_true, dictHas_iff]
      rintro ⟨e, he, hc⟩
      obtain ⟨⟨j', hj'⟩, _⟩ := hl.exts e he
      have := pfOwned_lt hj'
      omega
    · have := hl.c2sB n hn
      simp only [List.length_append, List.length_singleton]; omega
  | @tSend i num off len rest cap hth =>
    unfold Live at hl ⊢
    have hme := hl.thrs _ _ hth
    obtain ⟨h1, h2⟩ := flight_mono (fun _ _ x => x) hl.thrs hl.exts (fun n _ _ x => inFlight_mono (inQ_send num) x)
    refine ⟨forall_set h1 ⟨⟨hme.1.1, hme.1.2, Or.inl (Or.inl (by simp))⟩, hme.2⟩ (fun _ _ _ x => x), h2,
      fun n hn => ?_, doneW_set hl.doneW hth nofun, hl.recvW, fun n hn => ⟨(hl.syncW n hn).1, inQ_send num (hl.syncW n hn).2⟩,
      hl.heldW⟩
    rcases List.mem_append.mp hn with h1 | h1
    · exact hl.c2sB n h1
    · rw [List.mem_singleton.mp h1]; exact pfOwned_lt hme.1.1
  | @tReg i num off len rest cap hth =>
    unfold Live at hl ⊢
    have hme := hl.thrs _ _ hth
    refine ⟨forall_set hl.thrs ⟨trivial, hme.2⟩ fun j t hj ⟨a, b⟩ => ?_, ?_, hl.c2sB, ?_, hl.recvW, hl.syncW, hl.heldW⟩
    · refine ⟨thrLive_transfer a (fun _ x => x) ?_ (fun _ _ _ x => x), b⟩
      -- another thread's pending number is not the one registered now
      intro n hn hd
      refine dictHas_dictSet_false_iff.mpr ⟨fun hc => ?_, hd⟩
      subst hc
      exact hj (pfOwned_inj hn hme.1.1)
    · intro e he
      rcases mem_dictSet he with h1 | h1
      · subst h1
        exact ⟨⟨i, hme.1.1⟩, hme.1.2.2⟩
      · exact hl.exts e h1
    · exact ⟨fun hp hc => hl.doneW.1 hp ((List.set_eq_nil_iff _ _).mp hc), fun _ _ => Or.inr (dictSet_ne_nil _ _ _)⟩
  | seek | prefetchNone | readvNone => exact hl
  | read hpc | readAt hpc | cont hpc => exact live_advance _ _ (liveQ_of_nodisp hl (by rw [hpc]; rfl))
  | prefetchStart hpc hne | readvStart hpc hne => exact live_startPrefetch hl hpc _ _ hne ha
  | recvPf hpc hq ho =>
    unfold Live at hl ⊢
    rw [hpc, hq] at hl
    obtain ⟨h1, h2⟩ := liveQ_take (liveQ_of_nodisp hl rfl) (pc := .dispPf _ _ _) rfl
    exact ⟨h1, h2, hl.c2sB, hl.doneW, nofun, nofun, nofun⟩
  | dropPf hpc hq ho =>
    unfold Live at hl
    rw [hpc, hq] at hl
    refine live_afterCheck _ (liveQ_pop (liveQ_of_nodisp hl rfl) ?_)
    rintro m i ⟨o, l, hm⟩ rfl
    exact ho o l i hm
  | dispPf hpc hres => exact live_afterCheck _ (liveQ_asyncResponse hl (by rw [hpc]; rfl) hres)
  | @allocSync c hpc =>
    unfold Live at hl ⊢
    rw [hpc] at hl
    obtain ⟨h1, h2⟩ := flight_mono (info' := s.info ++ [⟨s.realpos, c.size, .sync⟩]) (pc' := .sendSync c s.info.length)
      (fun _ _ x => pfOwned_append x _) hl.thrs hl.exts (fun n _ _ x => Or.inl (x.resolve_right nofun))
    refine ⟨h1, h2, fun n hn => ?_, hl.doneW, nofun, nofun, fun c' n hc => ?_⟩
    · have := hl.c2sB n hn
      simp only [List.length_append, List.length_singleton]; omega
    · cases hc
      exact ⟨s.realpos, c.size, List.getElem?_concat_length⟩
  | @sendSync c num hpc =>
    unfold Live at hl ⊢
    rw [hpc] at hl
    have hown := hl.heldW c num rfl
    obtain ⟨h1, h2⟩ := flight_mono (pc' := .recvSync c num) (fun _ _ x => x) hl.thrs hl.exts
      (fun n _ _ x => Or.inl (inQ_send num (x.resolve_right nofun)))
    refine ⟨h1, h2, fun n hn => ?_, hl.doneW, nofun, fun n hn => ?_, nofun⟩
    · rcases List.mem_append.mp hn with h1 | h1
      · exact hl.c2sB n h1
      · rw [List.mem_singleton.mp h1]
        obtain ⟨o, l, ho⟩ := hown
        exact (List.getElem?_eq_some_iff.mp ho).1
    · obtain rfl := Option.some.inj hn
      exact ⟨hown, Or.inl (by simp)⟩
  | ownData hpc hq =>
    unfold Live at hl
    rw [hpc, hq] at hl
    exact live_advance _ _ (liveQ_pop_own hl)
  | ownEmpty hpc hq | ownEof hpc hq | ownErr hpc hq =>
    unfold Live at hl
    rw [hpc, hq] at hl
    exact liveF_of_liveQ (liveQ_pop_own hl) nofun nofun nofun
  | @otherPf c num n' o l j r rest hpc hq hn ho =>
    unfold Live at hl ⊢
    rw [hpc, hq] at hl
    obtain ⟨hown, hinq⟩ := hl.syncW num rfl
    obtain ⟨h1, h2⟩ := liveQ_take (liveQ_of_nodisp hl rfl) (pc := .dispSync c num n' r) rfl
    refine ⟨h1, h2, hl.c2sB, hl.doneW, nofun, ?_, nofun⟩
    intro n hn'
    obtain rfl := Option.some.inj hn'
    exact ⟨hown, inQ_pop hinq (fun hc => hn hc.symm)⟩
  | @otherDrop c num n' r rest hpc hq hn ho =>
    unfold Live at hl ⊢
    rw [hpc, hq] at hl
    obtain ⟨hown, hinq⟩ := hl.syncW num rfl
    have hQ := liveQ_pop (liveQ_of_nodisp hl rfl) (by rintro m i ⟨o, l, hm⟩ rfl; exact ho o l i hm)
    rw [hpc]
    refine liveF_of_liveQ hQ nofun ?_ nofun
    intro n hn'
    obtain rfl := Option.some.inj hn'
    exact ⟨hown, inQ_pop hinq (fun hc => hn hc.symm)⟩
  | @dispSync s1 c num n' r hpc hres =>
    have hq' := liveQ_asyncResponse hl (by rw [hpc]; rfl) hres
    unfold Live at hl
    rw [hpc] at hl
    obtain ⟨hown, hinq⟩ := hl.syncW num rfl
    obtain ⟨off, len, -, rfl⟩ := asyncResponse_some hres
    refine liveF_of_liveQ hq' nofun ?_ nofun
    intro n hn'
    obtain rfl := Option.some.inj hn'
    exact ⟨hown, hinq⟩

/-! ## `Live` along every schedule -/

theorem run_live {s : St} (hl : Live s) (as : List Act) (ha : ∀ a ∈ as, actOK a) : Live (run s as) :=
  run_induction (fun _ _ _ => step_live) hl as ha

theorem init_live (file : Bytes) (maxReq : Nat) (bufsize : Nat := 0) : Live (init file maxReq bufsize) := by
  unfold Live init
  refine ⟨?_, ?_, ?_, ?_, ?_, ?_, ?_⟩ <;> simp [syncNum]

/-! ## a reader that waits for a response is never stuck -/

def WaitsForResponse (s : St) : Prop :=
  s.s2c = [] ∧ ((∃ c, s.pc = .recvPf c) ∨ (∃ c n, s.pc = .recvSync c n))

def nonReader : Act → Prop
  | .rOp _ => False
  | .rStep => False
  | _ => True

/-- the server can answer whatever is on the wire: every number there is in the request table -/
theorem serve_enabled_of_live {s : St} {n : Nat} (hl : Live s) (hn : n ∈ s.c2s) : (step s (.serve 1)).isSome = true := by
  cases hc : s.c2s with
  | nil => rw [hc] at hn; cases hn
  | cons n0 rest => exact serve_enabled 1 hc (hl.c2sB n0 (by rw [hc]; simp))

theorem waiting_not_stuck {s : St} (hl : Live s) (hw : WaitsForResponse s) :
    ∃ a, nonReader a ∧ (step s a).isSome = true := by
  obtain ⟨hq, hpc⟩ := hw
  have hl0 := hl
  unfold Live at hl
  have hext : s.extents ≠ [] → ∃ a, nonReader a ∧ (step s a).isSome = true := by
    intro hne
    cases hx : s.extents with
    | nil => exact absurd hx hne
    | cons e rest =>
      obtain ⟨_, hfl⟩ := hl.exts e (by rw [hx]; simp)
      rcases hfl with (hfl | hfl) | hfl
      · exact ⟨.serve 1, trivial, serve_enabled_of_live hl0 hfl⟩
      · rw [hq] at hfl; cases hfl
      · rcases hpc with ⟨c, hc⟩ | ⟨c, n, hc⟩ <;> (rw [hc] at hfl; simp [dispNum] at hfl)
  rcases hpc with ⟨c, hc⟩ | ⟨c, n, hc⟩
  · obtain ⟨hd, hpf⟩ := hl.recvW c hc
    rcases hl.doneW.2 hd (hl.doneW.1 hpf) with ⟨t, ht, hne⟩ | hne
    · obtain ⟨i, hi⟩ := List.mem_iff_getElem?.mp ht
      obtain ⟨hthr, hcap⟩ := hl.thrs i t hi
      obtain ⟨st, cap⟩ := t
      simp only at hne hthr hcap
      cases st with
      | idle cs =>
        cases cs with
        | nil => exact absurd rfl hne
        | cons c0 rest =>
          by_cases hp : capPass cap s.extents.length = true
          · exact ⟨.tCheck i, trivial, tCheck_enabled hi hp⟩
          · apply hext
            intro hnil
            apply hp
            unfold capPass
            cases cap with
            | none => rfl
            | some m =>
              simp only [hnil, List.length_nil, decide_eq_true_eq]
              rcases Nat.eq_zero_or_pos m with h0 | h0
              · subst h0; exact absurd rfl hcap
              · exact h0
      | checked cs =>
        cases cs with
        | nil => exact absurd rfl hthr
        | cons c0 rest => exact ⟨.tAlloc i, trivial, tAlloc_enabled hi⟩
      | allocd n o l r => exact ⟨.tSend i, trivial, tSend_enabled hi⟩
      | sent n o l r => exact ⟨.tReg i, trivial, tReg_enabled hi⟩
    · exact hext hne
  · obtain ⟨_, hin⟩ := hl.syncW n (by rw [hc]; rfl)
    rcases hin with hin | hin
    · exact ⟨.serve 1, trivial, serve_enabled_of_live hl0 hin⟩
    · rw [hq] at hin; cases hin

/-! ## progress measure of the non-reader tasks -/

/-- work left in a thread: 7 per chunk still to request (the four actions of a chunk take 1 + 1 + 3 + 2 of it;
    sending also adds 2 for the request put on the wire) -/
def tMu : TSt → Nat
  | .idle cs => 7 * cs.length
  | .checked cs => 7 * cs.length - 1
  | .allocd _ _ _ rest => 7 * rest.length + 5
  | .sent _ _ _ rest => 7 * rest.length + 2

def mu (s : St) : Nat := (s.threads.map (fun t => tMu t.st)).sum + 2 * s.c2s.length + s.s2c.length

theorem sum_set {l : List Thread} {i : Nat} {old new : Thread} (f : Thread → Nat) (h : l[i]? = some old) :
    ((l.set i new).map f).sum + f old = (l.map f).sum + f new := by
  induction l generalizing i with
  | nil => cases h
  | cons x xs ih =>
    cases i with
    | zero =>
      simp at h
      subst h
      simp only [List.set_cons_zero, List.map_cons, List.sum_cons]
      omega
    | succ i =>
      simp only [List.getElem?_cons_succ] at h
      have := ih h
      simp only [List.set_cons_succ, List.map_cons, List.sum_cons]
      omega

theorem nonReader_step_decreases {s s' : St} {a : Act} (hn : nonReader a) (h : step s a = some s') : mu s' < mu s := by
  cases step_sound h with
  | serve hq | serveFail hq =>
    simp only [mu, hq, List.length_cons, List.length_append, List.length_nil]
    omega
  | @tCheck i c rest cap hth =>
    have := sum_set (new := ⟨.checked (c :: rest), cap⟩) (fun t => tMu t.st) hth
    simp only [mu, setThread, tMu, List.length_cons] at this ⊢
    omega
  | @tAlloc i c rest cap hth =>
    have := sum_set (new := ⟨.allocd s.info.length c.1 c.2 rest, cap⟩) (fun t => tMu t.st) hth
    simp only [mu, setThread, tMu, List.length_cons] at this ⊢
    omega
  | @tSend i num off len rest cap hth =>
    have := sum_set (new := ⟨.sent num off len rest, cap⟩) (fun t => tMu t.st) hth
    simp only [mu, setThread, tMu, List.length_append, List.length_singleton] at this ⊢
    omega
  | @tReg i num off len rest cap hth =>
    have := sum_set (new := ⟨.idle rest, cap⟩) (fun t => tMu t.st) hth
    simp only [mu, setThread, tMu] at this ⊢
    omega
  | _ => cases hn

theorem nonReader_run_bounded {s s' : St} {as : List Act} (hn : ∀ a ∈ as, nonReader a)
    (h : runStrict s as = some s') : as.length + mu s' ≤ mu s := by
  induction as generalizing s with
  | nil => cases h; simp
  | cons a as ih =>
    simp only [runStrict] at h
    split at h
    · cases h
    · rename_i s1 hs
      have h1 := nonReader_step_decreases (hn a (List.mem_cons_self ..)) hs
      have h2 := ih (fun b hb => hn b (List.mem_cons_of_mem _ hb)) h
      simp only [List.length_cons]
      omega

theorem nonReader_actOK {a : Act} (h : nonReader a) : actOK a := by
  cases a <;> first | trivial | cases h

theorem runStrict_live {s s' : St} {as : List Act} (hl : Live s) (ha : ∀ a ∈ as, actOK a)
    (h : runStrict s as = some s') : Live s' :=
  runStrict_induction (fun _ _ _ => step_live) hl ha h

end PV.Prefetch
