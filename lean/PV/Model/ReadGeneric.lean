/-
  PV.Model.ReadGeneric — the read side of BufferedFile over ANY underlying stream that satisfies `ReadLaws`:
  every `_read(n)` with n ≥ 1 returns a non-empty prefix of the bytes still to come, or nothing at EOF, or raises
  without consuming anything.  A call that returns hands out a function of the pending bytes only (with the
  bookkeeping of `_pos` / `_realpos` that the SFTP refinement, C27, needs); a call that raises leaves every
  pending byte ahead of the caller.

  `readlines` / iteration are stated for streams that never raise (`hnf : ∀ e, ¬ L.fail e`): a raise after some
  lines have been collected loses them with the exception, and nothing is claimed about that.

  The proofs compose transitions `ReadPost L f f' out` ("from `f` to `f'`, `out` went to the caller"): one per
  statement of the code, glued by `ReadPost.trans`; `Outcome` adds the exceptional exit.
-/
import PV.Model.BufFileLemmas
import PV.Model.ChanX
namespace PV.BufFile
open PV

/-- Laws of a readable stream.  `rest s rp`: the bytes the stream will deliver from position `rp` on;
    `ok`: what must hold for reads to behave; `fr`: what reads leave unchanged in the stream state;
    `fail`: the exceptions `_read` may raise (a raising call consumes nothing). -/
structure ReadLaws {σ : Type} (o : Ops σ) where
  rest : σ → Int → Bytes
  ok : σ → Int → Prop
  fr : σ → σ → Prop
  fail : Err → Prop
  fr_refl : ∀ s, fr s s
  fr_trans : ∀ a b c, fr a b → fr b c → fr a c
  read_spec : ∀ s rp n, ok s rp → 1 ≤ n →
    (∃ k, 1 ≤ k ∧ (o.read s rp n).2 = .ok ((rest s rp).take k) ∧
      ok (o.read s rp n).1 (rp + ((rest s rp).take k).length) ∧
      rest (o.read s rp n).1 (rp + ((rest s rp).take k).length) = (rest s rp).drop k ∧
      fr s (o.read s rp n).1) ∨
    (∃ e, fail e ∧ (o.read s rp n).2 = .error e ∧ rest (o.read s rp n).1 rp = rest s rp)
  bound_spec : ∀ s rp, ok s rp → (rest s rp).length ≤ o.bound s rp

variable {σ : Type} {o : Ops σ}

structure SameCli (a b : BF σ) : Prop where
  conf : cfg a = cfg b
  bin : a.bin = b.bin
  wbuf : a.wbuf = b.wbuf
  size : a.size = b.size
  closed : a.closed = b.closed

theorem SameCli.refl (a : BF σ) : SameCli a a := ⟨rfl, rfl, rfl, rfl, rfl⟩

theorem SameCli.trans {a b c : BF σ} (h1 : SameCli a b) (h2 : SameCli b c) : SameCli a c :=
  ⟨h1.conf.trans h2.conf, h1.bin.trans h2.bin, h1.wbuf.trans h2.wbuf, h1.size.trans h2.size,
    h1.closed.trans h2.closed⟩

/-- bytes the caller has still to receive -/
def pendG (L : ReadLaws o) (f : BF σ) : Bytes := f.rbuf ++ L.rest f.s f.realpos

theorem read_step (L : ReadLaws o) (f : BF σ) (n : Nat) (hok : L.ok f.s f.realpos) (hn : 1 ≤ n) :
    (∃ s', o.read f.s f.realpos n = (s', .ok []) ∧ L.rest f.s f.realpos = [] ∧ L.rest s' f.realpos = [] ∧
      L.ok s' f.realpos ∧ L.fr f.s s') ∨
    (∃ d s', o.read f.s f.realpos n = (s', .ok d) ∧ d ≠ [] ∧
      d ++ L.rest s' (f.realpos + d.length) = L.rest f.s f.realpos ∧
      L.ok s' (f.realpos + d.length) ∧ L.fr f.s s') ∨
    (∃ e s', o.read f.s f.realpos n = (s', .error e) ∧ L.fail e ∧ L.rest s' f.realpos = L.rest f.s f.realpos) := by
  rcases L.read_spec f.s f.realpos n hok hn with ⟨k, hk, h2, h3, h4, h5⟩ | ⟨e, he, h2, h3⟩
  · by_cases hnil : L.rest f.s f.realpos = []
    · rw [hnil] at h2 h3 h4
      simp only [List.take_nil, List.drop_nil, List.length_nil, Int.natCast_zero, Int.add_zero] at h2 h3 h4
      exact Or.inl ⟨_, Prod.ext rfl h2, hnil, h4, h3, h5⟩
    · refine Or.inr (Or.inl ⟨_, _, Prod.ext rfl h2, ?_, ?_, h3, h5⟩)
      · exact fun h => hnil ((take_isEmpty_iff _ _ hk).1 (by rw [h]; rfl))
      · rw [h4]; exact List.take_append_drop k _
  · exact Or.inr (Or.inr ⟨e, _, Prod.ext rfl h2, he, h3⟩)

theorem length_lt_of_append {d r' r : Bytes} (hd : d ≠ []) (h : d ++ r' = r) : r'.length < r.length := by
  have := List.length_pos_iff.2 hd
  rw [← h, List.length_append]; omega

/-! ## transitions -/

/-- `f'` is `f` after `out` has been handed to the caller: `out` followed by what is pending in `f'` is what was
    pending in `f`, `_pos` has advanced by `out`, `_realpos` is as far ahead of `_pos` + read-ahead as before. -/
structure ReadPost (L : ReadLaws o) (f f' : BF σ) (out : Bytes) : Prop where
  pend : out ++ pendG L f' = pendG L f
  ok : L.ok f'.s f'.realpos
  pos : f'.pos = f.pos + out.length
  rp : f'.realpos - (f'.pos + f'.rbuf.length) = f.realpos - (f.pos + f.rbuf.length)
  fr : L.fr f.s f'.s
  cli : SameCli f' f

variable {L : ReadLaws o}

theorem ReadPost.refl {f : BF σ} (hok : L.ok f.s f.realpos) : ReadPost L f f [] :=
  ⟨rfl, hok, by simp, rfl, L.fr_refl _, SameCli.refl _⟩

theorem ReadPost.trans {f g h : BF σ} {a b : Bytes} (h1 : ReadPost L f g a) (h2 : ReadPost L g h b) :
    ReadPost L f h (a ++ b) :=
  ⟨by rw [List.append_assoc, h2.pend, h1.pend], h2.ok,
    by rw [h2.pos, h1.pos, List.length_append]; push_cast; omega,
    h2.rp.trans h1.rp, L.fr_trans _ _ _ h1.fr h2.fr, h2.cli.trans h1.cli⟩

/-- a `_read` that delivered nothing -/
theorem ReadPost.nothing {f : BF σ} {s' : σ} (h3 : L.rest s' f.realpos = L.rest f.s f.realpos)
    (h4 : L.ok s' f.realpos) (h5 : L.fr f.s s') : ReadPost L f { f with s := s' } [] :=
  ⟨by show [] ++ (f.rbuf ++ _) = _; rw [h3]; rfl, h4, by simp, rfl, h5, ⟨rfl, rfl, rfl, rfl, rfl⟩⟩

theorem ReadPost.fetch {f : BF σ} {s' : σ} {d : Bytes}
    (h3 : d ++ L.rest s' (f.realpos + d.length) = L.rest f.s f.realpos)
    (h4 : L.ok s' (f.realpos + d.length)) (h5 : L.fr f.s s') :
    ReadPost L f { f with s := s', rbuf := f.rbuf ++ d, realpos := f.realpos + d.length } [] :=
  ⟨by show [] ++ ((f.rbuf ++ d) ++ _) = f.rbuf ++ _; rw [List.nil_append, List.append_assoc, h3],
    h4, by simp, by simp only [List.length_append]; push_cast; omega, h5, ⟨rfl, rfl, rfl, rfl, rfl⟩⟩

theorem ReadPost.pass {f : BF σ} {s' : σ} {d : Bytes} (hrb : f.rbuf = [])
    (h3 : d ++ L.rest s' (f.realpos + d.length) = L.rest f.s f.realpos)
    (h4 : L.ok s' (f.realpos + d.length)) (h5 : L.fr f.s s') :
    ReadPost L f { f with s := s', realpos := f.realpos + d.length, pos := f.pos + d.length } d :=
  ⟨by show d ++ (f.rbuf ++ _) = f.rbuf ++ _; rw [hrb, List.nil_append, List.nil_append, h3],
    h4, rfl, by dsimp only; omega, h5, ⟨rfl, rfl, rfl, rfl, rfl⟩⟩

theorem ReadPost.take {f : BF σ} (n : Nat) (hok : L.ok f.s f.realpos) :
    ReadPost L f { f with rbuf := f.rbuf.drop n, pos := f.pos + (f.rbuf.take n).length } (f.rbuf.take n) :=
  ⟨by show _ ++ (f.rbuf.drop n ++ _) = f.rbuf ++ _; rw [← List.append_assoc, List.take_append_drop],
    hok, rfl, by simp only [List.length_take, List.length_drop]; push_cast; omega, L.fr_refl _,
    ⟨rfl, rfl, rfl, rfl, rfl⟩⟩

/-! ## how a call ends -/

/-- The call or loop `r` either returns `a` in a state `f'` with `Q f' a`, or a `_read` raised and the state it
    leaves satisfies `E`. -/
def Outcome (L : ReadLaws o) {α : Type} (r : Res σ α) (Q : BF σ → α → Prop) (E : BF σ → Prop) : Prop :=
  match r with
  | (f', .ok a) => Q f' a
  | (f', .error e) => L.fail e ∧ E f'

section
variable {α : Type} {Q Q' : BF σ → α → Prop} {E E' : BF σ → Prop} {r : Res σ α}

theorem Outcome.ret {f' : BF σ} {a : α} (h : Q f' a) : Outcome L (f', .ok a) Q E := h

theorem Outcome.raise {f' : BF σ} {e : Err} (h1 : L.fail e) (h2 : E f') : Outcome L ((f', .error e) : Res σ α) Q E :=
  ⟨h1, h2⟩

theorem Outcome.mono (h : Outcome L r Q E) (hq : ∀ f' a, Q f' a → Q' f' a) (he : ∀ f', E f' → E' f') :
    Outcome L r Q' E' := by
  rcases r with ⟨f', e | a⟩
  · exact ⟨h.1, he _ h.2⟩
  · exact hq _ _ h

theorem Outcome.of_ok (h : Outcome L r Q E) {a : α} (hr : r.2 = .ok a) : Q r.1 a := by
  rcases r with ⟨f', e | b⟩
  · cases hr
  · cases hr; exact h

theorem Outcome.of_error (h : Outcome L r Q E) {e : Err} (hr : r.2 = .error e) : L.fail e ∧ E r.1 := by
  rcases r with ⟨f', e' | b⟩
  · cases hr; exact h
  · cases hr

theorem Outcome.returns (h : Outcome L r Q E) (hnf : ∀ e, ¬ L.fail e) : ∃ f' a, r = (f', .ok a) ∧ Q f' a := by
  rcases r with ⟨f', e | a⟩
  · exact absurd h.1 (hnf e)
  · exact ⟨f', a, rfl, h⟩
end

/-! ## read() -/

theorem readAllLoop_gen (L : ReadLaws o) (fuel : Nat) (f : BF σ) (acc : Bytes) (hrb : f.rbuf = [])
    (hok : L.ok f.s f.realpos) (hd : 1 ≤ f.dflt) (hf : (L.rest f.s f.realpos).length < fuel) :
    Outcome L (readAllLoop o fuel f acc)
      (fun f' out => out = acc ++ L.rest f.s f.realpos ∧ ReadPost L f f' (L.rest f.s f.realpos) ∧ pendG L f' = [])
      (fun f' => pendG L f' = acc ++ L.rest f.s f.realpos) := by
  induction fuel generalizing f acc with
  | zero => omega
  | succ fuel ih =>
    rw [readAllLoop]
    rcases read_step L f f.dflt hok hd with ⟨s', h1, h2, h3, h4, h5⟩ | ⟨d, s', h1, hne, h3, h4, h5⟩ | ⟨e, s', h1, he, h3⟩
    · rw [h1, h2]
      refine Outcome.ret ⟨(List.append_nil _).symm, ReadPost.nothing (h3.trans h2.symm) h4 h5, ?_⟩
      show f.rbuf ++ L.rest s' f.realpos = []
      rw [hrb, h3]; rfl
    · rw [h1]
      simp only [show d.isEmpty = false by simpa using hne, Bool.false_eq_true, if_false]
      refine (ih { f with s := s', realpos := f.realpos + d.length, pos := f.pos + d.length } (acc ++ d) hrb h4 hd
        (Nat.lt_of_lt_of_le (length_lt_of_append hne h3) (Nat.le_of_lt_succ hf))).mono ?_ ?_
      · rintro f' out ⟨e1, e2, e3⟩
        refine ⟨by rw [e1, List.append_assoc, h3], ?_, e3⟩
        have := (ReadPost.pass hrb h3 h4 h5).trans e2
        rwa [h3] at this
      · intro f' e1
        rw [e1, List.append_assoc, h3]
    · rw [h1]
      refine Outcome.raise he ?_
      show acc ++ L.rest s' f.realpos = _
      rw [h3]

/-! ## read(n) -/

theorem want_pos (b : Bool) (bs m : Nat) (h : 1 ≤ m) : 1 ≤ (if b = true then max bs m else m) := by
  split <;> omega

theorem readFillLoop_gen (L : ReadLaws o) (n fuel : Nat) (f : BF σ)
    (hok : L.ok f.s f.realpos) (hf : (L.rest f.s f.realpos).length < fuel) :
    Outcome L (readFillLoop o n fuel f)
      (fun f' _ => ReadPost L f f' [] ∧ (n ≤ f'.rbuf.length ∨ L.rest f'.s f'.realpos = []))
      (fun f' => pendG L f' = pendG L f) := by
  induction fuel generalizing f with
  | zero => omega
  | succ fuel ih =>
    rw [readFillLoop]
    by_cases hlt : f.rbuf.length < n
    · rw [if_pos hlt]
      simp only
      generalize hw : (if f.buffered = true then max f.bufsize (n - f.rbuf.length) else n - f.rbuf.length) = want
      have hwant : 1 ≤ want := hw ▸ want_pos _ _ _ (by omega)
      rcases read_step L f want hok hwant with ⟨s', h1, h2, h3, h4, h5⟩ | ⟨d, s', h1, hne, h3, h4, h5⟩ | ⟨e, s', h1, he, h3⟩
      · rw [h1]
        exact Outcome.ret ⟨ReadPost.nothing (h3.trans h2.symm) h4 h5, Or.inr h3⟩
      · rw [h1]
        simp only [show d.isEmpty = false by simpa using hne, Bool.false_eq_true, if_false]
        have hstep := ReadPost.fetch h3 h4 h5
        exact (ih _ h4 (Nat.lt_of_lt_of_le (length_lt_of_append hne h3) (Nat.le_of_lt_succ hf))).mono
          (fun f' _ h => ⟨hstep.trans h.1, h.2⟩) (fun f' h => h.trans hstep.pend)
      · rw [h1]
        refine Outcome.raise he ?_
        show f.rbuf ++ L.rest s' f.realpos = _
        rw [h3]; rfl
    · rw [if_neg hlt]
      exact Outcome.ret ⟨ReadPost.refl hok, Or.inl (by omega)⟩

/-! ## readline -/

/-- the code after the loop, on `break` -/
theorem readlinePost_brk (f : BF σ) (t d : Bytes) :
    readlinePost ({ f with rbuf := d }, .ok (.brk t true))
      = ({ f with rbuf := t.drop (lineOf t).length ++ d, pos := f.pos + (lineOf t).length }, .ok (lineOf t)) := by
  by_cases hc : t.contains LF = true
  · have hlen : (t.take (t.idxOf LF + 1)).length = t.idxOf LF + 1 := by
      have := idxOf_lt_of_contains _ hc
      rw [List.length_take]; omega
    simp only [readlinePost, hc, Bool.not_true, Bool.false_eq_true, if_false, if_true, lineOf_of_contains _ hc,
      take_idx_snoc _ hc, hlen]
  · have hc' : t.contains LF = false := by simpa using hc
    simp only [readlinePost, hc', Bool.not_false, if_true, lineOf_of_not_contains _ hc', List.drop_length,
      List.nil_append]

/-- … and when the loop was left because `line` holds a newline, the stale `_rbuffer` is overwritten -/
theorem readlinePost_brk_lf (f : BF σ) (line : Bytes) (hc : line.contains LF = true) :
    readlinePost (f, .ok (.brk line false)) = readlinePost ({ f with rbuf := [] }, .ok (.brk line true)) := by
  simp only [readlinePost, hc, Bool.not_true, Bool.false_eq_true, if_false, if_true, List.append_nil]

theorem lineOf_append_drop (t : Bytes) : lineOf t ++ t.drop (lineOf t).length = t :=
  prefix_append_drop t _ (lineOf_prefix t)

theorem ReadPost.brk {f : BF σ} (t d : Bytes) (hok : L.ok f.s f.realpos) :
    ReadPost L { f with rbuf := t ++ d }
      { f with rbuf := t.drop (lineOf t).length ++ d, pos := f.pos + (lineOf t).length } (lineOf t) := by
  refine ⟨?_, hok, rfl, ?_, L.fr_refl _, ⟨rfl, rfl, rfl, rfl, rfl⟩⟩
  · show lineOf t ++ ((t.drop (lineOf t).length ++ d) ++ _) = (t ++ d) ++ _
    rw [← List.append_assoc, ← List.append_assoc, lineOf_append_drop]
  · have := lineOf_length_le t
    simp only [List.length_append, List.length_drop]; push_cast; omega

theorem rlLimit_none {size : Option Nat} {bs : Nat} {line : Bytes} (h : rlLimit size bs line = none) :
    ∃ sz, size = some sz ∧ sz ≤ line.length := by
  cases size with
  | none => cases h
  | some sz =>
    simp only [rlLimit] at h
    split at h
    · exact ⟨sz, rfl, by omega⟩
    · cases h

theorem rlLimit_some {size : Option Nat} {bs n : Nat} {line : Bytes} (hb : 1 ≤ bs)
    (h : rlLimit size bs line = some n) : 1 ≤ n ∧ NoTrunc size line := by
  cases size with
  | none => cases h; exact ⟨hb, trivial⟩
  | some sz =>
    simp only [rlLimit] at h
    split at h
    · cases h
    · cases h; simp only [NoTrunc]; omega

/-- `readline` from the point where `line` has been accumulated: as if `line` were the read-ahead buffer -/
theorem rlFrom_gen (L : ReadLaws o) (size : Option Nat) (fuel : Nat) (f : BF σ) (line : Bytes)
    (hok : L.ok f.s f.realpos) (hb : 1 ≤ f.bufsize) (hf : (L.rest f.s f.realpos).length < fuel) :
    Outcome L (readlinePost (readlineLoop o size fuel f line))
      (fun f' out => out = specLine size (line ++ L.rest f.s f.realpos) ∧ ReadPost L { f with rbuf := line } f' out)
      (fun f' => pendG L f' = line ++ L.rest f.s f.realpos) := by
  induction fuel generalizing f line with
  | zero => omega
  | succ fuel ih =>
    rw [readlineLoop]
    cases hl : rlLimit size f.bufsize line with
    | none =>
      obtain ⟨sz, rfl, hge⟩ := rlLimit_none hl
      simp only [Option.getD_some]
      rw [readlinePost_brk]
      refine Outcome.ret ⟨?_, ?_⟩
      · simp only [specLine]; rw [List.take_append_of_le_length hge]
      · have := ReadPost.brk (L := L) (f := f) (line.take sz) (line.drop sz) hok
        rwa [List.take_append_drop] at this
    | some n =>
      obtain ⟨hn, hnt⟩ := rlLimit_some hb hl
      simp only
      by_cases hc : line.contains LF = true
      · rw [if_pos hc, readlinePost_brk_lf _ _ hc, readlinePost_brk]
        refine Outcome.ret ⟨(specLine_of_contains size line _ hnt hc).symm, ?_⟩
        have := ReadPost.brk (L := L) (f := f) line [] hok
        rwa [List.append_nil] at this
      · rw [if_neg hc]
        have hc' : line.contains LF = false := by simpa using hc
        rcases read_step L f n hok hn with ⟨s', h1, h2, h3, h4, h5⟩ | ⟨d, s', h1, hne, h3, h4, h5⟩ | ⟨e, s', h1, he, h3⟩
        · rw [h1, h2, List.append_nil]
          refine Outcome.ret ⟨(specLine_eof size line hnt hc').symm, ?_, h4, rfl, ?_, h5, ⟨rfl, rfl, rfl, rfl, rfl⟩⟩
          · show line ++ ([] ++ L.rest s' f.realpos) = line ++ L.rest f.s f.realpos
            rw [h3, h2]; rfl
          · show f.realpos - (f.pos + line.length + (([] : Bytes).length : Int)) = _
            simp
        · rw [h1]
          simp only [show d.isEmpty = false by simpa using hne, Bool.false_eq_true, if_false]
          have hstep : ReadPost L { f with rbuf := line }
              { f with s := s', rbuf := line ++ d, realpos := f.realpos + d.length } [] :=
            ReadPost.fetch (f := { f with rbuf := line }) h3 h4 h5
          refine (ih { f with s := s', realpos := f.realpos + d.length } (line ++ d) h4 hb
            (Nat.lt_of_lt_of_le (length_lt_of_append hne h3) (Nat.le_of_lt_succ hf))).mono ?_ ?_
          · rintro f' out ⟨e1, e2⟩
            exact ⟨by rw [e1, List.append_assoc, h3], hstep.trans e2⟩
          · intro f' e1
            rw [e1, List.append_assoc, h3]
        · rw [h1]
          refine Outcome.raise he ?_
          show line ++ L.rest s' f.realpos = _
          rw [h3]

/-! ## the calls themselves -/

/-- precondition of a read-type call: the file is open for reading and the "flush before reading" step has
    nothing to do (no pending writes, or a stream that cannot seek) -/
structure ReadPre (L : ReadLaws o) (f : BF σ) : Prop where
  ok : L.ok f.s f.realpos
  live : f.closed = false
  rd : f.rd = true
  sync : f.wbuf = [] ∨ o.seekable = false

theorem ReadPre.next {f f' : BF σ} {out : Bytes} (h : ReadPre L f) (p : ReadPost L f f' out) : ReadPre L f' :=
  ⟨p.ok, p.cli.closed.trans h.live, (congrArg Cfg.rd p.cli.conf).trans h.rd,
    h.sync.imp (fun hw => p.cli.wbuf.trans hw) id⟩

theorem syncForRead_noop (f : BF σ) (h : f.wbuf = [] ∨ o.seekable = false) : syncForRead o f = (f, .ok ()) := by
  rcases h with h | h <;> simp [syncForRead, h]

theorem syncForRead_wnil (f : BF σ) (hw : f.wbuf = []) : syncForRead o f = (f, .ok ()) :=
  syncForRead_noop f (Or.inl hw)

theorem usable (c b : Bool) : (c = false ∧ b = true) ∨ (c = true ∨ b = false) := by
  cases c <;> cases b <;> simp

theorem read_refused (o : Ops σ) (f : BF σ) (size : Option Nat) (h : f.closed = true ∨ f.rd = false) :
    read o f size = (f, .error (if f.closed then .closed else .notReadable)) := by
  unfold read
  rcases h with h | h
  · simp [h]
  · cases hc : f.closed <;> simp [h]

theorem readline_refused (o : Ops σ) (f : BF σ) (size : Option Nat) (h : f.closed = true ∨ f.rd = false) :
    readline o f size = (f, .error (if f.closed then .closed else .notReadable)) := by
  unfold readline
  rcases h with h | h
  · simp [h]
  · cases hc : f.closed <;> simp [h]

theorem read_after_sync {f g : BF σ} (size : Option Nat) (hc : f.closed = false) (hr : f.rd = true)
    (hs : syncForRead o f = (g, .ok ())) (pre : ReadPre L g) : read o f size = read o g size := by
  unfold read
  rw [if_neg (by simp [hc]), if_neg (by simp [hr]), if_neg (by simp [pre.live]), if_neg (by simp [pre.rd]), hs,
    syncForRead_noop g pre.sync]

theorem readline_after_sync {f g : BF σ} (size : Option Nat) (hc : f.closed = false) (hr : f.rd = true)
    (hs : syncForRead o f = (g, .ok ())) (pre : ReadPre L g) : readline o f size = readline o g size := by
  unfold readline
  rw [if_neg (by simp [hc]), if_neg (by simp [hr]), if_neg (by simp [pre.live]), if_neg (by simp [pre.rd]), hs,
    syncForRead_noop g pre.sync]

theorem read_some_gen (L : ReadLaws o) (f : BF σ) (n : Nat) (h : ReadPre L f) :
    Outcome L (read o f (some n))
      (fun f' out => out = (pendG L f).take n ∧ ReadPost L f f' out) (fun f' => pendG L f' = pendG L f) := by
  unfold read
  rw [if_neg (by simp [h.live]), if_neg (by simp [h.rd]), syncForRead_noop f h.sync]
  simp only
  by_cases hle : n ≤ f.rbuf.length
  · rw [if_pos hle]
    exact Outcome.ret ⟨(take_append_or _ _ _ (Or.inl hle)).symm, ReadPost.take n h.ok⟩
  · rw [if_neg hle]
    have hg := readFillLoop_gen L n (o.bound f.s f.realpos + 1) f h.ok
      (by have := L.bound_spec f.s f.realpos h.ok; omega)
    rcases hres : readFillLoop o n (o.bound f.s f.realpos + 1) f with ⟨f1, e | u⟩
    · rw [hres] at hg; exact hg
    · rw [hres] at hg
      obtain ⟨g1, g2⟩ := hg
      refine Outcome.ret ⟨?_, g1.trans (ReadPost.take n g1.ok)⟩
      rw [← g1.pend]
      exact (take_append_or _ _ _ g2).symm

theorem read_none_gen (L : ReadLaws o) (f : BF σ) (h : ReadPre L f) (hd : 1 ≤ f.dflt) :
    Outcome L (read o f none)
      (fun f' out => out = pendG L f ∧ ReadPost L f f' out ∧ pendG L f' = []) (fun f' => pendG L f' = pendG L f) := by
  unfold read
  rw [if_neg (by simp [h.live]), if_neg (by simp [h.rd]), syncForRead_noop f h.sync]
  simp only
  -- the whole read-ahead buffer goes into the accumulator first
  have h0 : ReadPost L f { f with rbuf := [], pos := f.pos + f.rbuf.length } f.rbuf :=
    ⟨rfl, h.ok, rfl, by show _ - (_ + _ + (([] : Bytes).length : Int)) = _; simp, L.fr_refl _, ⟨rfl, rfl, rfl, rfl, rfl⟩⟩
  refine (readAllLoop_gen L (o.bound f.s f.realpos + 1) { f with rbuf := [], pos := f.pos + f.rbuf.length } f.rbuf
    rfl h.ok hd (by have := L.bound_spec f.s f.realpos h.ok; simp only; omega)).mono ?_ (fun _ e => e)
  rintro f' out ⟨e1, e2, e3⟩
  exact ⟨e1, e1 ▸ h0.trans e2, e3⟩

theorem readline_gen (L : ReadLaws o) (f : BF σ) (size : Option Nat) (h : ReadPre L f) (hb : 1 ≤ f.bufsize) :
    Outcome L (readline o f size)
      (fun f' out => out = specLine size (pendG L f) ∧ ReadPost L f f' out) (fun f' => pendG L f' = pendG L f) := by
  unfold readline
  rw [if_neg (by simp [h.live]), if_neg (by simp [h.rd]), syncForRead_noop f h.sync]
  exact rlFrom_gen L size (o.bound f.s f.realpos + 1) f f.rbuf h.ok hb
    (by have := L.bound_spec f.s f.realpos h.ok; omega)

theorem ReadPost.pend_drop {f f' : BF σ} {out : Bytes} (p : ReadPost L f f' out) :
    pendG L f' = (pendG L f).drop out.length := by
  rw [← p.pend, List.drop_left]

theorem readlinesLoop_gen (L : ReadLaws o) (hnf : ∀ e, ¬ L.fail e) (hint : Option Int) (fuel : Nat) (f : BF σ)
    (acc : List Bytes) (count : Nat) (h : ReadPre L f) (hb : 1 ≤ f.bufsize) (hf : (pendG L f).length < fuel) :
    ∃ f' new, readlinesLoop o hint fuel f acc count = (f', .ok (acc ++ new)) ∧
      LinesOf (pendG L f) new (pendG L f') ∧ ReadPost L f f' new.flatten ∧ (hint = none → pendG L f' = []) := by
  induction fuel generalizing f acc count with
  | zero => omega
  | succ fuel ih =>
    rw [readlinesLoop]
    obtain ⟨f1, l, hres, hl, h2⟩ := (readline_gen L f none h hb).returns hnf
    have hl : l = lineOf (pendG L f) := hl
    subst hl
    rw [hres]
    simp only
    have hpend1 := h2.pend_drop
    by_cases he : (lineOf (pendG L f)).isEmpty = true
    · have hnil : lineOf (pendG L f) = [] := by simpa using he
      rw [hnil] at h2 hpend1
      rw [if_pos he]
      refine ⟨f1, [], by simp, ?_, h2, fun _ => ?_⟩
      · rw [hpend1]; exact LinesOf.nil _
      · rw [hpend1]; exact lineOf_eq_nil _ hnil
    · rw [if_neg he]
      have hne : lineOf (pendG L f) ≠ [] := by simpa using he
      by_cases hs : rlStop hint (count + (lineOf (pendG L f)).length) = true
      · rw [if_pos hs]
        refine ⟨f1, [lineOf (pendG L f)], rfl, ?_, by simpa using h2, fun hn => ?_⟩
        · exact LinesOf.cons _ _ _ _ rfl hne (by rw [hpend1]; exact LinesOf.nil _)
        · subst hn; simp [rlStop] at hs
      · rw [if_neg hs]
        have hlen : 0 < (lineOf (pendG L f)).length := List.length_pos_iff.2 hne
        have hle := lineOf_length_le (pendG L f)
        obtain ⟨f', new, g1, g2, g3, g4⟩ := ih f1 (acc ++ [lineOf (pendG L f)]) (count + (lineOf (pendG L f)).length)
          (h.next h2) (by rw [show f1.bufsize = f.bufsize from congrArg Cfg.bufsize h2.cli.conf]; exact hb)
          (by rw [hpend1, List.length_drop]; omega)
        refine ⟨f', lineOf (pendG L f) :: new, by rw [g1]; simp, ?_, by simpa using h2.trans g3, g4⟩
        exact LinesOf.cons _ _ _ _ rfl hne (by rw [← hpend1]; exact g2)

theorem readlines_gen (L : ReadLaws o) (hnf : ∀ e, ¬ L.fail e) (hint : Option Int) (f : BF σ) (h : ReadPre L f)
    (hb : 1 ≤ f.bufsize) :
    ∃ f' new, readlinesLoop o hint (f.rbuf.length + o.bound f.s f.realpos + 1) f [] 0 = (f', .ok new) ∧
      LinesOf (pendG L f) new (pendG L f') ∧ ReadPost L f f' new.flatten ∧ (hint = none → pendG L f' = []) := by
  have := L.bound_spec f.s f.realpos h.ok
  obtain ⟨f', new, h1, h2⟩ := readlinesLoop_gen L hnf hint (f.rbuf.length + o.bound f.s f.realpos + 1) f [] 0 h hb
    (by simp only [pendG, List.length_append]; omega)
  exact ⟨f', new, by simpa using h1, h2⟩

/-- `__next__` until StopIteration is `readlines()` without a hint -/
theorem iterLoop_eq_readlinesLoop (o : Ops σ) (fuel : Nat) (f : BF σ) (acc : List Bytes) (count : Nat) :
    iterLoop o fuel f acc = readlinesLoop o none fuel f acc count := by
  induction fuel generalizing f acc count with
  | zero => rfl
  | succ fuel ih =>
    rw [iterLoop, readlinesLoop, next]
    rcases readline o f none with ⟨f1, e | l⟩
    · rfl
    · by_cases he : l.isEmpty = true
      · simp [he]
      · simp only [he, Bool.false_eq_true, if_false, rlStop]
        exact ih f1 _ _

/-! ## the short-read stream `chanOps` is lawful and never raises -/

def chanLaws : ReadLaws chanOps where
  rest s _ := s.inp
  ok _ _ := True
  fr a b := b.out = a.out ∧ b.wg = a.wg
  fail _ := False
  fr_refl _ := ⟨rfl, rfl⟩
  fr_trans _ _ _ h1 h2 := ⟨h2.1.trans h1.1, h2.2.trans h1.2⟩
  read_spec s _ n _ hn := Or.inl ⟨grant s.rg n, grant_pos _ _ hn, rfl, trivial, rfl, rfl, rfl⟩
  bound_spec _ _ _ := Nat.le_refl _

theorem pending_eq_pendG (f : BF Chan) : pending f = pendG chanLaws f := rfl

theorem chanLaws_never_fails : ∀ e, ¬ chanLaws.fail e := fun _ => id

theorem chanPre {f : BF Chan} (hc : f.closed = false) (hr : f.rd = true) : ReadPre chanLaws f :=
  ⟨trivial, hc, hr, Or.inr rfl⟩

theorem ReadPost.chan {f f' : BF Chan} {out : Bytes} (p : ReadPost chanLaws f f' out) :
    out ++ pending f' = pending f ∧ wside f' = wside f ∧ cfg f' = cfg f ∧ f'.closed = f.closed :=
  ⟨by rw [pending_eq_pendG, pending_eq_pendG]; exact p.pend, by simp only [wside]; rw [p.fr.1, p.fr.2, p.cli.wbuf],
    p.cli.conf, p.cli.closed⟩

/-! ## the stream of PV.Model.ChanX, whose `_read` may raise -/

theorem chanOpsX_read_fail (s : ChanX) (rp : Int) (n : Nat) (rest : List Bool) (h : s.fails = true :: rest) :
    chanOpsX.read s rp n = ({ s with fails := rest }, .error (.stream eTimeout)) := by
  simp [chanOpsX, h]

theorem chanOpsX_read_ok (s : ChanX) (rp : Int) (n : Nat) (h : ∀ rest, s.fails ≠ true :: rest) :
    chanOpsX.read s rp n =
      ({ c := { s.c with inp := s.c.inp.drop (grant s.c.rg n), rg := s.c.rg.tail }, fails := s.fails.tail },
       .ok (s.c.inp.take (grant s.c.rg n))) := by
  cases hf : s.fails with
  | nil => simp [chanOpsX, hf]
  | cons b rest =>
    cases b with
    | true => exact absurd hf (h rest)
    | false => simp [chanOpsX, hf]

def chanXLaws : ReadLaws chanOpsX where
  rest s _ := s.c.inp
  ok _ _ := True
  fr _ _ := True
  fail e := e = .stream eTimeout
  fr_refl _ := trivial
  fr_trans _ _ _ _ _ := trivial
  read_spec s rp n _ hn := by
    by_cases hfail : ∃ rest, s.fails = true :: rest
    · obtain ⟨rest, h⟩ := hfail
      rw [chanOpsX_read_fail s rp n rest h]
      exact Or.inr ⟨_, rfl, rfl, rfl⟩
    · rw [chanOpsX_read_ok s rp n (fun rest h => hfail ⟨rest, h⟩)]
      exact Or.inl ⟨grant s.c.rg n, grant_pos _ _ hn, rfl, trivial, rfl, trivial⟩
  bound_spec _ _ _ := Nat.le_refl _

end PV.BufFile
