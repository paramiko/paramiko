/-
  Slices of the file, the dict helpers, the buffer lookup; then the prefetch model as two relations, `Stop` for
  `advance` and `Step` for `step`, over which every invariant is proved by induction along schedules.
-/
import PV.Model.Prefetch
namespace PV.Prefetch
open PV

/-- `d` is the file content at offset `k` -/
def IsSl (f : Bytes) (k : Nat) (d : Bytes) : Prop := d = slice f k d.length

theorem isSl_nil (f : Bytes) (k : Nat) : IsSl f k [] := by simp [IsSl, slice]

theorem isSl_slice (f : Bytes) (k n : Nat) : IsSl f k (slice f k n) := by
  unfold IsSl slice
  rw [List.length_take]
  by_cases h : n ≤ (f.drop k).length
  · rw [Nat.min_eq_left h]
  · rw [Nat.min_eq_right (by omega), List.take_of_length_le (by omega), List.take_of_length_le (Nat.le_refl _)]

theorem slice_length (f : Bytes) (off n : Nat) : (slice f off n).length = min n (f.length - off) := by
  unfold slice; rw [List.length_take, List.length_drop]

/-- what an honest server sends for `len` bytes at `off` when it is willing to send `k`: at least one byte,
    at most `len`, the file's content there -/
theorem isSl_served (f : Bytes) (off len k : Nat) (h : min len (f.length - off) ≠ 0) :
    IsSl f off (slice f off (max 1 (min k (min len (f.length - off))))) ∧
    0 < (slice f off (max 1 (min k (min len (f.length - off))))).length ∧
    (slice f off (max 1 (min k (min len (f.length - off))))).length ≤ len := by
  refine ⟨isSl_slice _ _ _, ?_⟩
  generalize hm : min len (f.length - off) = m at h ⊢
  have h3 : max 1 (min k m) ≤ m := Nat.max_le.mpr ⟨Nat.pos_of_ne_zero h, Nat.min_le_right ..⟩
  rw [slice_length, Nat.min_eq_left (Nat.le_trans h3 (hm ▸ Nat.min_le_right ..))]
  exact ⟨Nat.le_max_left .., Nat.le_trans h3 (hm ▸ Nat.min_le_left ..)⟩

theorem isSl_len {f : Bytes} {k : Nat} {d : Bytes} (h : IsSl f k d) : k + d.length ≤ f.length ∨ d.length = 0 := by
  have := congrArg List.length h
  rw [slice_length] at this
  omega

theorem isSl_take {f : Bytes} {k : Nat} {d : Bytes} (h : IsSl f k d) (n : Nat) : IsSl f k (d.take n) := by
  unfold IsSl slice at *
  rw [List.length_take]
  conv => lhs; rw [h]
  rw [List.take_take]

theorem isSl_drop {f : Bytes} {k : Nat} {d : Bytes} (h : IsSl f k d) (n : Nat) : IsSl f (k + n) (d.drop n) := by
  unfold IsSl slice at *
  rw [List.length_drop]
  conv => lhs; rw [h]
  rw [List.drop_take, List.drop_drop]

theorem isSl_append {f : Bytes} {k : Nat} {a d : Bytes} (ha : IsSl f k a) (hd : IsSl f (k + a.length) d) :
    IsSl f k (a ++ d) := by
  unfold IsSl slice at *
  rw [List.length_append, List.take_add]
  rw [← ha, List.drop_drop, ← hd]

/-- once the position is at or past EOF, the accumulated slice is everything from `k` on -/
theorem isSl_at_eof {f : Bytes} {k : Nat} {a : Bytes} (ha : IsSl f k a) (he : f.length ≤ k + a.length) :
    a = f.drop k ∧ ∀ w, a.length ≤ w → a = slice f k w := by
  unfold IsSl slice at *
  have hl : (f.drop k).length ≤ a.length := by rw [List.length_drop]; omega
  constructor
  · rw [ha]; exact List.take_of_length_le hl
  · intro w hw
    rw [ha, List.take_of_length_le hl, List.take_of_length_le (by omega)]

/-! ## dict helpers -/

theorem mem_dictSet {α : Type} {d : List (Nat × α)} {k : Nat} {v : α} {e : Nat × α}
    (h : e ∈ dictSet d k v) : e = (k, v) ∨ e ∈ d := by
  unfold dictSet at h
  split at h
  · rw [List.mem_map] at h
    obtain ⟨x, hx, rfl⟩ := h
    split
    · left; rfl
    · right; exact hx
  · rw [List.mem_append] at h
    rcases h with h | h
    · right; exact h
    · left; simpa using h

theorem mem_dictDel {α : Type} {d : List (Nat × α)} {k : Nat} {e : Nat × α}
    (h : e ∈ dictDel d k) : e ∈ d ∧ e.1 ≠ k := by
  unfold dictDel at h
  rw [List.mem_filter] at h
  exact ⟨h.1, by simpa using h.2⟩

theorem dictGet_mem {α : Type} {d : List (Nat × α)} {k : Nat} {v : α}
    (h : dictGet? d k = some v) : (k, v) ∈ d := by
  unfold dictGet? at h
  cases hf : d.find? (fun e => e.1 == k) with
  | none => simp [hf] at h
  | some e =>
    simp [hf] at h
    have hm := List.mem_of_find?_eq_some hf
    have hk := List.find?_some hf
    simp at hk
    subst h
    have : e = (k, e.2) := by cases e; simp at hk ⊢; exact hk
    rw [← this]; exact hm

theorem dictHas_of_mem {α : Type} {d : List (Nat × α)} {e : Nat × α} (h : e ∈ d) : dictHas d e.1 = true := by
  unfold dictHas
  rw [List.any_eq_true]
  exact ⟨e, h, by simp⟩

theorem dictGet_isSome_of_has {α : Type} {d : List (Nat × α)} {k : Nat} (h : dictHas d k = true) :
    (dictGet? d k).isSome = true := by
  unfold dictHas at h
  unfold dictGet?
  rw [List.any_eq_true] at h
  obtain ⟨e, he, hk⟩ := h
  rw [Option.isSome_map]
  rw [List.find?_isSome]
  exact ⟨e, he, hk⟩

theorem dictHas_iff {α : Type} {d : List (Nat × α)} {n : Nat} : dictHas d n = true ↔ ∃ e ∈ d, e.1 = n := by
  simp [dictHas]

theorem dictHas_dictDel_false_iff {α : Type} {d : List (Nat × α)} {k n : Nat} :
    dictHas (dictDel d k) n = false ↔ n = k ∨ dictHas d n = false := by
  rw [← Bool.not_eq_true, ← Bool.not_eq_true, dictHas_iff, dictHas_iff]
  simp only [dictDel, List.mem_filter, bne_iff_ne, ne_eq]
  constructor
  · intro h
    by_cases hk : n = k
    · exact .inl hk
    · exact .inr fun ⟨e, he, hn⟩ => h ⟨e, ⟨he, hn ▸ hk⟩, hn⟩
  · rintro (hk | h) ⟨e, ⟨he, hek⟩, hn⟩
    · exact hek (hn.trans hk)
    · exact h ⟨e, he, hn⟩

theorem dictHas_dictSet_false_iff {α : Type} {d : List (Nat × α)} {k n : Nat} {v : α} :
    dictHas (dictSet d k v) n = false ↔ n ≠ k ∧ dictHas d n = false := by
  rw [← Bool.not_eq_true, ← Bool.not_eq_true, dictHas_iff, dictHas_iff]
  unfold dictSet
  split
  · rename_i hk
    obtain ⟨e0, he0, hk0⟩ := dictHas_iff.mp hk
    -- the update keeps every key
    have hkeys : (∃ e ∈ d.map (fun e => if e.1 == k then (k, v) else e), e.1 = n) ↔ ∃ e ∈ d, e.1 = n := by
      simp only [List.mem_map]
      constructor
      · rintro ⟨_, ⟨e, he, rfl⟩, hn⟩
        refine ⟨e, he, ?_⟩
        split at hn
        · rename_i h; rw [← hn]; simpa using h
        · exact hn
      · rintro ⟨e, he, hn⟩
        refine ⟨_, ⟨e, he, rfl⟩, ?_⟩
        split
        · rename_i h; rw [← hn]; exact (by simpa using h : e.1 = k).symm
        · exact hn
    rw [hkeys]
    exact ⟨fun h => ⟨fun hc => h ⟨e0, he0, hk0.trans hc.symm⟩, h⟩, fun h => h.2⟩
  · simp only [List.mem_append, List.mem_singleton]
    constructor
    · intro h
      exact ⟨fun hc => h ⟨(k, v), .inr rfl, hc.symm⟩, fun ⟨e, he, hn⟩ => h ⟨e, .inl he, hn⟩⟩
    · rintro ⟨hne, h⟩ ⟨e, he | he, hn⟩
      · exact h ⟨e, he, hn⟩
      · exact hne (by rw [← hn, he])

theorem dictSet_ne_nil {α : Type} (d : List (Nat × α)) (k : Nat) (v : α) : dictSet d k v ≠ [] := fun hc =>
  (dictHas_dictSet_false_iff (d := d) (k := k) (n := k) (v := v)).mp (by rw [hc]; rfl) |>.1 rfl

theorem dictHas_false_of_get_none {α : Type} {d : List (Nat × α)} {k : Nat} (h : dictGet? d k = none) :
    dictHas d k = false :=
  Bool.eq_false_iff.mpr fun hc => by
    have := dictGet_isSome_of_has hc
    rw [h] at this
    cases this

/-! ## buffer lookup and `_read_prefetch` -/

theorem maxKeyLE_le (bufs : List (Nat × Bytes)) (off : Nat) :
    ∀ idx, maxKeyLE bufs off = some idx → idx ≤ off := by
  unfold maxKeyLE
  suffices h : ∀ (acc : Option Nat), (∀ m, acc = some m → m ≤ off) →
      ∀ idx, bufs.foldl (fun acc e => if e.1 ≤ off then
        (match acc with | none => some e.1 | some m => some (max m e.1)) else acc) acc = some idx → idx ≤ off by
    exact h none (by simp)
  induction bufs with
  | nil => intro acc h idx hi; exact h idx hi
  | cons e rest ih =>
    intro acc h idx hi
    rw [List.foldl_cons] at hi
    refine ih _ ?_ idx hi
    intro m hm
    split at hm
    · rename_i hle
      cases acc with
      | none => simp at hm; omega
      | some a => simp at hm; have := h a rfl; omega
    · exact h m hm

theorem inBuffers_some {bufs : List (Nat × Bytes)} {off idx : Nat} (h : inBuffers bufs off = some idx) :
    ∃ d, dictGet? bufs idx = some d ∧ idx ≤ off ∧ off - idx < d.length := by
  unfold inBuffers at h
  cases hm : maxKeyLE bufs off with
  | none => simp [hm] at h
  | some i =>
    simp only [hm] at h
    cases hg : dictGet? bufs i with
    | none => simp [hg] at h
    | some d =>
      simp only [hg] at h
      split at h
      · simp at h
      · rename_i hlt
        simp at h
        subst h
        exact ⟨d, hg, maxKeyLE_le bufs off i hm, by omega⟩

theorem takeBuf_length {bufs : List (Nat × Bytes)} {idx realpos size : Nat} {pre : Bytes}
    (hg : dictGet? bufs idx = some pre) (hlt : realpos - idx < pre.length) (hs : 0 < size) :
    0 < (takeBuf bufs idx realpos size).2.length := by
  unfold takeBuf
  simp only [hg]
  have hp1 : 0 < (if realpos - idx > 0 then pre.drop (realpos - idx) else pre).length := by
    split
    · rw [List.length_drop]; omega
    · omega
  generalize (if realpos - idx > 0 then pre.drop (realpos - idx) else pre) = p1 at hp1 ⊢
  split
  · rw [List.length_take]; omega
  · exact hp1

theorem takeBuf_spec {f : Bytes} {bufs : List (Nat × Bytes)} {idx realpos size : Nat} {pre : Bytes}
    (hb : ∀ e ∈ bufs, IsSl f e.1 e.2) (hg : dictGet? bufs idx = some pre)
    (hle : idx ≤ realpos) :
    (∀ e ∈ (takeBuf bufs idx realpos size).1, IsSl f e.1 e.2) ∧ IsSl f realpos (takeBuf bufs idx realpos size).2 := by
  have hpre : IsSl f idx pre := hb _ (dictGet_mem hg)
  unfold takeBuf
  simp only [hg]
  -- the remaining prefix / the part handed out / the remaining suffix
  have hp1 : IsSl f realpos (if realpos - idx > 0 then pre.drop (realpos - idx) else pre) := by
    split
    · have := isSl_drop hpre (realpos - idx)
      have e : idx + (realpos - idx) = realpos := by omega
      rwa [e] at this
    · have e : idx = realpos := by omega
      rw [← e]; exact hpre
  have hb1 : ∀ e ∈ (if realpos - idx > 0 then dictSet (dictDel bufs idx) idx (pre.take (realpos - idx))
      else dictDel bufs idx), IsSl f e.1 e.2 := by
    intro e he
    split at he
    · rcases mem_dictSet he with h | h
      · subst h; exact isSl_take hpre _
      · exact hb _ (mem_dictDel h).1
    · exact hb _ (mem_dictDel he).1
  generalize (if realpos - idx > 0 then pre.drop (realpos - idx) else pre) = p1 at hp1 ⊢
  generalize (if realpos - idx > 0 then dictSet (dictDel bufs idx) idx (pre.take (realpos - idx))
      else dictDel bufs idx) = b1 at hb1 ⊢
  refine ⟨?_, ?_⟩
  · intro e he
    split at he
    · rcases mem_dictSet he with h | h
      · subst h; exact isSl_drop hp1 size
      · exact hb1 _ h
    · exact hb1 _ he
  · split
    · exact isSl_take hp1 _
    · exact hp1

/-! ## the machine as rules

`step` and `advance` are programs; the invariants are proved over these two relations instead, each of which is
shown once to cover its program. -/

theorem asyncResponse_some {s s1 : St} {n : Nat} {r : Resp} (h : asyncResponse s n r = some s1) :
    ∃ off len, dictGet? s.extents n = some (off, len) ∧
      s1 = { s with bufs := (match (generalizing := false) r with | .data d => dictSet s.bufs off d | _ => s.bufs),
                    extents := dictDel s.extents n,
                    done := if (dictDel s.extents n).isEmpty then true else s.done } := by
  unfold asyncResponse at h
  split at h
  · cases h
  · rename_i off len hg
    refine ⟨off, len, hg, ?_⟩
    cases r <;> (cases h; rfl)

/-- Where the reader-local computation `advance` hands over, `c` being the context it has arrived at: the call is
    complete, the fuel ran out, or the next shared access is due (a prefetch answer to wait for, or a synchronous
    request to allocate — after switching prefetching off if all prefetch answers are in).
    The second alternative of `fin` is the degenerate exit: with a request size of 0 (`maxReq` or `bufRead` is 0) a
    buffer yields no bytes and `read` returns what it has; the content invariant rules it out. -/
inductive Stop (s : St) (c : RCtx) : St → Prop
  | fin (h : wantMet c = true ∨ ¬ (0 < s.maxReq ∧ 0 < s.bufRead)) : Stop s c (finish s c)
  | cont : Stop s c { s with pc := .cont c }
  | recvPf (hm : wantMet c = false) (hz : c.size = reqSize s c) (hp : s.prefetching = true) (hd : s.done = false) :
      Stop s c { s with pc := .recvPf c }
  | sync (hm : wantMet c = false) (hz : c.size = reqSize s c) (pf : Bool) (hp : pf = true → s.prefetching = true) :
      Stop s c { s with prefetching := pf, pc := .allocSync c }

theorem reqSize_pos {s : St} {c : RCtx} (hp : 0 < s.maxReq ∧ 0 < s.bufRead) (hm : wantMet c = false) :
    0 < reqSize s c := by
  unfold reqSize
  unfold wantMet at hm
  cases hwant : c.want with
  | some w =>
    simp only [hwant] at hm ⊢
    have : c.acc.length < w := by simpa using hm
    split <;> omega
  | none =>
    simp only
    omega

/-- `advance` takes buffered bytes some number of times — which changes `bufs`, `realpos` and the context's `acc` and
    `size`, nothing else — and then stops.  `P` is any property of (state, context) that taking buffered bytes
    preserves. -/
theorem advance_stop {P : St → RCtx → Prop}
    (take : ∀ s c idx, P s c → wantMet c = false → inBuffers s.bufs s.realpos = some idx →
      P { s with bufs := (takeBuf s.bufs idx s.realpos (reqSize s c)).1,
                 realpos := s.realpos + (takeBuf s.bufs idx s.realpos (reqSize s c)).2.length }
        { c with size := reqSize s c, acc := c.acc ++ (takeBuf s.bufs idx s.realpos (reqSize s c)).2 })
    (size : ∀ s c z, P s c → P s { c with size := z })
    (fuel : Nat) (s : St) (c : RCtx) (h : P s c) :
    ∃ b p a z, P { s with bufs := b, realpos := p } { c with acc := a, size := z } ∧
      Stop { s with bufs := b, realpos := p } { c with acc := a, size := z } (advance fuel s c) := by
  induction fuel generalizing s c with
  | zero => exact ⟨s.bufs, s.realpos, c.acc, c.size, h, .cont⟩
  | succ fuel ih =>
    unfold advance
    by_cases hm : wantMet c = true
    · rw [if_pos hm]
      exact ⟨s.bufs, s.realpos, c.acc, c.size, h, .fin (.inl hm)⟩
    rw [if_neg hm]
    replace hm : wantMet c = false := by simpa using hm
    by_cases hp : s.prefetching = true
    · simp only [if_pos hp]
      cases hib : inBuffers s.bufs s.realpos with
      | some idx =>
        have h' := take s c idx h hm hib
        by_cases h0 : (takeBuf s.bufs idx s.realpos (reqSize s c)).2.length = 0
        · simp only [if_pos h0]
          refine ⟨_, _, _, _, h', .fin (.inr fun hpos => ?_)⟩
          obtain ⟨pre, hg, _, hlt⟩ := inBuffers_some hib
          have := takeBuf_length hg hlt (reqSize_pos (s := s) hpos hm)
          omega
        · simp only [if_neg h0]
          exact ih _ _ h'
      | none =>
        -- the stop is at `{ c with size := … }`, which `wantMet` does not read: `by exact` lets the constructor's
        -- context be fixed by the goal before `hm` is checked against it
        by_cases hd : s.done = true
        · simp only [if_pos hd]
          exact ⟨s.bufs, s.realpos, c.acc, reqSize s c, size s c _ h, .sync (by exact hm) rfl false (by simp)⟩
        · simp only [if_neg hd]
          exact ⟨s.bufs, s.realpos, c.acc, reqSize s c, size s c _ h, .recvPf (by exact hm) rfl hp (by simpa using hd)⟩
    · simp only [if_neg hp]
      exact ⟨s.bufs, s.realpos, c.acc, reqSize s c, size s c _ h, .sync (by exact hm) rfl s.prefetching id⟩

theorem advance_stop_any (fuel : Nat) (s : St) (c : RCtx) :
    ∃ b p a z, Stop { s with bufs := b, realpos := p } { c with acc := a, size := z } (advance fuel s c) := by
  obtain ⟨b, p, a, z, -, hs⟩ := advance_stop (P := fun _ _ => True) (fun _ _ _ _ _ _ => trivial)
    (fun _ _ _ _ => trivial) fuel s c trivial
  exact ⟨b, p, a, z, hs⟩

/-- `step` as a transition relation, one rule per enabled branch (`prefetchStart` / `readvStart` allow any non-empty
    chunk list where `step` computes one: an over-approximation, which is all the invariants need).  The rules for
    the reader's `read` are named after what arrives: an answer to a prefetch request is handed to `_async_response` (`recvPf`, `otherPf`), any
    other foreign answer is dropped (`dropPf`, `otherDrop`), the answer to the reader's own request ends or
    continues the read (`own*`). -/
inductive Step : St → Act → St → Prop
  | serve {s : St} {k num : Nat} {rest : List Nat} {i : Info} (hq : s.c2s = num :: rest) (hi : s.info[num]? = some i) :
      Step s (.serve k) { s with c2s := rest, s2c := s.s2c ++ [(num,
        if min i.len (s.file.length - i.off) = 0 then Resp.eof
        else Resp.data (slice s.file i.off (max 1 (min k (min i.len (s.file.length - i.off))))))] }
  | serveFail {s : St} {code num : Nat} {rest : List Nat} {i : Info} (hq : s.c2s = num :: rest)
      (hi : s.info[num]? = some i) :
      Step s (.serveFail code) { s with c2s := rest, s2c := s.s2c ++ [(num, Resp.err code)] }
  | tCheck {s : St} {i : Nat} {c : Chunk} {rest : List Chunk} {cap : Option Nat}
      (ht : s.threads[i]? = some ⟨.idle (c :: rest), cap⟩) (hc : capPass cap s.extents.length = true) :
      Step s (.tCheck i) (setThread s i (.checked (c :: rest)) cap)
  | tAlloc {s : St} {i : Nat} {c : Chunk} {rest : List Chunk} {cap : Option Nat}
      (ht : s.threads[i]? = some ⟨.checked (c :: rest), cap⟩) :
      Step s (.tAlloc i)
        { setThread s i (.allocd s.info.length c.1 c.2 rest) cap with info := s.info ++ [⟨c.1, c.2, .pf i⟩] }
  | tSend {s : St} {i num off len : Nat} {rest : List Chunk} {cap : Option Nat}
      (ht : s.threads[i]? = some ⟨.allocd num off len rest, cap⟩) :
      Step s (.tSend i) { setThread s i (.sent num off len rest) cap with c2s := s.c2s ++ [num] }
  | tReg {s : St} {i num off len : Nat} {rest : List Chunk} {cap : Option Nat}
      (ht : s.threads[i]? = some ⟨.sent num off len rest, cap⟩) :
      Step s (.tReg i) { setThread s i (.idle rest) cap with extents := dictSet s.extents num (off, len) }
  | seek {s : St} {off : Nat} (hpc : s.pc = .idle) :
      Step s (.rOp (.seek off)) { s with realpos := off, pos := off, rbuf := [] }
  | read {s : St} {want : Option Nat} (hpc : s.pc = .idle) :
      Step s (.rOp (.read want)) (advance s.fuel s { start := s.pos, want := want, acc := s.rbuf, size := 0 })
  | readAt {s : St} {off : Nat} {want : Option Nat} (hpc : s.pc = .idle) :
      Step s (.rOp (.readAt off want))
        (advance s.fuel { s with realpos := off, pos := off, rbuf := [] } { start := off, want := want, acc := [], size := 0 })
  | prefetchNone {s : St} {fs : Nat} {cap : Option Nat} (hpc : s.pc = .idle) : Step s (.rOp (.prefetch fs cap)) s
  | prefetchStart {s : St} {fs : Nat} {cap : Option Nat} {ch : List Chunk} (hpc : s.pc = .idle) (hne : ch ≠ []) :
      Step s (.rOp (.prefetch fs cap)) (startPrefetch s ch cap)
  | readvNone {s : St} {chunks : List Chunk} {cap : Option Nat} (hpc : s.pc = .idle) :
      Step s (.rOp (.readv chunks cap)) s
  | readvStart {s : St} {chunks ch : List Chunk} {cap : Option Nat} (hpc : s.pc = .idle) (hne : ch ≠ []) :
      Step s (.rOp (.readv chunks cap)) (startPrefetch s ch cap)
  | cont {s : St} {c : RCtx} (hpc : s.pc = .cont c) : Step s .rStep (advance s.fuel s c)
  | recvPf {s : St} {c : RCtx} {num o l j : Nat} {r : Resp} {rest : List (Nat × Resp)} (hpc : s.pc = .recvPf c)
      (hq : s.s2c = (num, r) :: rest) (ho : s.info[num]? = some ⟨o, l, .pf j⟩) :
      Step s .rStep { s with s2c := rest, pc := .dispPf c num r, saved := savedOf r s.saved }
  | dropPf {s : St} {c : RCtx} {num : Nat} {r : Resp} {rest : List (Nat × Resp)} (hpc : s.pc = .recvPf c)
      (hq : s.s2c = (num, r) :: rest) (ho : ∀ o l j, s.info[num]? ≠ some ⟨o, l, .pf j⟩) :
      Step s .rStep (afterCheck { s with s2c := rest } c)
  | dispPf {s s1 : St} {c : RCtx} {num : Nat} {r : Resp} (hpc : s.pc = .dispPf c num r)
      (ha : asyncResponse s num r = some s1) : Step s .rStep (afterCheck s1 c)
  | allocSync {s : St} {c : RCtx} (hpc : s.pc = .allocSync c) :
      Step s .rStep { s with info := s.info ++ [⟨s.realpos, c.size, .sync⟩], pc := .sendSync c s.info.length }
  | sendSync {s : St} {c : RCtx} {num : Nat} (hpc : s.pc = .sendSync c num) :
      Step s .rStep { s with c2s := s.c2s ++ [num], pc := .recvSync c num }
  | ownEmpty {s : St} {c : RCtx} {num : Nat} {d : Bytes} {rest : List (Nat × Resp)} (hpc : s.pc = .recvSync c num)
      (hq : s.s2c = (num, .data d) :: rest) (hd : d.length = 0) :
      Step s .rStep (finish { s with s2c := rest, realpos := s.realpos + d.length } { c with acc := c.acc ++ d })
  | ownData {s : St} {c : RCtx} {num : Nat} {d : Bytes} {rest : List (Nat × Resp)} (hpc : s.pc = .recvSync c num)
      (hq : s.s2c = (num, .data d) :: rest) (hd : d.length ≠ 0) :
      Step s .rStep
        (advance s.fuel { s with s2c := rest, realpos := s.realpos + d.length } { c with acc := c.acc ++ d })
  | ownEof {s : St} {c : RCtx} {num : Nat} {rest : List (Nat × Resp)} (hpc : s.pc = .recvSync c num)
      (hq : s.s2c = (num, .eof) :: rest) : Step s .rStep (finish { s with s2c := rest } c)
  | ownErr {s : St} {c : RCtx} {num code : Nat} {rest : List (Nat × Resp)} (hpc : s.pc = .recvSync c num)
      (hq : s.s2c = (num, .err code) :: rest) : Step s .rStep (raiseRead { s with s2c := rest } c code)
  | otherPf {s : St} {c : RCtx} {num n' o l j : Nat} {r : Resp} {rest : List (Nat × Resp)}
      (hpc : s.pc = .recvSync c num) (hq : s.s2c = (n', r) :: rest) (hn : n' ≠ num)
      (ho : s.info[n']? = some ⟨o, l, .pf j⟩) :
      Step s .rStep { s with s2c := rest, pc := .dispSync c num n' r, saved := savedOf r s.saved }
  | otherDrop {s : St} {c : RCtx} {num n' : Nat} {r : Resp} {rest : List (Nat × Resp)}
      (hpc : s.pc = .recvSync c num) (hq : s.s2c = (n', r) :: rest) (hn : n' ≠ num)
      (ho : ∀ o l j, s.info[n']? ≠ some ⟨o, l, .pf j⟩) : Step s .rStep { s with s2c := rest }
  | dispSync {s s1 : St} {c : RCtx} {num n' : Nat} {r : Resp} (hpc : s.pc = .dispSync c num n' r)
      (ha : asyncResponse s n' r = some s1) : Step s .rStep { s1 with pc := .recvSync c num }

theorem step_sound {s s' : St} {a : Act} (h : step s a = some s') : Step s a s' := by
  cases a with
  | serve k =>
    simp only [step] at h
    split at h
    · cases h
    · split at h <;> cases h
      exact .serve ‹_› ‹_›
  | serveFail code =>
    simp only [step] at h
    split at h
    · cases h
    · split at h <;> cases h
      exact .serveFail ‹_› ‹_›
  | tCheck i =>
    simp only [step] at h
    split at h
    · split at h <;> cases h
      exact .tCheck ‹_› ‹_›
    · cases h
  | tAlloc i => simp only [step] at h; split at h <;> cases h; exact .tAlloc ‹_›
  | tSend i => simp only [step] at h; split at h <;> cases h; exact .tSend ‹_›
  | tReg i => simp only [step] at h; split at h <;> cases h; exact .tReg ‹_›
  | rOp op =>
    simp only [step] at h
    split at h
    · rename_i hpc
      cases op with
      | seek off => cases h; exact .seek hpc
      | read want => cases h; exact .read hpc
      | readAt off want => cases h; exact .readAt hpc
      | prefetch fs cap =>
        simp only at h
        split at h <;> cases h
        · exact .prefetchNone hpc
        · rename_i hne
          exact .prefetchStart hpc (by intro hc; simp [hc] at hne)
      | readv ch cap =>
        simp only at h
        split at h <;> cases h
        · exact .readvNone hpc
        · rename_i hne
          exact .readvStart hpc (by intro hc; simp [hc] at hne)
    · cases h
  | rStep =>
    simp only [step] at h
    split at h
    · cases h
    · cases h; exact .cont ‹_›
    · rename_i c hpc
      split at h
      · cases h
      · rename_i num r rest hq
        split at h <;> cases h
        · exact .recvPf hpc hq ‹_›
        · rename_i hno
          exact .dropPf hpc hq (fun o l j hc => hno o l j hc)
    · split at h <;> cases h
      exact .dispPf ‹_› ‹_›
    · cases h; exact .allocSync ‹_›
    · cases h; exact .sendSync ‹_›
    · rename_i c num hpc
      split at h
      · cases h
      · rename_i n' r rest hq
        split at h
        · rename_i hn
          subst hn
          cases r with
          | data d =>
            simp only at h
            split at h <;> cases h
            · exact .ownEmpty hpc hq ‹_›
            · exact .ownData hpc hq ‹_›
          | eof => cases h; exact .ownEof hpc hq
          | err code => cases h; exact .ownErr hpc hq
        · rename_i hn
          split at h <;> cases h
          · exact .otherPf hpc hq hn ‹_›
          · rename_i hno
            exact .otherDrop hpc hq hn (fun o l j hc => hno o l j hc)
    · split at h <;> cases h
      exact .dispSync ‹_› ‹_›

/-! ## when an action is enabled -/

theorem serve_enabled {s : St} {n : Nat} {rest : List Nat} (k : Nat) (hq : s.c2s = n :: rest) (hn : n < s.info.length) :
    (step s (.serve k)).isSome = true := by
  simp only [step, hq, List.getElem?_eq_getElem hn]
  rfl

theorem tCheck_enabled {s : St} {i : Nat} {c : Chunk} {rest : List Chunk} {cap : Option Nat}
    (ht : s.threads[i]? = some ⟨.idle (c :: rest), cap⟩) (hc : capPass cap s.extents.length = true) :
    (step s (.tCheck i)).isSome = true := by
  simp [step, ht, hc]

theorem tAlloc_enabled {s : St} {i : Nat} {c : Chunk} {rest : List Chunk} {cap : Option Nat}
    (ht : s.threads[i]? = some ⟨.checked (c :: rest), cap⟩) : (step s (.tAlloc i)).isSome = true := by
  simp [step, ht]

theorem tSend_enabled {s : St} {i num off len : Nat} {rest : List Chunk} {cap : Option Nat}
    (ht : s.threads[i]? = some ⟨.allocd num off len rest, cap⟩) : (step s (.tSend i)).isSome = true := by
  simp [step, ht]

theorem tReg_enabled {s : St} {i num off len : Nat} {rest : List Chunk} {cap : Option Nat}
    (ht : s.threads[i]? = some ⟨.sent num off len rest, cap⟩) : (step s (.tReg i)).isSome = true := by
  simp [step, ht]

theorem rStep_none {s : St} (hne : s.pc ≠ .idle) (h : step s .rStep = none) :
    (s.s2c = [] ∧ ((∃ c, s.pc = .recvPf c) ∨ ∃ c n, s.pc = .recvSync c n)) ∨
    (∃ n r, ((∃ c, s.pc = .dispPf c n r) ∨ ∃ c m, s.pc = .dispSync c m n r) ∧ asyncResponse s n r = none) := by
  simp only [step] at h
  cases hpc : s.pc with
  | idle => exact absurd hpc hne
  | cont c => simp [hpc] at h
  | allocSync c => simp [hpc] at h
  | sendSync c n => simp [hpc] at h
  | recvPf c =>
    simp only [hpc] at h
    cases hq : s.s2c with
    | nil => exact .inl ⟨rfl, .inl ⟨c, rfl⟩⟩
    | cons e rest =>
      simp only [hq] at h
      split at h <;> cases h
  | recvSync c n =>
    simp only [hpc] at h
    cases hq : s.s2c with
    | nil => exact .inl ⟨rfl, .inr ⟨c, n, rfl⟩⟩
    | cons e rest =>
      obtain ⟨n', r⟩ := e
      simp only [hq] at h
      by_cases hn : n' = n
      · simp only [hn, if_true] at h
        cases r with
        | data d => simp only at h; split at h <;> cases h
        | eof => cases h
        | err code => cases h
      · simp only [hn, if_false] at h
        split at h <;> cases h
  | dispPf c n r =>
    simp only [hpc] at h
    cases ha : asyncResponse s n r with
    | none => exact .inr ⟨n, r, .inl ⟨c, rfl⟩, ha⟩
    | some s1 => simp [ha] at h
  | dispSync c m n r =>
    simp only [hpc] at h
    cases ha : asyncResponse s n r with
    | none => exact .inr ⟨n, r, .inr ⟨c, m, rfl⟩, ha⟩
    | some s1 => simp [ha] at h

theorem run_induction {P : St → Prop} {ok : Act → Prop} (hstep : ∀ s a s', P s → ok a → Step s a s' → P s')
    {s : St} (h : P s) (as : List Act) (ha : ∀ a ∈ as, ok a) : P (run s as) := by
  induction as generalizing s with
  | nil => exact h
  | cons a as ih =>
    simp only [run]
    apply ih _ (fun b hb => ha b (List.mem_cons_of_mem _ hb))
    cases hs : step s a with
    | none => exact h
    | some s' => exact hstep s a s' h (ha a (List.mem_cons_self ..)) (step_sound hs)

/-- every action must be enabled when it is taken -/
def runStrict (s : St) : List Act → Option St
  | [] => some s
  | a :: as => match step s a with
    | none => none
    | some s' => runStrict s' as

theorem runStrict_induction {P : St → Prop} {ok : Act → Prop} (hstep : ∀ s a s', P s → ok a → Step s a s' → P s')
    {s s' : St} {as : List Act} (h : P s) (ha : ∀ a ∈ as, ok a) (hr : runStrict s as = some s') : P s' := by
  induction as generalizing s with
  | nil => cases hr; exact h
  | cons a as ih =>
    simp only [runStrict] at hr
    split at hr
    · cases hr
    · rename_i s1 hs
      exact ih (hstep s a s1 h (ha a (List.mem_cons_self ..)) (step_sound hs))
        (fun b hb => ha b (List.mem_cons_of_mem _ hb)) hr

end PV.Prefetch
