/-
  PV.Model.RekeyLockLemmas — facts about the two threads of PV/Model/RekeyLock.lean that mention no invariant: which kex
  packet a phase expects next, and when each thread is sure to move (used by C11).
-/
import PV.Model.RekeyLock
namespace PV.RekeyLock

theorem remaining_head {ph : Phase} {m : TMsg} {r : List TMsg} (h : remaining ph = m :: r) :
    match m with
    | .peerKexinit => ph = .sentKexinit ∧ r = remaining .kexRunning
    | .kexReply => ph = .kexRunning ∧ r = remaining .sentNewkeys
    | .peerNewkeys => ph = .sentNewkeys ∧ r = remaining .done
    | .handler _ => False := by
  cases ph <;> cases h <;> exact ⟨rfl, rfl⟩

theorem user_moves {s : St} (h : s.upc = .crit ∨ (s.upc ≠ .done ∧ s.cts = true)) :
    stepUser s ≠ s := by
  intro heq
  have hupc : (stepUser s).upc = s.upc := by rw [heq]
  revert hupc
  fun_cases stepUser s <;> simp_all

theorem transport_moves {s : St} {m : TMsg} {rest : List TMsg} (hb : s.inbox = m :: rest)
    (hfree : ¬ (m = .handler true ∧ s.lockUser = true)) : stepTransport s ≠ s := by
  intro heq
  have hlen : (stepTransport s).inbox.length = s.inbox.length := by rw [heq]
  revert hlen
  fun_cases stepTransport s <;> simp_all

end PV.RekeyLock
