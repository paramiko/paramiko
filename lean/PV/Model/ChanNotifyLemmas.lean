/-
  No lost wake-up: with `notify_all` in `_window_adjust`, a sender that is asleep and has not been notified sees a
  closed window — so whenever the window is open every sleeper has a notification pending.
-/
import PV.Model.ChanNotify
import PV.Model.ChanWindowLemmas
namespace PV.Chan

theorem holdState_notWaiting (ms : List Msg) (k : Kont) : (holdState ms k).isWaiting = false :=
  holdState_of TSt.isWaiting (fun _ => false) (fun _ _ => rfl) (fun _ => rfl) (fun _ _ => rfl) ms k

theorem SendOut.asleep {cfg : Cfg} {s : St} {want : Nat} {ext : Bool} {lp : Option Loop} {x : TSt} {d : Nat}
    (h : SendOut cfg s want ext lp x d) (hx : x.isWaiting = true) : s.outWin - d = 0 := by
  cases h with
  | wait _ h0 => rw [h0]
  | _ => cases hx

theorem asleep_setThr {s s0 : St} (t0 t : Nat) (x : TSt) (hthr : s0.thr = s.thr)
    (hx : x.isWaiting = true → s0.outWin = 0) (h : isWaitingAt (setThr s0 t0 x) t = true) :
    (setThr s0 t0 x).thr[t]? = s.thr[t]? ∨ (setThr s0 t0 x).outWin = 0 := by
  simp only [isWaitingAt, setThr, hthr] at h ⊢
  by_cases ht : t0 = t
  · subst ht
    by_cases hlt : t0 < s.thr.length
    · rw [List.getElem?_set_self hlt] at h; exact .inr (hx h)
    · rw [List.getElem?_eq_none (by simpa using hlt)] at h; cases h
  · exact .inl (List.getElem?_set_ne ht)

/-- a thread that is asleep after a step either was asleep in the same state before, or the window is zero -/
theorem Step.asleep {cfg : Cfg} {s s' : St} {a : Act} (h : Step cfg s a s') (t : Nat)
    (hw : isWaitingAt s' t = true) : s'.thr[t]? = s.thr[t]? ∨ s'.outWin = 0 := by
  cases h with
  | sends _ _ ho => exact asleep_setThr _ t _ rfl ho.asleep hw
  | quiet _ hq => exact asleep_setThr _ t _ rfl (fun h => by cases hq <;> cases h) hw
  | emit _ | check _ _ => exact asleep_setThr _ t _ rfl (fun h => by rw [holdState_notWaiting] at h; cases h) hw
  | recv _ _ | emitFail _ | creditAck _ _ _ => exact asleep_setThr _ t _ rfl (fun h => by cases h) hw
  | ends _ _ he _ =>
    obtain ⟨c, e, r, p, rfl⟩ := he.shape
    exact asleep_setThr _ t _ rfl (fun h => by rw [holdState_notWaiting] at h; cases h) hw
  | _ => exact .inl rfl

/-- … and a thread that has just been woken and is asleep again found the window zero -/
theorem asleep_after_wake (cfg : Cfg) (s : St) (t dt : Nat) (h : isWaitingAt (step cfg s (.wake t dt)) t = true)
    (hw : isWaitingAt s t = true) : (step cfg s (.wake t dt)).outWin = 0 := by
  unfold isWaitingAt at hw
  cases hr : s.thr[t]? with
  | none => rw [hr] at hw; cases hw
  | some x0 =>
    rw [hr] at hw
    cases x0 with
    | waiting want ext left lp =>
      simp only [step, hr] at h ⊢
      obtain ⟨y, d, e, ho⟩ := wakeRegion_out cfg s t dt want ext left lp
      rw [e] at h ⊢
      rw [isWaitingAt, setThr_get (s := { s with outWin := s.outWin - d }) y hr] at h
      exact ho.asleep h
    | _ => cases hw

def NoLost (z : NSt) : Prop := ∀ t, isWaitingAt z.base t = true → t ∉ z.sig → z.base.outWin = 0

theorem mem_waitingIds (s : St) (t : Nat) (h : isWaitingAt s t = true) : t ∈ waitingIds s := by
  unfold waitingIds
  rw [List.mem_filter, List.mem_range]
  refine ⟨?_, h⟩
  unfold isWaitingAt at h
  cases hr : s.thr[t]? with
  | none => rw [hr] at h; cases h
  | some x => exact (List.getElem?_eq_some_iff.1 hr).1

theorem subset_notifyAll (s : St) (sig : List Nat) {t : Nat} (h : t ∈ sig) : t ∈ notifyAll s sig :=
  List.mem_append_right _ h

theorem subset_notifyOne (s : St) (sig : List Nat) {t : Nat} (h : t ∈ sig) : t ∈ notifyOne s sig := by
  unfold notifyOne; split
  · exact h
  · exact List.mem_cons_of_mem _ h

/-- **No lost wake-up** is inductive when `_window_adjust` uses `notify_all` (whatever `_set_closed` uses) -/
theorem nstep_nolost (n : NCfg) (hn : n.adjustAll = true) (cfg : Cfg) (z : NSt) (x : Act) (hi : NoLost z) :
    NoLost (nstep n cfg z x) := by
  have other : ∀ (sig' : List Nat) (t : Nat), (t ∉ sig' → t ∉ z.sig) → (∀ k, x ≠ .adjust k) →
      isWaitingAt (step cfg z.base x) t = true → t ∉ sig' → (step cfg z.base x).outWin = 0 := by
    intro sig' t hsig hna hw hns
    rcases (step_sound cfg z.base x).asleep t hw with h | h
    · have hw0 : isWaitingAt z.base t = true := by
        unfold isWaitingAt at hw ⊢; rw [h] at hw; exact hw
      have := hi t hw0 (hsig hns)
      have hle := ((step_sound cfg z.base x).window hna).2
      omega
    · exact h
  -- `_set_closed` may run in the step: whichever way it notifies, what was pending stays pending
  have keep : ∀ t, t ∉ (if (!z.base.closed && (step cfg z.base x).closed) = true then
      (if n.closeAll = true then notifyAll z.base z.sig else notifyOne z.base z.sig) else z.sig) → t ∉ z.sig := by
    intro t h hm
    apply h
    split
    · split
      · exact subset_notifyAll _ _ hm
      · exact subset_notifyOne _ _ hm
    · exact hm
  cases x with
  | wake t0 dt =>
    simp only [nstep]
    split
    · intro t hw hns
      by_cases ht : t = t0
      · subst ht
        by_cases hw0 : isWaitingAt z.base t = true
        · exact asleep_after_wake cfg z.base t dt hw hw0
        · -- not asleep before: the action is a no-op on the base state
          have : step cfg z.base (.wake t dt) = z.base := by
            unfold isWaitingAt at hw0
            simp only [step]
            split
            · next want ext left lp hr => rw [hr] at hw0; simp [TSt.isWaiting] at hw0
            · rfl
          rw [this] at hw
          exact absurd hw hw0
      · refine other _ t (fun h hm => h ?_) (by intro k h; cases h) hw hns
        exact List.mem_filter.2 ⟨hm, by simpa using ht⟩
    · exact hi
  | adjust k =>
    simp only [nstep, hn, if_true]
    intro t hw hns
    exfalso
    apply hns
    have : isWaitingAt z.base t = true := by
      unfold isWaitingAt at hw ⊢
      simpa [step] using hw
    exact List.mem_append_left _ (mem_waitingIds z.base t this)
  | _ => exact fun t => other _ t (keep t) (by intro k h; cases h)

theorem nrun_nolost (n : NCfg) (hn : n.adjustAll = true) (cfg : Cfg) (z : NSt) (as : List Act) (hi : NoLost z) :
    NoLost (nrun n cfg z as) := by
  induction as generalizing z with
  | nil => exact hi
  | cons a as ih => exact ih _ (nstep_nolost n hn cfg z a hi)

/-- With `notify_all` in `_window_adjust`, in every schedule of a new channel under strict scheduling
    (`nstep`: a sleeper runs again only when notified or when its timeout has expired): a sender
    asleep in `_wait_for_send_window` while the window is open has a notification pending. -/
theorem parked_sender_notified (n : NCfg) (hn : n.adjustAll = true) (cfg : Cfg)
    (inWin peerWin peerMax nthr : Nat) (c : Bool) (sched : List Act) (t : Nat)
    (hw : isWaitingAt (nrun n cfg (ninit (init inWin peerWin peerMax nthr c)) sched).base t = true)
    (ho : 0 < (nrun n cfg (ninit (init inWin peerWin peerMax nthr c)) sched).base.outWin) :
    t ∈ (nrun n cfg (ninit (init inWin peerWin peerMax nthr c)) sched).sig := by
  have h0 : NoLost (ninit (init inWin peerWin peerMax nthr c)) := by
    intro u hu _
    simp only [ninit, isWaitingAt, init] at hu
    by_cases hlt : u < nthr
    · simp [hlt, TSt.isWaiting] at hu
    · simp [hlt] at hu
  have hi := nrun_nolost n hn cfg _ sched h0
  by_cases hm : t ∈ (nrun n cfg (ninit (init inWin peerWin peerMax nthr c)) sched).sig
  · exact hm
  · have := hi t hw hm; omega

end PV.Chan
