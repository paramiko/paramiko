/-
  Lemmas for PV.Model.ChanPair: link invariants and conservation of window credits.
-/
import PV.Model.ChanPair
import PV.Model.ChanFlowLemmas
namespace PV.ChanPair
open PV.Chan

theorem drop_wire (cfg : Cfg) (s : St) (x : Act) :
    (step cfg s x).wire = s.wire ++ (step cfg s x).wire.drop s.wire.length := by
  rcases (step_sound cfg s x).wire with h | ⟨_, m, _, h⟩ <;> rw [h] <;> simp

theorem local_granted (cfg : Cfg) (s : St) (x : Act) (h : localAct x = true) :
    (step cfg s x).granted = s.granted :=
  ((step_sound cfg s x).window (by intro n e; subst e; cases h)).1

theorem local_recvd (cfg : Cfg) (s : St) (x : Act) (h : localAct x = true) :
    (step cfg s x).recvd = s.recvd :=
  (step_sound cfg s x).recvd (by intro n e; subst e; cases h) (by intro t c n e; subst e; cases h)

/-- handlers never write to the wire themselves (they make the transport thread hold the reply) -/
theorem handler_wire (cfg : Cfg) (s : St) (t code : Nat) (m : Msg) :
    (step cfg s (handlerAct t code m)).wire = s.wire := by
  rcases (step_sound cfg s (handlerAct t code m)).wire with h | ⟨_, _, e, _⟩
  · exact h
  · cases m <;> cases e

theorem handler_granted (cfg : Cfg) (s : St) (t code : Nat) (m : Msg) :
    (step cfg s (handlerAct t code m)).granted = s.granted + m.adjLen := by
  rw [step_granted]
  cases m <;> rfl

/-- what a handler adds to the receive counter: exactly the data bytes of the message (the transport thread is
    idle when it picks up the next message) -/
theorem handler_recvd (cfg : Cfg) (hc : cfg.creditDiscarded = true) (s : St) (t code : Nat) (m : Msg)
    (hid : idleOf s t = true) : (step cfg s (handlerAct t code m)).recvd = s.recvd + m.dataLen := by
  cases m with
  | data n => rfl
  | adjust n => rfl
  | eof => simp only [handlerAct, step]; split <;> rfl
  | close => exact (step_sound cfg s (.peerClose t)).recvd (by intro n e; cases e) (by intro t c n e; cases e)
  | ext n =>
    obtain ⟨v, e, _⟩ := checkAdd_credit { s with recvd := s.recvd + n, discarded := s.discarded + n } n
    simp only [handlerAct, step, hid, hc, if_true, e]
    repeat' split
    all_goals rfl

theorem pstep_sides {P Q : St → Prop} (cfg : Cfg) (hP : ∀ s a, P s → P (step cfg s a))
    (hQ : ∀ s a, Q s → Q (step cfg s a)) (y : Sys) (p : PAct) (h : P y.a ∧ Q y.b) :
    P (pstep cfg y p).a ∧ Q (pstep cfg y p).b := by
  cases p with
  | left x =>
    simp only [pstep]; split
    · exact ⟨hP _ _ h.1, h.2⟩
    · exact h
  | right x =>
    simp only [pstep]; split
    · exact ⟨h.1, hQ _ _ h.2⟩
    · exact h
  | deliverAB t code =>
    simp only [pstep]; split
    · exact h
    · split
      · unfold deliverTo; split
        · exact ⟨h.1, hQ _ _ h.2⟩
        · exact h
      · exact h
  | deliverBA t code =>
    simp only [pstep]; split
    · exact h
    · split
      · unfold deliverTo; split
        · exact ⟨hP _ _ h.1, h.2⟩
        · exact h
      · exact h

theorem prun_sides {P Q : St → Prop} (cfg : Cfg) (hP : ∀ s a, P s → P (step cfg s a))
    (hQ : ∀ s a, Q s → Q (step cfg s a)) (y : Sys) (ps : List PAct) (h : P y.a ∧ Q y.b) :
    P (prun cfg y ps).a ∧ Q (prun cfg y ps).b := by
  induction ps generalizing y with
  | nil => exact h
  | cons p ps ih => exact ih _ (pstep_sides cfg hP hQ y p h)

/-! ## the pair invariant -/

/-- What holds of a pair in the a→b direction, `W0` being the window b advertised when the channel was opened:
a's window equation, b's receive-side accounting, and the two links — everything a wrote is in flight or was
received by b, and every ack b wrote is in flight or was granted to a. -/
structure PairInv (W0 : Nat) (y : Sys) : Prop where
  senderWindow : WInv y.a
  sofar : SofarInv y.b
  acksExact : EqInv y.b
  acks : AInv y.b
  /-- a wrote = in flight + b received (while b is still registered: afterwards its transport drops the data) -/
  dataLink : y.b.linked = true → dataSum y.a.wire = dataSum y.ab + y.b.recvd
  /-- b acked + initial window = acks in flight + granted to a -/
  ackLink : y.a.linked = true → adjSum y.b.wire + W0 = adjSum y.ba + y.a.granted
  /-- the transports of the two-sided model never fail a write -/
  noLeak : y.a.leaked = 0

theorem pstep_pairInv (cfg : Cfg) (hc : cfg.creditDiscarded = true) (W0 : Nat) (y : Sys) (p : PAct)
    (hi : PairInv W0 y) : PairInv W0 (pstep cfg y p) := by
  have ⟨wa, sb, eb, rb, l1, l2, la⟩ := hi
  cases p with
  | left x =>
    simp only [pstep]; split
    · rename_i hl
      simp only [sideStep]
      have hw := congrArg dataSum (drop_wire cfg y.a x)
      refine ⟨wa.step (step_sound cfg _ x), sb, eb, rb, ?_, ?_,
        ((step_sound cfg _ x).leaked (by intro t e; subst e; cases hl)).trans la⟩
      · intro hb
        have := l1 hb
        simp only at *
        rw [dataSum_append] at hw ⊢; omega
      · intro ha
        have := l2 ((step_sound cfg y.a x).mono.1 ha)
        simp only at *
        rw [local_granted cfg _ x hl]; exact this
    · exact hi
  | right x =>
    simp only [pstep]; split
    · rename_i hl
      simp only [sideStep]
      have hw := congrArg adjSum (drop_wire cfg y.b x)
      refine ⟨wa, step_sofar cfg _ x sb, eb.step (step_sound cfg _ x) hc (by intro t e; subst e; cases hl),
        rb.step (step_sound cfg _ x), ?_, ?_, la⟩
      · intro hb
        have := l1 ((step_sound cfg y.b x).mono.1 hb)
        simp only at *
        rw [local_recvd cfg _ x hl]; exact this
      · intro ha
        have := l2 ha
        simp only at *
        rw [adjSum_append] at hw ⊢; omega
    · exact hi
  | deliverAB t code =>
    simp only [pstep]
    split
    · exact hi
    · rename_i m rest hab
      split
      · rename_i hid
        unfold deliverTo
        split
        · rename_i hlk
          refine ⟨wa, step_sofar cfg _ _ sb, eb.step (step_sound cfg _ _) hc (by intro t' e; cases m <;> cases e),
            rb.step (step_sound cfg _ _), ?_, ?_, la⟩
          · intro _
            have := l1 hlk
            simp only at *
            rw [handler_recvd cfg hc _ t code m hid, this, hab]
            simp only [dataSum]; omega
          · intro ha
            have := l2 ha
            simp only at *
            rw [handler_wire]; exact this
        · rename_i hlk
          refine ⟨wa, sb, eb, rb, ?_, l2, la⟩
          intro hb; exact absurd hb hlk
      · exact hi
  | deliverBA t code =>
    simp only [pstep]
    split
    · exact hi
    · rename_i m rest hba
      split
      · rename_i hid
        unfold deliverTo
        split
        · rename_i hlk
          refine ⟨wa.step (step_sound cfg _ _), sb, eb, rb, ?_, ?_,
            ((step_sound cfg _ _).leaked (by intro t' e; cases m <;> cases e)).trans la⟩
          · intro hb
            have := l1 hb
            simp only at *
            rw [handler_wire]; exact this
          · intro _
            have := l2 hlk
            simp only at *
            rw [handler_granted, hba] at *
            simp only [adjSum] at this; omega
        · rename_i hlk
          refine ⟨wa, sb, eb, rb, l1, ?_, la⟩
          intro ha; exact absurd ha hlk
      · exact hi

theorem prun_pairInv (cfg : Cfg) (hc : cfg.creditDiscarded = true) (W0 : Nat) (y : Sys) (ps : List PAct)
    (hi : PairInv W0 y) : PairInv W0 (prun cfg y ps) := by
  induction ps generalizing y with
  | nil => exact hi
  | cons p ps ih => exact ih _ (pstep_pairInv cfg hc W0 y p hi)

/-- conservation: with both channels still registered and the receiver still accounting, the credits of the
    a→b direction add up to the window b advertised -/
theorem credits_of_pairInv (W0 : Nat) (y : Sys) (hi : PairInv W0 y) (ha : y.a.linked = true) (hb : y.b.linked = true)
    (hacc : acct y.b = true) : credits y = W0 := by
  obtain ⟨wa, _, eb, rb, l1, l2, la⟩ := hi
  have h1 := l1 hb
  have h2 := l2 ha
  have h3 := eb hacc
  simp only [WInv, AInv, EqCore, credits] at *
  omega

/-! ## the other direction, by symmetry -/

def swap (y : Sys) : Sys := { a := y.b, b := y.a, ab := y.ba, ba := y.ab }

def PAct.swap : PAct → PAct
  | .left x => .right x
  | .right x => .left x
  | .deliverAB t c => .deliverBA t c
  | .deliverBA t c => .deliverAB t c

theorem pstep_swap (cfg : Cfg) (y : Sys) (p : PAct) : pstep cfg (swap y) p.swap = swap (pstep cfg y p) := by
  cases p with
  | left x => simp only [PAct.swap, pstep, swap]; split <;> rfl
  | right x => simp only [PAct.swap, pstep, swap]; split <;> rfl
  | deliverAB t c =>
    simp only [PAct.swap, pstep, swap]
    split
    · rename_i h; simp only [h]
    · rename_i m rest h; simp only [h]; split <;> simp [h]
  | deliverBA t c =>
    simp only [PAct.swap, pstep, swap]
    split
    · rename_i h; simp only [h]
    · rename_i m rest h; simp only [h]; split <;> simp [h]

theorem prun_swap (cfg : Cfg) (y : Sys) (ps : List PAct) :
    prun cfg (swap y) (ps.map PAct.swap) = swap (prun cfg y ps) := by
  induction ps generalizing y with
  | nil => rfl
  | cons p ps ih =>
    show prun cfg (pstep cfg (swap y) p.swap) (ps.map PAct.swap) = _
    rw [pstep_swap, ih]; rfl

end PV.ChanPair
