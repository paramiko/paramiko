/-
  PV.Model.PacketRoundtrip — sender and receiver "keyed alike" (`PairedSt`); what the paired receiver makes of one
  packet of the sender, on each of the four receive paths; the same for whole histories with key, compressor and
  sequence-number switches.  `ctEq` is equality.
-/
import PV.Model.PacketLemmas
namespace PV.Packet
open PV

/-! ## stepping `runBuf` -/

theorem runBuf_read {α : Type} {cr : Bool} (n : Int) (k : Bytes → Rd α) (a rest : Bytes) (h : n = (a.length : Int)) :
    runBuf (.read n cr k) (a ++ rest) = runBuf (k a) rest := by
  conv => lhs; unfold runBuf
  by_cases h0 : n ≤ 0
  · have : a = [] := by
      cases a with
      | nil => rfl
      | cons x xs => simp at h; omega
    subst this
    simp [h0]
  · have hn : n.toNat = a.length := by omega
    simp only [h0, if_false, hn, List.length_append]
    have : a.length ≤ a.length + rest.length := by omega
    simp only [this, if_true, List.take_left', List.drop_left']

/-! ## `constant_time_bytes_eq` is equality -/

private theorem foldl_or_zero (l : List UInt8) (acc : UInt8) :
    l.foldl (fun r x => r ||| x) acc = 0 ↔ acc = 0 ∧ ∀ x ∈ l, x = 0 := by
  induction l generalizing acc with
  | nil => simp
  | cons x xs ih =>
    simp only [List.foldl_cons, ih, List.mem_cons, forall_eq_or_imp, UInt8.or_eq_zero_iff]
    constructor
    · rintro ⟨⟨h1, h2⟩, h3⟩; exact ⟨h1, h2, h3⟩
    · rintro ⟨h1, h2, h3⟩; exact ⟨⟨h1, h2⟩, h3⟩

private theorem zipWith_xor_zero (a b : Bytes) (hl : a.length = b.length) :
    (∀ x ∈ List.zipWith (fun x y => x ^^^ y) a b, x = 0) ↔ a = b := by
  induction a generalizing b with
  | nil => cases b with
    | nil => simp
    | cons y ys => simp at hl
  | cons x xs ih =>
    cases b with
    | nil => simp at hl
    | cons y ys =>
      simp only [List.length_cons, Nat.add_right_cancel_iff] at hl
      simp only [List.zipWith_cons_cons, List.mem_cons, forall_eq_or_imp, ih ys hl, List.cons.injEq,
        UInt8.xor_eq_zero_iff]

theorem ctEq_iff (a b : Bytes) : ctEq a b = true ↔ a = b := by
  unfold ctEq
  by_cases hl : a.length = b.length
  · simp only [hl, ne_eq, not_true_eq_false, if_false, beq_iff_eq]
    rw [foldl_or_zero, zipWith_xor_zero a b hl]
    simp
  · simp only [ne_eq, hl, not_false_eq_true, if_true]
    constructor
    · intro h; cases h
    · intro h; exact absurd (congrArg List.length h) hl

theorem ctEq_refl (a : Bytes) : ctEq a a = true := (ctEq_iff a a).2 rfl

/-! ## pairing of a sender with a receiver -/

structure Laws (p : Prims) where
  blk : p.CSt → Nat
  Paired : p.CSt → p.CSt → Prop
  ZPaired : p.ZSt → p.ZSt → Prop
  tagLen : Nat
  ciph : CipherLaws p blk Paired
  aead : AeadLaws p tagLen
  comp : CompLaws p ZPaired

def CiphPaired {p : Prims} (W : Laws p) (block macLen : Nat) : OutC p → InC p → Prop
  | .plain, .plain => macLen = 0
  | .classic se mk, .classic sd mk' => mk = mk' ∧ W.Paired se sd ∧ W.blk se = block ∧ MacOk p mk macLen
  | .etm se mk, .etm sd mk' => mk = mk' ∧ W.Paired se sd ∧ W.blk se = block ∧ MacOk p mk macLen
  | .aead k iv, .aead k' iv' => k = k' ∧ iv = iv' ∧ macLen = W.tagLen
  | _, _ => False

def ZP {p : Prims} (W : Laws p) : Option p.ZSt → Option p.ZSt → Prop
  | none, none => True
  | some a, some b => W.ZPaired a b
  | _, _ => False

/-- a sender and a receiver "keyed alike": same framing parameters and sequence number, engines in
corresponding states, compressor and decompressor in corresponding states -/
structure PairedSt {p : Prims} (W : Laws p) (s : Sender p) (r : Receiver p) : Prop where
  block : s.block = r.block
  macLen : s.macLen = r.macLen
  seq : s.seq = r.seq
  kex : s.kexDone = r.kexDone
  blk4 : 4 ≤ s.block
  ciph : CiphPaired W s.block s.macLen s.ciph r.ciph
  comp : ZP W s.comp r.decomp

/-- paired engines are of the same kind -/
theorem CiphPaired.cases {p : Prims} {W : Laws p} {b m : Nat} {co : OutC p} {ci : InC p}
    (h : CiphPaired W b m co ci) :
    (co = .plain ∧ ci = .plain ∧ m = 0) ∨
    (∃ se sd mk, co = .classic se mk ∧ ci = .classic sd mk ∧ W.Paired se sd ∧ W.blk se = b ∧ MacOk p mk m) ∨
    (∃ se sd mk, co = .etm se mk ∧ ci = .etm sd mk ∧ W.Paired se sd ∧ W.blk se = b ∧ MacOk p mk m) ∨
    (∃ k iv, co = .aead k iv ∧ ci = .aead k iv ∧ m = W.tagLen) := by
  cases co <;> cases ci <;> try exact h.elim
  · exact .inl ⟨rfl, rfl, h⟩
  · obtain ⟨rfl, h⟩ := h
    exact .inr (.inl ⟨_, _, _, rfl, rfl, h⟩)
  · obtain ⟨rfl, h⟩ := h
    exact .inr (.inr (.inl ⟨_, _, _, rfl, rfl, h⟩))
  · obtain ⟨rfl, rfl, h⟩ := h
    exact .inr (.inr (.inr ⟨_, _, rfl, rfl, h⟩))

theorem PairedSt.setCipher {p : Prims} {W : Laws p} {s : Sender p} {r : Receiver p} (hp : PairedSt W s r)
    {b m : Nat} {co : OutC p} {ci : InC p} (h4 : 4 ≤ b) (hc : CiphPaired W b m co ci) (sd : Bool) :
    PairedSt W (s.setCipher b m sd co) (r.setCipher b m ci) :=
  ⟨rfl, rfl, hp.seq, hp.kex, h4, hc, hp.comp⟩

theorem PairedSt.setComp {p : Prims} {W : Laws p} {s : Sender p} {r : Receiver p} (hp : PairedSt W s r)
    {zo zi : Option p.ZSt} (hz : ZP W zo zi) : PairedSt W { s with comp := zo } { r with decomp := zi } :=
  ⟨hp.block, hp.macLen, hp.seq, hp.kex, hp.blk4, hp.ciph, hz⟩

theorem PairedSt.resetSeq {p : Prims} {W : Laws p} {s : Sender p} {r : Receiver p} (hp : PairedSt W s r) :
    PairedSt W { s with seq := 0 } { r with seq := 0 } :=
  ⟨hp.block, hp.macLen, rfl, hp.kex, hp.blk4, hp.ciph, hp.comp⟩

theorem PairedSt.kexDone {p : Prims} {W : Laws p} {s : Sender p} {r : Receiver p} (hp : PairedSt W s r) :
    PairedSt W { s with kexDone := true } { r with kexDone := true } :=
  ⟨hp.block, hp.macLen, hp.seq, rfl, hp.blk4, hp.ciph, hp.comp⟩

/-! ## the tail of `read_message` on an honest packet -/

theorem uint8_ofNat_toNat (n : Nat) (h : n < 256) : (UInt8.ofNat n).toNat = n := by
  simp [UInt8.toNat_ofNat', Nat.mod_eq_of_lt h]

theorem pySlice1_body (payload padding : Bytes) (h : padding.length < 256) :
    pySlice1 (UInt8.ofNat padding.length :: (payload ++ padding))
      (((payload.length + padding.length + 1 : Nat) : Int) - ((UInt8.ofNat padding.length).toNat : Int)) = payload := by
  rw [uint8_ofNat_toNat _ h]
  unfold pySlice1
  have h1 : ¬ (((payload.length + padding.length + 1 : Nat) : Int) - (padding.length : Int) < 0) := by omega
  have h2 : (((payload.length + padding.length + 1 : Nat) : Int) - (padding.length : Int)).toNat = payload.length + 1 := by
    omega
  simp only [h1, if_false, h2, List.take_succ_cons, List.drop_succ_cons, List.drop_zero, List.take_left']

theorem compOut_decompIn {p : Prims} (W : Laws p) (zs zr : Option p.ZSt) (h : ZP W zs zr) (d : Bytes) :
    ∃ z', decompIn zr (compOut zs d).2 = .ok (z', d) ∧ ZP W (compOut zs d).1 z' := by
  cases zs with
  | none =>
    cases zr with
    | none => exact ⟨none, rfl, trivial⟩
    | some b => exact h.elim
  | some a =>
    cases zr with
    | none => exact h.elim
    | some b =>
      obtain ⟨zd', h1, h2⟩ := W.comp.decomp_comp a b d h
      refine ⟨some zd', ?_, h2⟩
      simp only [compOut, decompIn, h1]

theorem finish_roundtrip {p : Prims} (W : Laws p) {s : Sender p} {r : Receiver p} (hp : PairedSt W s r)
    {c : UInt8} {body B padding : Bytes} {o : SendOut p} {cc : OutC p} (hS : Sent s (c :: body) o B padding cc)
    (c' : InC p) (a : Option Auth) :
    ∃ z', finish r c' B.length B a
        = .ok { st := { r with ciph := c', decomp := z', seq := nextSeq r.seq },
                msg := ⟨c, body, r.seq⟩, auth := a, raw := B.length + r.macLen + 4 }
      ∧ ZP W (compOut s.comp (c :: body)).1 z' := by
  obtain ⟨z', h1, h2⟩ := compOut_decompIn W s.comp r.decomp hp.comp (c :: body)
  refine ⟨z', ?_, h2⟩
  have hl : B.length = (compOut s.comp (c :: body)).2.length + padding.length + 1 := by
    rw [hS.body]; simp only [List.length_cons, List.length_append]
  rw [hl, hS.body]
  unfold finish
  simp only
  rw [pySlice1_body _ _ (by have := hS.pad_le; omega), h1]
  simp only
  rw [← hp.seq, ← hp.kex, if_neg hS.noRoll]

/-! ## the receive paths on an honest packet -/

theorem readMessage_step {p : Prims} (r : Receiver p) (hdr rest : Bytes) (h : hdr.length = r.block) :
    runBuf (readMessage r) (hdr ++ rest)
      = runBuf (match r.ciph with
          | .etm st mk => readEtm r st mk hdr
          | .aead k iv => readAead r k iv hdr
          | .plain => readPlain r hdr
          | .classic st mk => readClassic r st mk hdr) rest := by
  unfold readMessage
  rw [runBuf_read _ _ _ _ (by rw [h])]
  rfl

/-- a stream that starts `length ‖ x`, cut after the first `b` bytes (what the first `read_all(block_size)` returns):
the length field with the first `b - 4` bytes of `x`, then the rest -/
theorem header_split (b n : Nat) (x t : Bytes) (h4 : 4 ≤ b) (hx : b - 4 ≤ x.length) :
    (be32 n ++ x.take (b - 4)).length = b ∧
    be32 n ++ x ++ t = (be32 n ++ x.take (b - 4)) ++ (x.drop (b - 4) ++ t) := by
  constructor
  · rw [List.length_append, be32_length, List.length_take]; omega
  · rw [List.append_assoc, List.append_assoc, ← List.append_assoc (x.take _), List.take_append_drop]

/-- sizes on the no-cipher and classic paths, where `block - 4` bytes of the body arrive with the length field -/
theorem classic_sizes {n b : Nat} (m : Nat) (h4 : 4 ≤ b) (hal : (4 + n) % b = 0) :
    b - 4 ≤ n ∧ (n - (b - 4)) % b = 0 ∧ classicSize n m (b - 4) = ((n - (b - 4) + m : Nat) : Int) := by
  have hge : b ≤ 4 + n := Nat.le_of_dvd (by omega) (Nat.dvd_of_mod_eq_zero hal)
  refine ⟨by omega, ?_, by unfold classicSize; omega⟩
  rw [show n - (b - 4) = 4 + n - b by omega]
  exact Nat.mod_eq_zero_of_dvd (Nat.dvd_sub (Nat.dvd_of_mod_eq_zero hal) (Nat.dvd_refl _))

theorem badBlocking_false {n b : Nat} (h4 : 4 ≤ b) (hal : (4 + n) % b = 0) : badBlocking n (b - 4) b = false := by
  obtain ⟨hge, h0, -⟩ := classic_sizes 0 h4 hal
  unfold badBlocking
  rw [← Int.ofNat_sub hge, ← Int.natCast_emod, h0]
  rfl

theorem read_plain {p : Prims} {r : Receiver p} (hc : r.ciph = .plain) (hml : r.macLen = 0) (h4 : 4 ≤ r.block)
    (B : Bytes) (hps : B.length < 4294967296) (hal : (4 + B.length) % r.block = 0) (t : Bytes) :
    runBuf (readMessage r) (be32 B.length ++ B ++ t) = runBuf (liftE (finish r .plain B.length B none)) t := by
  obtain ⟨hge, -, hcs⟩ := classic_sizes 0 h4 hal
  obtain ⟨hl, hsp⟩ := header_split r.block B.length B t h4 hge
  have h4' : ¬ (be32 B.length ++ B.take (r.block - 4)).length < 4 := by rw [hl]; exact Nat.not_lt.2 h4
  rw [hsp, readMessage_step r _ _ hl, hc]
  simp only
  unfold readPlain
  rw [if_neg h4']
  simp only
  rw [take4_be32_append, beVal_be32 _ hps, drop4_be32_append, List.length_take, Nat.min_eq_left hge,
    badBlocking_false h4 hal]
  simp only [Bool.false_eq_true, if_false]
  rw [hml, runBuf_read _ _ _ _ (by rw [hcs, List.length_drop, Nat.add_zero]),
    ← List.length_drop, List.take_length, List.take_append_drop]

theorem read_etm {p : Prims} (W : Laws p) {r : Receiver p} {se sd : p.CSt} {mk : p.MKey} (hc : r.ciph = .etm sd mk)
    (hP : W.Paired se sd) (hblk : W.blk se = r.block) (hmac : MacOk p mk r.macLen) (h4 : 4 ≤ r.block)
    (B : Bytes) (hps : B.length < 4294967296) (hal : B.length % r.block = 0) (hpos : 0 < B.length) (t : Bytes) :
    runBuf (readMessage r) (be32 B.length ++ (p.enc se B).2
        ++ (p.mac mk (be32 r.seq ++ (be32 B.length ++ (p.enc se B).2))).take r.macLen ++ t)
      = runBuf (liftE (finish r (.etm (p.dec sd (p.enc se B).2).1 mk) B.length B
          (some ⟨r.seq, [], be32 B.length ++ (p.enc se B).2⟩))) t := by
  have hge : r.block - 4 ≤ B.length := by
    have := Nat.le_of_dvd hpos (Nat.dvd_of_mod_eq_zero hal); omega
  have hrem : remainingEtm B.length r.block = ((B.length - (r.block - 4) : Nat) : Int) := by
    unfold remainingEtm; omega
  have hBal : B.length % W.blk se = 0 := by rw [hblk]; exact hal
  have hd := (W.ciph.dec_enc se sd B hP hBal).1
  have hctl := W.ciph.enc_len se B hBal
  generalize (p.enc se B).2 = ct at hd hctl ⊢
  generalize htag : (p.mac mk (be32 r.seq ++ (be32 B.length ++ ct))).take r.macLen = tag
  have htl : tag.length = r.macLen := by rw [← htag, List.length_take]; exact Nat.min_eq_left (hmac _)
  rw [← hctl] at hge
  obtain ⟨hl, hsp⟩ := header_split r.block B.length ct (tag ++ t) h4 hge
  have h4' : ¬ (be32 B.length ++ ct.take (r.block - 4)).length < 4 := by rw [hl]; exact Nat.not_lt.2 h4
  rw [List.append_assoc _ tag t, hsp, readMessage_step r _ _ hl, hc]
  simp only
  unfold readEtm
  rw [if_neg h4']
  simp only
  rw [take4_be32_append, beVal_be32 _ hps, drop4_be32_append,
    runBuf_read _ _ _ _ (by rw [hrem, List.length_drop, hctl]),
    runBuf_read _ _ _ _ (by rw [htl]),
    List.take_append_drop, List.append_assoc, htag, ctEq_refl]
  simp only [if_true]
  rw [hd]

theorem read_aead {p : Prims} (W : Laws p) {r : Receiver p} {k : p.AKey} {iv iv' : Bytes} (hc : r.ciph = .aead k iv)
    (hml : r.macLen = W.tagLen) (h4 : 4 ≤ r.block) (B : Bytes) (hps : B.length < 4294967296)
    (hal : B.length % r.block = 0) (hpos : 0 < B.length) (hiv : incIv iv = .ok iv') (t : Bytes) :
    runBuf (readMessage r) (be32 B.length ++ p.aenc k iv B (be32 B.length) ++ t)
      = runBuf (liftE (finish r (.aead k iv') B.length B
          (some ⟨r.seq, iv, be32 B.length ++ p.aenc k iv B (be32 B.length)⟩))) t := by
  have hge : r.block - 4 ≤ B.length + W.tagLen := by
    have := Nat.le_of_dvd hpos (Nat.dvd_of_mod_eq_zero hal); omega
  have hrem : remainingAead B.length r.block r.macLen = ((B.length + W.tagLen - (r.block - 4) : Nat) : Int) := by
    unfold remainingAead; omega
  have hd := W.aead.adec_aenc k iv B (be32 B.length)
  have hctl := W.aead.aenc_len k iv B (be32 B.length)
  generalize p.aenc k iv B (be32 B.length) = ct at hd hctl ⊢
  rw [← hctl] at hge hrem
  obtain ⟨hl, hsp⟩ := header_split r.block B.length ct t h4 hge
  have h4' : ¬ (be32 B.length ++ ct.take (r.block - 4)).length < 4 := by rw [hl]; exact Nat.not_lt.2 h4
  rw [hsp, readMessage_step r _ _ hl, hc]
  simp only
  unfold readAead
  rw [if_neg h4']
  simp only
  rw [take4_be32_append, beVal_be32 _ hps, drop4_be32_append,
    runBuf_read _ _ _ _ (by rw [hrem, List.length_drop]),
    List.take_append_drop, hd]
  simp only
  rw [hiv]

/-- the classic path decrypts the first block to learn the length, then the rest: two aligned chunks -/
theorem read_classic {p : Prims} (W : Laws p) {r : Receiver p} {se sd : p.CSt} {mk : p.MKey}
    (hc : r.ciph = .classic sd mk) (hP : W.Paired se sd) (hblk : W.blk se = r.block) (hmac : MacOk p mk r.macLen)
    (h4 : 4 ≤ r.block) (B : Bytes) (hps : B.length < 4294967296) (hal : (4 + B.length) % r.block = 0) (t : Bytes) :
    ∃ sd', W.Paired (p.enc se (be32 B.length ++ B)).1 sd' ∧
      runBuf (readMessage r) ((p.enc se (be32 B.length ++ B)).2
          ++ (p.mac mk (be32 r.seq ++ (be32 B.length ++ B))).take r.macLen ++ t)
        = runBuf (liftE (finish r (.classic sd' mk) B.length B
            (if r.macLen > 0 then some ⟨r.seq, [], be32 B.length ++ B⟩ else none))) t := by
  obtain ⟨hge, hYal, hcs⟩ := classic_sizes r.macLen h4 hal
  generalize htag : (p.mac mk (be32 r.seq ++ (be32 B.length ++ B))).take r.macLen = tag
  have htl : tag.length = r.macLen := by rw [← htag, List.length_take]; exact Nat.min_eq_left (hmac _)
  -- the plaintext packet, split after its first block, is `X ++ Y`
  obtain ⟨hXl, hsplit⟩ := header_split r.block B.length B [] h4 hge
  rw [List.append_nil, List.append_nil] at hsplit
  have hX4 := take4_be32_append B.length (B.take (r.block - 4))
  have hXd := drop4_be32_append B.length (B.take (r.block - 4))
  generalize be32 B.length ++ B.take (r.block - 4) = X at hXl hsplit hX4 hXd
  have h4' : ¬ X.length < 4 := by rw [hXl]; exact Nat.not_lt.2 h4
  have hYl : (B.drop (r.block - 4)).length = B.length - (r.block - 4) := List.length_drop
  generalize hY : B.drop (r.block - 4) = Y at hYl hsplit
  obtain ⟨e1, e2, e3, e4, e5, e6⟩ := W.ciph.two_chunks hP (a := X) (b := Y)
    (by rw [hXl, hblk, Nat.mod_self]) (by rw [hYl, hblk]; exact hYal)
  rw [← hsplit] at e1
  rw [e1]
  refine ⟨_, e6, ?_⟩
  generalize (p.enc se X).2 = cX at e2 e4 e5 ⊢
  generalize (p.enc (p.enc se X).1 Y).2 = cY at e3 e5 ⊢
  rw [List.append_assoc, List.append_assoc, readMessage_step r cX _ (by rw [e2, hXl]), hc]
  simp only
  unfold readClassic
  simp only
  rw [e4, if_neg h4', hX4, hXd, beVal_be32 _ hps, List.length_take, Nat.min_eq_left hge,
    badBlocking_false h4 hal]
  simp only [Bool.false_eq_true, if_false]
  rw [← List.append_assoc, runBuf_read _ _ _ _ (by rw [hcs, List.length_append, e3, hYl, htl]),
    ← hYl, ← e3, List.take_left, List.drop_left, e5, ← hY, List.take_append_drop]
  by_cases hm : r.macLen > 0
  · simp only [hm, if_true]
    rw [List.append_assoc, htag, ← htl, List.take_length, ctEq_refl]
    simp only [if_true]
  · simp only [hm, if_false]

/-! ## one message: what the paired receiver makes of the sender's packet -/

/-- the receiver's side of `encrypt`, all four engine kinds: from the sender's bytes (followed by anything) the paired
receiver gets the body `B` back and is left at `finish` with the record the sender authenticated and an engine paired
with the sender's new one -/
theorem readMessage_encrypt {p : Prims} (W : Laws p) {s : Sender p} {r : Receiver p} (hp : PairedSt W s r)
    {B : Bytes} (hpos : 0 < B.length) (hps : B.length < 4294967296)
    (hal8 : s.ciph.addlen = 8 → (4 + B.length) % s.block = 0) (hal4 : s.ciph.addlen = 4 → B.length % s.block = 0)
    {c : OutC p} {wire : Bytes} {a : Option Auth} (hen : encrypt s (be32 B.length ++ B) = .ok (c, wire, a))
    (t : Bytes) :
    ∃ c', runBuf (readMessage r) (wire ++ t) = runBuf (liftE (finish r c' B.length B a)) t ∧
      CiphPaired W s.block s.macLen c c' ∧ wire.length = B.length + s.macLen + 4 := by
  have h4 : 4 ≤ r.block := hp.block ▸ hp.blk4
  rw [hp.block] at hal8 hal4
  rcases hp.ciph.cases with ⟨hsc, hrc, hm⟩ | ⟨se, sd, mk, hsc, hrc, hP, hblk, hmac⟩ |
    ⟨se, sd, mk, hsc, hrc, hP, hblk, hmac⟩ | ⟨k, iv, hsc, hrc, hm⟩
  · rw [encrypt_plain hsc] at hen
    cases hen
    refine ⟨.plain, read_plain hrc (hp.macLen ▸ hm) h4 B hps (hal8 (by rw [hsc]; rfl)) t, hm, ?_⟩
    rw [List.length_append, be32_length, hm]; omega
  · rw [encrypt_classic hsc] at hen
    cases hen
    have hal := hal8 (by rw [hsc]; rfl)
    obtain ⟨sd', hP', hrun⟩ := read_classic W hrc hP (hp.block ▸ hblk) (hp.macLen ▸ hmac) h4 B hps hal t
    refine ⟨.classic sd' mk, ?_, ⟨rfl, hP', by rw [W.ciph.blk_enc]; exact hblk, hmac⟩, ?_⟩
    · rw [hp.seq, hp.macLen]; exact hrun
    · rw [List.length_append, W.ciph.enc_len se _ (by rw [hblk, hp.block, List.length_append, be32_length]; exact hal),
        List.length_append, be32_length, List.length_take, Nat.min_eq_left (hmac _)]; omega
  · rw [encrypt_etm hsc] at hen
    cases hen
    have hal := hal4 (by rw [hsc]; rfl)
    have hBal : B.length % W.blk se = 0 := by rw [hblk, hp.block]; exact hal
    refine ⟨.etm (p.dec sd (p.enc se B).2).1 mk, ?_,
      ⟨rfl, (W.ciph.dec_enc se sd B hP hBal).2, by rw [W.ciph.blk_enc]; exact hblk, hmac⟩, ?_⟩
    · rw [hp.seq, hp.macLen]
      exact read_etm W hrc hP (hp.block ▸ hblk) (hp.macLen ▸ hmac) h4 B hps hal hpos t
    · rw [List.length_append, List.length_append, be32_length, W.ciph.enc_len se B hBal,
        List.length_take, Nat.min_eq_left (hmac _)]; omega
  · obtain ⟨iv', hi, rfl, rfl, rfl⟩ := encrypt_aead_ok hsc hen
    refine ⟨.aead k iv', ?_, ⟨rfl, rfl, hm⟩, ?_⟩
    · rw [hp.seq]
      exact read_aead W hrc (hp.macLen ▸ hm) h4 B hps (hal4 (by rw [hsc]; rfl)) hpos hi t
    · rw [List.length_append, be32_length, W.aead.aenc_len, hm]; omega

theorem roundtrip1 {p : Prims} (W : Laws p) {s : Sender p} {r : Receiver p} (hp : PairedSt W s r)
    {d rnd : Bytes} {o : SendOut p} (hs : sendMessage s d rnd = .ok o) (t : Bytes) :
    ∃ o' c body, d = c :: body ∧ runBuf (readMessage r) (o.wire ++ t) = .ok o' t ∧
      o'.msg = ⟨c, body, s.seq⟩ ∧ o'.auth = o.auth ∧ PairedSt W o.st o'.st ∧ o'.raw = o.wire.length := by
  obtain ⟨B, padding, cc, hS⟩ := sendMessage_ok hs
  obtain ⟨c, body, rfl⟩ : ∃ c body, d = c :: body := by
    cases d with
    | nil => exact absurd rfl hS.ne
    | cons c body => exact ⟨c, body, rfl⟩
  have hpos : 0 < B.length := by rw [hS.body]; exact Nat.succ_pos _
  obtain ⟨c', hrun, hpc, hlen⟩ := readMessage_encrypt W hp hpos hS.size hS.aligned8 hS.aligned4 hS.enc t
  obtain ⟨z', hf, hz⟩ := finish_roundtrip W hp hS c' o.auth
  refine ⟨_, c, body, rfl, by rw [hrun, hf]; rfl, by rw [hp.seq], rfl, ?_, by rw [hlen, hp.macLen]⟩
  rw [hS.st]
  exact ⟨hp.block, hp.macLen, congrArg nextSeq hp.seq, hp.kex, hp.blk4, hpc, hz⟩

/-! ## message sequences with key / compressor switches -/

/-- the two halves of a switch operation are keyed alike -/
def OpOk {p : Prims} (W : Laws p) : Op p → Prop
  | .setCipher b m _ co ci => 4 ≤ b ∧ CiphPaired W b m co ci
  | .setComp zo zi => ZP W zo zi
  | _ => True

theorem sendAll_msg_ok {p : Prims} {s s' : Sender p} {d rnd : Bytes} {ops : List (Op p)} {w : Bytes}
    {log : List Auth} (h : sendAll s (.msg d rnd :: ops) = .ok (s', w, log)) :
    ∃ o w1 l1, sendMessage s d rnd = .ok o ∧ sendAll o.st ops = .ok (s', w1, l1) ∧
      w = o.wire ++ w1 ∧ log = o.auth.toList ++ l1 := by
  simp only [sendAll] at h
  cases hsm : sendMessage s d rnd with
  | error e => rw [hsm] at h; cases h
  | ok o =>
    cases hsa : sendAll o.st ops with
    | error e => simp only [hsm, hsa] at h; cases h
    | ok res =>
      obtain ⟨s1, w1, l1⟩ := res
      simp only [hsm, hsa] at h
      cases h
      exact ⟨o, w1, l1, rfl, hsa, rfl, rfl⟩

/-- **any history**: the mirrored receiver, fed the sender's wire (followed by anything), delivers the sender's
messages, verifies the sender's records, accounts for the sender's packet sizes and key switches, consumes exactly the
wire and ends keyed like the sender -/
theorem roundtrip_seq {p : Prims} (W : Laws p) (ops : List (Op p)) :
    ∀ (s : Sender p) (r : Receiver p), PairedSt W s r → (∀ op ∈ ops, OpOk W op) →
    ∀ s' w log, sendAll s ops = .ok (s', w, log) → ∀ t : Bytes,
      (recvAll r ops (w ++ t)).msgs = msgsOf s.seq ops ∧ (recvAll r ops (w ++ t)).stop = none ∧
      (recvAll r ops (w ++ t)).rest = t ∧ (recvAll r ops (w ++ t)).auths = log ∧
      (recvAll r ops (w ++ t)).accts = sentAccts s ops ∧
      ∃ r', (recvAll r ops (w ++ t)).st = some r' ∧ PairedSt W s' r' := by
  induction ops with
  | nil =>
    intro s r hp _ s' w log hs t
    cases hs
    exact ⟨rfl, rfl, rfl, rfl, rfl, r, rfl, hp⟩
  | cons op ops ih =>
    intro s r hp hok s' w log hs t
    have hok' : ∀ op ∈ ops, OpOk W op := fun o ho => hok o (List.mem_cons_of_mem _ ho)
    have hop : OpOk W op := hok op (List.mem_cons_self ..)
    cases op with
    | msg d rnd =>
      obtain ⟨o, w1, l1, hsm, hsa, rfl, rfl⟩ := sendAll_msg_ok hs
      obtain ⟨o', c, body, rfl, hrun, hmsg, hauth, hp', hraw⟩ := roundtrip1 W hp hsm (w1 ++ t)
      obtain ⟨i1, i2, i3, i4, i5, i6⟩ := ih o.st o'.st hp' hok' s' w1 l1 hsa t
      simp only [recvAll, List.append_assoc, hrun, sentAccts, hsm, msgsOf]
      exact ⟨by rw [i1, hmsg, sendMessage_seq hsm]; rfl, i2, i3, by rw [i4, hauth], by rw [i5, hraw], i6⟩
    | setCipher b m sd co ci =>
      obtain ⟨i1, i2, i3, i4, i5, i6⟩ := ih _ _ (hp.setCipher hop.1 hop.2 sd) hok' s' w log hs t
      exact ⟨i1, i2, i3, i4, congrArg (Acct.switch :: ·) i5, i6⟩
    | setComp zo zi => exact ih _ _ (hp.setComp hop) hok' s' w log hs t
    | resetSeq => exact ih _ _ hp.resetSeq hok' s' w log hs t
    | kexDone => exact ih _ _ hp.kexDone hok' s' w log hs t

end PV.Packet
