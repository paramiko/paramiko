/-
  Helper lemmas for PV.Model.Canon (property theorems: PV/Props/C34.lean).
-/
import PV.Model.Canon
namespace PV.Canon
open PV

theorem go_no_slash (cs acc : Bytes) (h : slash ∉ acc) : ∀ c ∈ splitSlash.go cs acc, slash ∉ c := by
  induction cs generalizing acc with
  | nil =>
    intro c hc
    simp only [splitSlash.go, List.mem_singleton] at hc
    subst hc
    simpa using h
  | cons x xs ih =>
    intro c hc
    simp only [splitSlash.go] at hc
    by_cases hx : x = slash
    · simp only [hx, if_true, List.mem_cons] at hc
      rcases hc with hc | hc
      · subst hc; simpa using h
      · exact ih [] (by simp) c hc
    · simp only [hx, if_false] at hc
      refine ih (x :: acc) ?_ c hc
      intro hm
      simp only [List.mem_cons] at hm
      rcases hm with hm | hm
      · exact hx hm.symm
      · exact h hm

theorem split_no_slash (s : Bytes) : ∀ c ∈ splitSlash s, slash ∉ c :=
  go_no_slash s [] (by simp)

theorem go_append_slash (a b acc : Bytes) :
    splitSlash.go (a ++ slash :: b) acc = splitSlash.go a acc ++ splitSlash.go b [] := by
  induction a generalizing acc with
  | nil => simp [splitSlash.go]
  | cons c cs ih =>
    by_cases hc : c = slash
    · simp [splitSlash.go, hc, ih]
    · simp [splitSlash.go, hc, ih]

theorem split_append_slash (a b : Bytes) :
    splitSlash (a ++ slash :: b) = splitSlash a ++ splitSlash b := by
  simp [splitSlash, go_append_slash]

theorem go_noslash_append (a tail acc : Bytes) (ha : slash ∉ a) :
    splitSlash.go (a ++ tail) acc = splitSlash.go tail (a.reverse ++ acc) := by
  induction a generalizing acc with
  | nil => rfl
  | cons c cs ih =>
    have hc : c ≠ slash := by intro h; exact ha (by simp [h])
    have hcs : slash ∉ cs := by intro h; exact ha (by simp [h])
    simp only [List.cons_append, splitSlash.go, hc, if_false]
    rw [ih (c :: acc) hcs]
    simp

theorem split_noslash (a : Bytes) (ha : slash ∉ a) : splitSlash a = [a] := by
  have := go_noslash_append a [] [] ha
  simp only [List.append_nil] at this
  simp [splitSlash, this, splitSlash.go]

theorem split_join (l : List Bytes) (hne : l ≠ []) (hl : ∀ x ∈ l, slash ∉ x) :
    splitSlash (joinSlash l) = l := by
  induction l with
  | nil => exact absurd rfl hne
  | cons a r ih =>
    cases r with
    | nil => simpa [joinSlash] using split_noslash a (hl a (by simp))
    | cons b r' =>
      have hj : joinSlash (a :: b :: r') = a ++ slash :: joinSlash (b :: r') := rfl
      rw [hj, split_append_slash, split_noslash a (hl a (by simp)),
        ih (by simp) (fun x hx => hl x (by simp [hx]))]
      rfl

/-! ### the normpath loop on a rooted path keeps only proper names -/

theorem normStep_proper (stack : List Bytes) (comp : Bytes) (hs : ∀ c ∈ stack, Proper c)
    (hc : slash ∉ comp) : ∀ c ∈ normStep true stack comp, Proper c := by
  unfold normStep
  by_cases h1 : comp = [] ∨ comp = dot
  · simp only [h1, if_true]; exact hs
  · simp only [h1, if_false]
    have hhead : stack.head? ≠ some dotdot := by
      intro hh
      cases stack with
      | nil => simp at hh
      | cons x xs =>
        simp only [List.head?_cons, Option.some.injEq] at hh
        exact (hs x (by simp)).2.2.1 hh
    by_cases h2 : comp = dotdot
    · have : ¬ (comp ≠ dotdot ∨ (true = false ∧ stack = []) ∨ stack.head? = some dotdot) := by
        simp [h2, hhead]
      simp only [this, if_false]
      intro c hcm
      exact hs c (List.mem_of_mem_tail hcm)
    · have : (comp ≠ dotdot ∨ (true = false ∧ stack = []) ∨ stack.head? = some dotdot) := Or.inl h2
      simp only [this, if_true]
      intro c hcm
      simp only [List.mem_cons] at hcm
      rcases hcm with hcm | hcm
      · subst hcm
        exact ⟨fun e => h1 (Or.inl e), fun e => h1 (Or.inr e), h2, hc⟩
      · exact hs c hcm

theorem fold_proper (comps : List Bytes) (stack : List Bytes) (hs : ∀ c ∈ stack, Proper c)
    (hc : ∀ c ∈ comps, slash ∉ c) : ∀ c ∈ comps.foldl (normStep true) stack, Proper c := by
  induction comps generalizing stack with
  | nil => simpa using hs
  | cons x xs ih =>
    simp only [List.foldl_cons]
    exact ih _ (normStep_proper stack x hs (hc x (by simp))) (fun c h => hc c (by simp [h]))

/-! ### splitroot of an absolute path -/

/-- the root of an absolute path: `//` exactly for two (not three or more) leading slashes, which are then both
consumed; else `/` -/
theorem splitroot_slash (r : Bytes) :
    splitroot (slash :: r) =
      if r.head? = some slash ∧ r.tail.head? ≠ some slash then ([slash, slash], r.tail) else ([slash], r) := by
  unfold splitroot
  simp only [ne_eq, not_true_eq_false, if_false]
  cases r with
  | nil => simp
  | cons d r2 =>
    by_cases hd : d = slash
    · subst hd
      cases r2 with
      | nil => simp
      | cons e r3 => by_cases he : e = slash <;> simp [he]
    · simp [hd]

theorem splitroot_abs (r : Bytes) :
    ((splitroot (slash :: r)).1 = [slash] ∨ (splitroot (slash :: r)).1 = [slash, slash]) := by
  rw [splitroot_slash]
  split
  · exact .inr rfl
  · exact .inl rfl

theorem splitroot_double (r : Bytes) :
    (splitroot (slash :: r)).1 = [slash, slash] ↔
      (r.head? = some slash ∧ r.tail.head? ≠ some slash) := by
  rw [splitroot_slash]
  split
  · next h => exact ⟨fun _ => h, fun _ => rfl⟩
  · next h => exact ⟨fun e => (nomatch e), fun h' => absurd h' h⟩

theorem normpath_abs (r : Bytes) :
    ∃ comps, normpath (slash :: r) = (splitroot (slash :: r)).1 ++ joinSlash comps ∧
      ∀ c ∈ comps, Proper c := by
  have hroot := splitroot_abs r
  have hne : (splitroot (slash :: r)).1 ≠ [] := by
    rcases hroot with h | h <;> rw [h] <;> simp
  refine ⟨((splitSlash (splitroot (slash :: r)).2).foldl (normStep true) []).reverse, ?_, ?_⟩
  · unfold normpath
    simp only [List.cons_ne_nil, if_false]
    have hb : (decide ((splitroot (slash :: r)).1 ≠ [])) = true := by simp [hne]
    simp only [hb]
    have hout : ¬ ((splitroot (slash :: r)).1 ++
        joinSlash ((splitSlash (splitroot (slash :: r)).2).foldl (normStep true) []).reverse = []) := by
      simp [hne]
    simp only [hout, if_false]
  · intro c hc
    rw [List.mem_reverse] at hc
    exact fold_proper _ [] (by simp) (split_no_slash _) c hc

theorem descend_proper (comps : List Bytes) (h : ∀ c ∈ comps, Proper c) (d : Nat) :
    descend d comps = some (d + comps.length) := by
  induction comps generalizing d with
  | nil => simp [descend]
  | cons c r ih =>
    have hc := h c (by simp)
    have h1 : ¬ (c = [] ∨ c = dot) := by
      intro e; rcases e with e | e
      · exact hc.1 e
      · exact hc.2.1 e
    simp only [descend, h1, if_false, hc.2.2.1]
    rw [ih (fun x hx => h x (by simp [hx]))]
    simp [Nat.add_assoc, Nat.add_comm 1]

theorem descend_nil_cons (d : Nat) (r : List Bytes) : descend d ([] :: r) = descend d r := by
  simp [descend]

/-! ### re-normalising a normal form -/

theorem normStep_push (stack : List Bytes) (c : Bytes) (hc : Proper c) :
    normStep true stack c = c :: stack := by
  unfold normStep
  have h1 : ¬ (c = [] ∨ c = dot) := fun e => e.elim hc.1 hc.2.1
  have h2 : (c ≠ dotdot ∨ (true = false ∧ stack = []) ∨ stack.head? = some dotdot) := Or.inl hc.2.2.1
  simp only [h1, h2, if_false, if_true]

theorem fold_push (comps stack : List Bytes) (h : ∀ c ∈ comps, Proper c) :
    comps.foldl (normStep true) stack = comps.reverse ++ stack := by
  induction comps generalizing stack with
  | nil => rfl
  | cons c r ih =>
    simp only [List.foldl_cons, normStep_push stack c (h c (by simp))]
    rw [ih (c :: stack) (fun x hx => h x (by simp [hx]))]
    simp

theorem join_head (comps : List Bytes) (h : ∀ c ∈ comps, Proper c) :
    (joinSlash comps).head? ≠ some slash := by
  cases comps with
  | nil => simp [joinSlash]
  | cons c r =>
    have hc := h c (by simp)
    cases c with
    | nil => exact absurd rfl hc.1
    | cons x xs =>
      have hx : x ≠ slash := fun e => hc.2.2.2 (by simp [e])
      cases r <;> simp [joinSlash, hx]

theorem splitroot_single (t : Bytes) (ht : t.head? ≠ some slash) :
    splitroot (slash :: t) = ([slash], t) := by
  rw [splitroot_slash, if_neg (fun h => ht h.1)]

theorem splitroot_two (t : Bytes) (ht : t.head? ≠ some slash) :
    splitroot (slash :: slash :: t) = ([slash, slash], t) := by
  rw [splitroot_slash, if_pos ⟨rfl, ht⟩]; rfl
theorem normpath_normal (root : Bytes) (comps : List Bytes) (hroot : root = [slash] ∨ root = [slash, slash])
    (h : ∀ c ∈ comps, Proper c) :
    normpath (root ++ joinSlash comps) = root ++ joinSlash comps := by
  have hj := join_head comps h
  have hsr : splitroot (root ++ joinSlash comps) = (root, joinSlash comps) := by
    rcases hroot with e | e <;> subst e
    · exact splitroot_single _ hj
    · exact splitroot_two _ hj
  have hne : root ++ joinSlash comps ≠ [] := by rcases hroot with e | e <;> subst e <;> simp
  have hrne : root ≠ [] := by rcases hroot with e | e <;> subst e <;> simp
  unfold normpath
  simp only [hne, if_false, hsr]
  have hb : (decide (root ≠ [])) = true := by simp [hrne]
  simp only [hb]
  have hfold : (splitSlash (joinSlash comps)).foldl (normStep true) [] = comps.reverse := by
    by_cases hc : comps = []
    · subst hc; simp [joinSlash, splitSlash, splitSlash.go, normStep]
    · rw [split_join comps hc (fun x hx => (h x hx).2.2.2), fold_push comps [] h]; simp
  rw [hfold, List.reverse_reverse]
  simp [hne]

end PV.Canon
