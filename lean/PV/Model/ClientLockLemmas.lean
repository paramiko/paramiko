import PV.Model.ClientLock
namespace PV.ClientLock

structure CfgOK (cfg : Cfg) : Prop where
  ta_pos : 0 < cfg.ta
  ta_le : cfg.ta ≤ cfg.capReq
  tb_pos : 0 < cfg.tb
  tb_le : cfg.tb ≤ cfg.capAns

structure WF (cfg : Cfg) (s : St) : Prop where
  req : s.creditReq + s.bufReq + s.heldReq = cfg.capReq
  reqH : s.heldReq < cfg.ta
  ans : s.creditAns + s.bufAns + s.heldAns = cfg.capAns
  ansH : s.heldAns < cfg.tb
  lockS : s.lock = some .sender ↔ s.spc = .locked
  lockR : s.lock = some .reader ↔ s.rpc = .locked
  rem : s.spc ≠ .idle → 0 < s.remaining

theorem init_wf {cfg : Cfg} (hc : CfgOK cfg) (n : Nat) : WF cfg (init cfg n) := by
  refine ⟨by simp [init], hc.ta_pos, by simp [init], hc.tb_pos, by simp [init], by simp [init], by simp [init]⟩

/-- `step` with the packet sent outside the lock, as a transition relation -/
inductive Step (cfg : Cfg) : St → Act → St → Prop
  | sAcquire {s : St} (h1 : s.spc = .idle) (h2 : 0 < s.remaining) (h3 : s.lock = none) :
      Step cfg s .sAcquire { s with spc := .locked, lock := some .sender }
  | sRelease {s : St} (h : s.spc = .locked) : Step cfg s .sRelease { s with spc := .sending, lock := none }
  | sSend {s : St} (h1 : s.spc = .sending) (h2 : 0 < s.creditReq) :
      Step cfg s .sSend
        { s with spc := .idle, remaining := s.remaining - 1, creditReq := s.creditReq - 1, bufReq := s.bufReq + 1 }
  | takeAdjust {s : St} (h1 : s.srvHolding = false) (h2 : 0 < s.bufReq) (h3 : s.heldReq + 1 ≥ cfg.ta) :
      Step cfg s .srvTake
        { s with srvHolding := true, bufReq := s.bufReq - 1, creditReq := s.creditReq + (s.heldReq + 1), heldReq := 0 }
  | takeHold {s : St} (h1 : s.srvHolding = false) (h2 : 0 < s.bufReq) (h3 : ¬ s.heldReq + 1 ≥ cfg.ta) :
      Step cfg s .srvTake { s with srvHolding := true, bufReq := s.bufReq - 1, heldReq := s.heldReq + 1 }
  | srvSend {s : St} (h1 : s.srvHolding = true) (h2 : 0 < s.creditAns) :
      Step cfg s .srvSend { s with srvHolding := false, creditAns := s.creditAns - 1, bufAns := s.bufAns + 1 }
  | recvAdjust {s : St} (h1 : s.rpc = .idle) (h2 : 0 < s.bufAns) (h3 : s.heldAns + 1 ≥ cfg.tb) :
      Step cfg s .rRecv
        { s with rpc := .needLock, bufAns := s.bufAns - 1, creditAns := s.creditAns + (s.heldAns + 1), heldAns := 0 }
  | recvHold {s : St} (h1 : s.rpc = .idle) (h2 : 0 < s.bufAns) (h3 : ¬ s.heldAns + 1 ≥ cfg.tb) :
      Step cfg s .rRecv { s with rpc := .needLock, bufAns := s.bufAns - 1, heldAns := s.heldAns + 1 }
  | rAcquire {s : St} (h1 : s.rpc = .needLock) (h2 : s.lock = none) :
      Step cfg s .rAcquire { s with rpc := .locked, lock := some .reader }
  | rRelease {s : St} (h : s.rpc = .locked) : Step cfg s .rRelease { s with rpc := .idle, lock := none }

theorem step_sound {cfg : Cfg} (hns : cfg.sendUnderLock = false) {s s' : St} {a : Act}
    (h : step cfg s a = some s') : Step cfg s a s' := by
  cases a <;> simp only [step, hns, Bool.false_eq_true, if_false] at h <;> split at h
  case sAcquire.isTrue hc => cases h; exact .sAcquire hc.1 hc.2.1 hc.2.2
  case sRelease.isTrue hc => cases h; exact .sRelease hc.2
  case sSend.isTrue hc => cases h; exact .sSend hc.1 hc.2
  case srvTake.isTrue hc =>
    split at h <;> cases h
    · exact .takeAdjust hc.1 hc.2 ‹_›
    · exact .takeHold hc.1 hc.2 ‹_›
  case srvSend.isTrue hc => cases h; exact .srvSend hc.1 hc.2
  case rRecv.isTrue hc =>
    split at h <;> cases h
    · exact .recvAdjust hc.1 hc.2 ‹_›
    · exact .recvHold hc.1 hc.2 ‹_›
  case rAcquire.isTrue hc => cases h; exact .rAcquire hc.1 hc.2
  case rRelease.isTrue hc => cases h; exact .rRelease hc
  all_goals cases h

theorem step_wf {cfg : Cfg} {s s' : St} {a : Act} (hw : WF cfg s) (h : Step cfg s a s') : WF cfg s' := by
  obtain ⟨r1, r2, a1, a2, l1, l2, rm⟩ := hw
  cases h with
  | sAcquire h1 h2 h3 =>
    exact ⟨r1, r2, a1, a2, by simp, ⟨nofun, fun hh => by rw [l2.mpr hh] at h3; cases h3⟩, fun _ => h2⟩
  | sRelease h =>
    refine ⟨r1, r2, a1, a2, by simp, ⟨nofun, fun hh => ?_⟩, fun _ => rm (by rw [h]; simp)⟩
    have := (l2.mpr hh).symm.trans (l1.mpr h)
    cases this
  | sSend h1 h2 =>
    refine ⟨by simp only; omega, r2, a1, a2, ⟨fun hh => ?_, nofun⟩, l2, by simp⟩
    have := l1.mp hh
    rw [h1] at this; cases this
  | takeAdjust h1 h2 h3 => exact ⟨by simp only; omega, by simp only; omega, a1, a2, l1, l2, rm⟩
  | takeHold h1 h2 h3 => exact ⟨by simp only; omega, by simp only; omega, a1, a2, l1, l2, rm⟩
  | srvSend h1 h2 => exact ⟨r1, r2, by simp only; omega, a2, l1, l2, rm⟩
  | recvAdjust h1 h2 h3 =>
    refine ⟨r1, r2, by simp only; omega, by simp only; omega, l1, ⟨fun hh => ?_, nofun⟩, rm⟩
    have := l2.mp hh
    rw [h1] at this; cases this
  | recvHold h1 h2 h3 =>
    refine ⟨r1, r2, by simp only; omega, by simp only; omega, l1, ⟨fun hh => ?_, nofun⟩, rm⟩
    have := l2.mp hh
    rw [h1] at this; cases this
  | rAcquire h1 h2 =>
    exact ⟨r1, r2, a1, a2, ⟨nofun, fun hh => by rw [l1.mpr hh] at h2; cases h2⟩, by simp, rm⟩
  | rRelease h =>
    refine ⟨r1, r2, a1, a2, ⟨nofun, fun hh => ?_⟩, by simp, rm⟩
    have := (l1.mpr hh).symm.trans (l2.mpr h)
    cases this

theorem run_wf {cfg : Cfg} (hns : cfg.sendUnderLock = false) {s : St} (hw : WF cfg s) (as : List Act) :
    WF cfg (run cfg s as) := by
  induction as generalizing s with
  | nil => exact hw
  | cons a as ih =>
    simp only [run]
    cases hs : step cfg s a with
    | none => simpa using ih hw
    | some s' => simpa using ih (step_wf hw (step_sound hns hs))

/-- with the packet sent outside the lock, some party can always move until everything is done -/
theorem not_done_enabled {cfg : Cfg} (hc : CfgOK cfg) (hns : cfg.sendUnderLock = false) {s : St} (hw : WF cfg s)
    (hnd : ¬ Done s) : ∃ a, (step cfg s a).isSome = true := by
  obtain ⟨r1, r2, a1, a2, l1, l2, rm⟩ := hw
  by_cases hr : s.rpc = .locked
  · exact ⟨.rRelease, by simp [step, hr]⟩
  by_cases hs : s.spc = .locked
  · exact ⟨.sRelease, by simp [step, hs, hns]⟩
  have hlock : s.lock = none := by
    cases hl : s.lock with
    | none => rfl
    | some w =>
      cases w with
      | sender => exact absurd (l1.mp hl) hs
      | reader => exact absurd (l2.mp hl) hr
  by_cases hrn : s.rpc = .needLock
  · exact ⟨.rAcquire, by simp [step, hrn, hlock]⟩
  have hri : s.rpc = .idle := by
    cases h : s.rpc with
    | idle => rfl
    | needLock => exact absurd h hrn
    | locked => exact absurd h hr
  by_cases hba : 0 < s.bufAns
  · refine ⟨.rRecv, ?_⟩
    simp only [step, hri, hba, and_self, if_true]
    split <;> rfl
  by_cases hh : s.srvHolding = true
  · have : 0 < s.creditAns := by have := hc.tb_le; omega
    exact ⟨.srvSend, by simp [step, hh, this]⟩
  have hh' : s.srvHolding = false := by simpa using hh
  by_cases hbr : 0 < s.bufReq
  · refine ⟨.srvTake, ?_⟩
    simp only [step, hh', hbr, and_self, if_true]
    split <;> rfl
  cases hsp : s.spc with
  | locked => exact absurd hsp hs
  | sending =>
    have : 0 < s.creditReq := by have := hc.ta_le; omega
    exact ⟨.sSend, by simp [step, hns, hsp, this]⟩
  | idle =>
    by_cases hrem : 0 < s.remaining
    · exact ⟨.sAcquire, by simp [step, hsp, hrem, hlock]⟩
    · exfalso
      apply hnd
      exact ⟨by omega, hsp, by omega, hh', by omega, hri⟩

/-- work still to do -/
def mu (s : St) : Nat :=
  8 * s.remaining - (match s.spc with | .idle => 0 | .locked => 1 | .sending => 2) + 5 * s.bufReq +
    (if s.srvHolding then 4 else 0) + 3 * s.bufAns + (match s.rpc with | .idle => 0 | .needLock => 2 | .locked => 1)

theorem step_decreases {cfg : Cfg} (hns : cfg.sendUnderLock = false) {s s' : St} {a : Act} (hw : WF cfg s)
    (h : step cfg s a = some s') : mu s' < mu s := by
  have hrem := hw.rem
  cases step_sound hns h with
  | sAcquire h1 | rAcquire h1 | recvAdjust h1 | recvHold h1 => simp only [mu, h1]; omega
  | sRelease h1 | sSend h1 =>
    have := hrem (by rw [h1]; simp)
    simp only [mu, h1]; omega
  | takeAdjust h1 | takeHold h1 | srvSend h1 => simp only [mu, h1]; simp; omega
  | rRelease h1 => simp only [mu, h1]; omega

end PV.ClientLock
