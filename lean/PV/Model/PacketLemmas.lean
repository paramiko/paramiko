/-
  PV.Model.PacketLemmas — padding arithmetic, what `buildPacket` returns, the laws assumed of the abstract primitives,
  `encrypt` per engine kind, what a successful `sendMessage` did (`Sent`), and last the toy instance that satisfies the laws.
-/
import PV.Model.Packet
namespace PV.Packet
open PV

/-! ## padding arithmetic -/

theorem padLen_ge (b a l : Nat) (hb : 0 < b) : 4 ≤ padLen b a l := by
  unfold padLen
  have := Nat.mod_lt (l + a) hb
  omega

theorem padLen_le (b a l : Nat) : padLen b a l ≤ b + 3 := by
  unfold padLen; omega

/-- `l + addlen + padding = 3 + b·(q+1)`: everything counted by `addlen` plus payload and padding, minus
the 3 bytes that `addlen` over-counts, is a whole number of blocks -/
theorem padLen_sum (b a l : Nat) (hb : 0 < b) :
    l + a + padLen b a l = 3 + b * ((l + a) / b + 1) := by
  unfold padLen
  have h := Nat.mod_lt (l + a) hb
  have hd := Nat.div_add_mod (l + a) b
  rw [Nat.mul_add, Nat.mul_one]
  omega

theorem padLen8_total_mod (b l : Nat) (hb : 0 < b) : (4 + (l + padLen b 8 l + 1)) % b = 0 := by
  have h := padLen_sum b 8 l hb
  have : 4 + (l + padLen b 8 l + 1) = b * ((l + 8) / b + 1) := by omega
  rw [this]; exact Nat.mul_mod_right _ _

theorem padLen4_body_mod (b l : Nat) (hb : 0 < b) : (l + padLen b 4 l + 1) % b = 0 := by
  have h := padLen_sum b 4 l hb
  have : l + padLen b 4 l + 1 = b * ((l + 4) / b + 1) := by omega
  rw [this]; exact Nat.mul_mod_right _ _

/-! ## the length field -/

theorem take4_be32_append (n : Nat) (x : Bytes) : (be32 n ++ x).take 4 = be32 n :=
  List.take_left' (be32_length n)

theorem drop4_be32_append (n : Nat) (x : Bytes) : (be32 n ++ x).drop 4 = x :=
  List.drop_left' (be32_length n)

theorem be32_beVal (h : Bytes) (hl : h.length = 4) : be32 (beVal h) = h := by
  have := beBytes_beVal h
  rwa [hl] at this

theorem be32_take4_drop4 (x : Bytes) (h : 4 ≤ x.length) : be32 (beVal (x.take 4)) ++ x.drop 4 = x := by
  rw [be32_beVal _ (by rw [List.length_take]; omega), List.take_append_drop]

/-! ## `buildPacket` -/

theorem buildPacket_ok {b a : Nat} {z : Bool} {payload rnd P : Bytes}
    (h : buildPacket b a z payload rnd = .ok P) :
    0 < b ∧ ∃ padding : Bytes, padding.length = padLen b a payload.length ∧ padding.length ≤ 255 ∧
      payload.length + padding.length + 1 < 4294967296 ∧
      P = be32 (payload.length + padding.length + 1) ++ UInt8.ofNat padding.length :: (payload ++ padding) := by
  unfold buildPacket at h
  by_cases hb : b = 0
  · rw [if_pos hb] at h; cases h
  · simp only [hb, if_false] at h
    split at h
    · cases h
    · cases h
      refine ⟨Nat.pos_of_ne_zero hb,
        if z then zeros (padLen b a payload.length) else fitPad rnd (padLen b a payload.length), ?_⟩
      have hl : (if z then zeros (padLen b a payload.length) else fitPad rnd (padLen b a payload.length)).length
          = padLen b a payload.length := by
        cases z
        · exact fitPad_length _ _
        · exact List.length_replicate
      rw [hl]
      exact ⟨rfl, by omega, by omega, by simp only [List.append_assoc, List.cons_append, List.nil_append]⟩

theorem buildPacket_total (b a : Nat) (z : Bool) (payload rnd : Bytes) (hb8 : 8 ≤ b) (hb : b ≤ 252)
    (hl : payload.length + 300 < 4294967296) : ∃ P, buildPacket b a z payload rnd = .ok P := by
  unfold buildPacket
  have h1 := padLen_le b a payload.length
  rw [if_neg (by omega), if_neg (by omega)]
  exact ⟨_, rfl⟩

/-! ## laws of the abstract primitives -/

/-- `blk st` = block size of the cipher context `st`; `Paired se sd` = an encryptor and a decryptor of the
same cipher in corresponding states (same key, same IV/counter/chaining value) -/
structure CipherLaws (p : Prims) (blk : p.CSt → Nat) (Paired : p.CSt → p.CSt → Prop) : Prop where
  blk_enc : ∀ s x, blk (p.enc s x).1 = blk s
  enc_len : ∀ s x, x.length % blk s = 0 → (p.enc s x).2.length = x.length
  enc_app : ∀ s a b, a.length % blk s = 0 →
    p.enc s (a ++ b) = ((p.enc (p.enc s a).1 b).1, (p.enc s a).2 ++ (p.enc (p.enc s a).1 b).2)
  paired_blk : ∀ se sd, Paired se sd → blk sd = blk se
  dec_enc : ∀ se sd x, Paired se sd → x.length % blk se = 0 →
    (p.dec sd (p.enc se x).2).2 = x ∧ Paired (p.enc se x).1 (p.dec sd (p.enc se x).2).1

/-- ciphers are bijections on aligned data (used by C02 only) -/
structure CipherBij (p : Prims) (blk : p.CSt → Nat) (Paired : p.CSt → p.CSt → Prop) : Prop where
  dec_len : ∀ s x, x.length % blk s = 0 → (p.dec s x).2.length = x.length
  enc_dec : ∀ se sd c, Paired se sd → c.length % blk se = 0 → (p.enc se (p.dec sd c).2).2 = c

structure AeadLaws (p : Prims) (tagLen : Nat) : Prop where
  aenc_len : ∀ k iv pt aad, (p.aenc k iv pt aad).length = pt.length + tagLen
  adec_aenc : ∀ k iv pt aad, p.adec k iv (p.aenc k iv pt aad) aad = some pt

/-- the digest is at least as long as the transmitted MAC -/
def MacOk (p : Prims) (mk : p.MKey) (n : Nat) : Prop := ∀ m, n ≤ (p.mac mk m).length

structure CompLaws (p : Prims) (ZPaired : p.ZSt → p.ZSt → Prop) : Prop where
  decomp_comp : ∀ zc zd x, ZPaired zc zd →
    ∃ zd', p.decomp zd (p.comp zc x).2 = some (zd', x) ∧ ZPaired (p.comp zc x).1 zd'

/-- two aligned chunks in a row, through an encryptor and a paired decryptor (the classic receive path reads the first
block, then the rest) -/
theorem CipherLaws.two_chunks {p : Prims} {blk : p.CSt → Nat} {Paired : p.CSt → p.CSt → Prop}
    (L : CipherLaws p blk Paired) {se sd : p.CSt} (hP : Paired se sd) {a b : Bytes}
    (ha : a.length % blk se = 0) (hb : b.length % blk se = 0) :
    p.enc se (a ++ b) = ((p.enc (p.enc se a).1 b).1, (p.enc se a).2 ++ (p.enc (p.enc se a).1 b).2) ∧
    (p.enc se a).2.length = a.length ∧ (p.enc (p.enc se a).1 b).2.length = b.length ∧
    (p.dec sd (p.enc se a).2).2 = a ∧
    (p.dec (p.dec sd (p.enc se a).2).1 (p.enc (p.enc se a).1 b).2).2 = b ∧
    Paired (p.enc (p.enc se a).1 b).1 (p.dec (p.dec sd (p.enc se a).2).1 (p.enc (p.enc se a).1 b).2).1 := by
  have hb' : b.length % blk (p.enc se a).1 = 0 := by rw [L.blk_enc]; exact hb
  obtain ⟨h1, h2⟩ := L.dec_enc se sd a hP ha
  obtain ⟨h3, h4⟩ := L.dec_enc _ _ b h2 hb'
  exact ⟨L.enc_app se a b ha, L.enc_len se a ha, L.enc_len _ b hb', h1, h3, h4⟩

theorem CipherBij.enc_dec_two {p : Prims} {blk : p.CSt → Nat} {Paired : p.CSt → p.CSt → Prop}
    (Bj : CipherBij p blk Paired) (L : CipherLaws p blk Paired) {se sd : p.CSt} (hP : Paired se sd) {x y : Bytes}
    (hx : x.length % blk se = 0) (hy : y.length % blk se = 0) :
    (p.enc se ((p.dec sd x).2 ++ (p.dec (p.dec sd x).1 y).2)).2 = x ++ y := by
  have hxd : x.length % blk sd = 0 := by rw [L.paired_blk se sd hP]; exact hx
  have hA : (p.dec sd x).2.length % blk se = 0 := by rw [Bj.dec_len sd x hxd]; exact hx
  have e0 : (p.enc se (p.dec sd x).2).2 = x := Bj.enc_dec se sd x hP hx
  have hP1 : Paired (p.enc se (p.dec sd x).2).1 (p.dec sd x).1 := by
    have := (L.dec_enc se sd _ hP hA).2
    rwa [e0] at this
  rw [L.enc_app se _ _ hA, e0, Bj.enc_dec _ _ y hP1 (by rw [L.blk_enc]; exact hy)]

/-! ## `encrypt`, one equation per engine kind (the packet is `length ‖ body`) -/

theorem encrypt_plain {p : Prims} {s : Sender p} (h : s.ciph = .plain) (P : Bytes) :
    encrypt s P = .ok (.plain, P, none) := by
  unfold encrypt; rw [h]

theorem encrypt_classic {p : Prims} {s : Sender p} {st : p.CSt} {mk : p.MKey} (h : s.ciph = .classic st mk)
    (P : Bytes) :
    encrypt s P = .ok (.classic (p.enc st P).1 mk, (p.enc st P).2 ++ (p.mac mk (be32 s.seq ++ P)).take s.macLen,
      if s.macLen > 0 then some ⟨s.seq, [], P⟩ else none) := by
  unfold encrypt; rw [h]

theorem encrypt_etm {p : Prims} {s : Sender p} {st : p.CSt} {mk : p.MKey} (h : s.ciph = .etm st mk)
    (n : Nat) (B : Bytes) :
    encrypt s (be32 n ++ B) = .ok (.etm (p.enc st B).1 mk,
      be32 n ++ (p.enc st B).2 ++ (p.mac mk (be32 s.seq ++ (be32 n ++ (p.enc st B).2))).take s.macLen,
      some ⟨s.seq, [], be32 n ++ (p.enc st B).2⟩) := by
  unfold encrypt; rw [h]
  simp only [take4_be32_append, drop4_be32_append]

/-- AES-GCM can fail (`_inc_iv_counter` overflow), so this one is an inversion -/
theorem encrypt_aead_ok {p : Prims} {s : Sender p} {k : p.AKey} {iv : Bytes} (h : s.ciph = .aead k iv)
    {n : Nat} {B w : Bytes} {c : OutC p} {a : Option Auth} (he : encrypt s (be32 n ++ B) = .ok (c, w, a)) :
    ∃ iv', incIv iv = .ok iv' ∧ c = .aead k iv' ∧ w = be32 n ++ p.aenc k iv B (be32 n) ∧
      a = some ⟨s.seq, iv, w⟩ := by
  unfold encrypt at he
  rw [h] at he
  simp only [take4_be32_append, drop4_be32_append] at he
  cases hi : incIv iv with
  | error e => rw [hi] at he; cases he
  | ok iv' =>
    rw [hi] at he
    cases he
    exact ⟨iv', rfl, rfl, rfl, rfl⟩

/-! ## `sendMessage` -/

/-- what a successful `send_message` did: the plaintext packet is `length ‖ B` with `B` = `padlen ‖ compressed
payload ‖ padding`, it went through `encrypt` leaving engine `c`, and only engine, compressor and sequence number
moved -/
structure Sent {p : Prims} (s : Sender p) (data : Bytes) (o : SendOut p) (B padding : Bytes) (c : OutC p) :
    Prop where
  ne : data ≠ []
  noRoll : ¬ (nextSeq s.seq = 0 ∧ ¬ s.kexDone)
  block_pos : 0 < s.block
  body : B = UInt8.ofNat padding.length :: ((compOut s.comp data).2 ++ padding)
  pad : padding.length = padLen s.block s.ciph.addlen (compOut s.comp data).2.length
  pad_le : padding.length ≤ 255
  size : B.length < 4294967296
  enc : encrypt s (be32 B.length ++ B) = .ok (c, o.wire, o.auth)
  st : o.st = { s with ciph := c, comp := (compOut s.comp data).1, seq := nextSeq s.seq }

theorem sendMessage_ok {p : Prims} {s : Sender p} {data rnd : Bytes} {o : SendOut p}
    (h : sendMessage s data rnd = .ok o) : ∃ B padding c, Sent s data o B padding c := by
  unfold sendMessage at h
  by_cases he : data.isEmpty
  · rw [if_pos he] at h; cases h
  · simp only [he, Bool.false_eq_true, if_false] at h
    cases hb : buildPacket s.block s.ciph.addlen (zeroPadCond s.sdctr s.ciph.isPlain) (compOut s.comp data).2 rnd with
    | error e => rw [hb] at h; cases h
    | ok P =>
      cases hen : encrypt s P with
      | error e => simp only [hb, hen] at h; cases h
      | ok t =>
        obtain ⟨c, out, a⟩ := t
        simp only [hb, hen] at h
        by_cases hr : nextSeq s.seq = 0 ∧ ¬ s.kexDone
        · rw [if_pos hr] at h; cases h
        · rw [if_neg hr] at h
          cases h
          obtain ⟨hb0, padding, hpl, hpad, hps, rfl⟩ := buildPacket_ok hb
          refine ⟨_, padding, c, ?_, hr, hb0, rfl, hpl, hpad, ?_, ?_, rfl⟩
          · intro hd; exact he (by rw [hd]; rfl)
          · simpa [Nat.add_assoc] using hps
          · simpa [Nat.add_assoc] using hen

namespace Sent
variable {p : Prims} {s : Sender p} {data : Bytes} {o : SendOut p} {B padding : Bytes} {c : OutC p}

theorem length (h : Sent s data o B padding c) :
    B.length = (compOut s.comp data).2.length + padLen s.block s.ciph.addlen (compOut s.comp data).2.length + 1 := by
  rw [h.body, ← h.pad]; simp only [List.length_cons, List.length_append]

theorem pad_ge (h : Sent s data o B padding c) : 4 ≤ padding.length := by
  rw [h.pad]; exact padLen_ge _ _ _ h.block_pos

/-- no cipher and classic: length field and body together are whole blocks -/
theorem aligned8 (h : Sent s data o B padding c) (ha : s.ciph.addlen = 8) : (4 + B.length) % s.block = 0 := by
  rw [h.length, ha]; exact padLen8_total_mod _ _ h.block_pos

/-- encrypt-then-MAC and AES-GCM: the body alone is whole blocks -/
theorem aligned4 (h : Sent s data o B padding c) (ha : s.ciph.addlen = 4) : B.length % s.block = 0 := by
  rw [h.length, ha]; exact padLen4_body_mod _ _ h.block_pos

theorem seq (h : Sent s data o B padding c) : o.st.seq = nextSeq s.seq := by rw [h.st]

end Sent

theorem sendMessage_seq {p : Prims} {s : Sender p} {data rnd : Bytes} {o : SendOut p}
    (h : sendMessage s data rnd = .ok o) : o.st.seq = nextSeq s.seq := by
  obtain ⟨_, _, _, hS⟩ := sendMessage_ok h
  exact hS.seq

/-! ## the toy primitives satisfy the laws -/

theorem toyXorFrom_length (k j : Nat) (x : Bytes) : (toyXorFrom k j x).length = x.length := by
  induction x generalizing j with
  | nil => rfl
  | cons a t ih => simp [toyXorFrom, ih]

theorem toyXorFrom_append (k j : Nat) (a b : Bytes) :
    toyXorFrom k j (a ++ b) = toyXorFrom k j a ++ toyXorFrom k (j + a.length) b := by
  induction a generalizing j with
  | nil => simp [toyXorFrom]
  | cons x t ih =>
    simp only [List.cons_append, toyXorFrom, ih, List.length_cons]
    rw [show j + 1 + t.length = j + (t.length + 1) by omega]

theorem toyXorFrom_invol (k j : Nat) (x : Bytes) : toyXorFrom k j (toyXorFrom k j x) = x := by
  induction x generalizing j with
  | nil => rfl
  | cons a t ih =>
    simp only [toyXorFrom, ih]
    rw [UInt8.xor_assoc, UInt8.xor_self, UInt8.xor_zero]

def toyPaired (se sd : toyPrims.CSt) : Prop := se = sd

theorem toyCipherLaws (blk : toyPrims.CSt → Nat) (hblk : ∀ s x, blk (toyPrims.enc s x).1 = blk s) :
    CipherLaws toyPrims blk toyPaired where
  blk_enc := hblk
  enc_len := fun s x _ => toyXorFrom_length _ _ _
  enc_app := by
    intro s a b _
    show ((s.1, s.2 + (a ++ b).length), toyXorFrom s.1 s.2 (a ++ b)) = _
    simp only [toyPrims, toyXorFrom_append, List.length_append, Nat.add_assoc]
  paired_blk := by intro se sd h; rw [h]
  dec_enc := by
    intro se sd x h _
    cases h
    refine ⟨toyXorFrom_invol _ _ _, ?_⟩
    show (se.1, se.2 + x.length) = (se.1, se.2 + (toyXorFrom se.1 se.2 x).length)
    rw [toyXorFrom_length]

theorem toyCipherBij (blk : toyPrims.CSt → Nat) : CipherBij toyPrims blk toyPaired where
  dec_len := fun s x _ => toyXorFrom_length _ _ _
  enc_dec := by
    intro se sd c h _
    cases h
    exact toyXorFrom_invol _ _ _

theorem toyHashK_length (k m : Bytes) : (toyHashK k m).length = 64 := by simp [toyHashK]

theorem toyMac_length (k m : Bytes) : (toyMac k m).length = 64 := by
  unfold toyMac; exact toyHashK_length _ _

theorem toyMacOk (mk : Bytes) (n : Nat) (h : n ≤ 64) : MacOk toyPrims mk n := by
  intro m
  have := toyMac_length mk m
  show n ≤ (toyMac mk m).length
  omega

theorem toySeal_length (k : Nat) (iv pt aad : Bytes) : (toySeal k iv pt aad).length = pt.length + 16 := by
  simp [toySeal, toyXorFrom_length, toyHashK_length]

theorem toyUnseal_seal (k : Nat) (iv pt aad : Bytes) : toyUnseal k iv (toySeal k iv pt aad) aad = some pt := by
  unfold toyUnseal
  rw [toySeal_length]
  have h1 : ¬ pt.length + 16 < 16 := by omega
  simp only [h1, if_false, Nat.add_sub_cancel]
  unfold toySeal
  simp only
  generalize hct : toyXorFrom k (beVal (iv.drop 4) % 65536) pt = ct
  have hx : ct.length = pt.length := by rw [← hct]; exact toyXorFrom_length _ _ _
  rw [List.take_left' hx, List.drop_left' hx]
  simp only [if_true]
  rw [← hct, toyXorFrom_invol]

theorem toyAeadLaws : AeadLaws toyPrims 16 where
  aenc_len := toySeal_length
  adec_aenc := toyUnseal_seal

theorem toyDecomp_comp (z : Nat) (x : Bytes) : toyDecomp z (toyComp z x).2 = some ((toyComp z x).1, x) := by
  simp only [toyComp, toyDecomp, if_true, List.length_map, List.map_map]
  congr 2
  conv => rhs; rw [← List.map_id x]
  apply List.map_congr_left
  intro a _
  simp [UInt8.add_sub_cancel]

theorem toyCompLaws : CompLaws toyPrims (fun a b => a = b) where
  decomp_comp := by
    intro zc zd x h
    cases h
    exact ⟨(toyComp zc x).1, toyDecomp_comp zc x, rfl⟩

end PV.Packet
