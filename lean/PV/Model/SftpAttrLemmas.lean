/-
  Helper lemmas for PV.Model.SftpAttr (property theorems: PV/Props/C33.lean).
-/
import PV.Base.WireLemmas
import PV.Model.SftpAttr
namespace PV.SftpAttr
open PV PV.Wire PV.Generated.C33

theorem getU64_at {r : Rd} {n : Nat} {rest : Bytes} (hn : n < 18446744073709551616)
    (h : r.remainder = be64 n ++ rest) : getU64 r = (n, adv r 8) := by
  have hb := getBytes_at h
  rw [be64_length] at hb
  simp only [getU64, hb, beVal_be64 n hn]

theorem dictSet_fresh (acc : List (Bytes × Bytes)) (k v : Bytes)
    (h : k ∉ acc.map Prod.fst) : dictSet acc k v = acc ++ [(k, v)] := by
  induction acc with
  | nil => rfl
  | cons kv r ih =>
    obtain ⟨k', v'⟩ := kv
    simp only [List.map_cons, List.mem_cons, not_or] at h
    have hne : ¬ k' = k := fun e => h.1 e.symm
    simp only [dictSet, hne, if_false, ih h.2, List.cons_append]

/-! ### the extended loop reads back what `packExt` wrote -/

theorem packExt_length_cons (k v : Bytes) (l : List (Bytes × Bytes)) :
    (packExt ((k, v) :: l)).length = (4 + k.length) + (4 + v.length) + (packExt l).length := by
  simp [packExt, Nat.add_assoc]

theorem unpackExt_packExt (l : List (Bytes × Bytes)) :
    ∀ (acc : List (Bytes × Bytes)) (r : Rd) (rest : Bytes),
      (∀ kv ∈ l, kv.1.length < 4294967296 ∧ kv.2.length < 4294967296) →
      ((acc ++ l).map Prod.fst).Nodup → r.remainder = packExt l ++ rest →
      unpackExt r l.length acc = (acc ++ l, adv r (packExt l).length) := by
  induction l with
  | nil => intro acc r rest _ _ _; rw [List.append_nil]; rfl
  | cons kv l ih =>
    intro acc r rest hlen hnd hr
    obtain ⟨k, v⟩ := kv
    obtain ⟨hk, hv⟩ := hlen (k, v) (by simp)
    have hk0 : r.remainder = encStr k ++ (encStr v ++ (packExt l ++ rest)) := by simpa [packExt] using hr
    have hv0 := adv_remainder hk0 (encStr_length k)
    -- the key is new, so the dict grows at its end
    have hfresh : k ∉ acc.map Prod.fst := by
      intro hin
      simp only [List.map_append, List.map_cons] at hnd
      exact (List.nodup_append.mp hnd).2.2 k hin k (by simp) rfl
    simp only [List.length_cons, unpackExt, getString_at hk hk0, getString_at hv hv0,
      dictSet_fresh acc k v hfresh]
    rw [ih (acc ++ [(k, v)]) _ rest (fun kv h => hlen kv (by simp [h])) (by simpa using hnd)
      (adv_remainder hv0 (encStr_length v))]
    simp [adv_adv, packExt_length_cons, Nat.add_assoc]

/-! ### flag arithmetic: decided over the 32 presence combinations with the generated constants -/

theorem flags_table : ∀ s u p t e : Bool,
    has (flagsOf s u p t e) FLAG_SIZE = s ∧ has (flagsOf s u p t e) FLAG_UIDGID = u ∧
    has (flagsOf s u p t e) FLAG_PERMISSIONS = p ∧ has (flagsOf s u p t e) FLAG_AMTIME = t ∧
    has (flagsOf s u p t e) FLAG_EXTENDED = e ∧ flagsOf s u p t e < 4294967296 ∧
    flagsOf s u p t e = bit s FLAG_SIZE + bit u FLAG_UIDGID + bit p FLAG_PERMISSIONS
      + bit t FLAG_AMTIME + bit e FLAG_EXTENDED := by
  decide

/-! ### the segments `_pack` writes -/

def opt64 : Option Nat → Bytes | some n => be64 n | none => []
def opt32 : Option Nat → Bytes | some n => be32 n | none => []
def segPair : Option Nat → Option Nat → Bytes
  | some u, some g => be32 u ++ be32 g
  | _, _ => []
def segExt (a : Attrs) : Bytes :=
  if a.ext.isEmpty then [] else be32 a.ext.length ++ packExt a.ext

def packBytes (a : Attrs) : Bytes :=
  be32 (packFlags a) ++ opt64 a.size ++ segPair a.uid a.gid ++ opt32 a.mode ++ segPair a.atime a.mtime
    ++ segExt a

theorem packFlags_has (a : Attrs) :
    has (packFlags a) FLAG_SIZE = a.size.isSome ∧
    has (packFlags a) FLAG_UIDGID = (a.uid.isSome && a.gid.isSome) ∧
    has (packFlags a) FLAG_PERMISSIONS = a.mode.isSome ∧
    has (packFlags a) FLAG_AMTIME = (a.atime.isSome && a.mtime.isSome) ∧
    has (packFlags a) FLAG_EXTENDED = !a.ext.isEmpty ∧ packFlags a < 4294967296 := by
  have := flags_table a.size.isSome (a.uid.isSome && a.gid.isSome) a.mode.isSome
    (a.atime.isSome && a.mtime.isSome) (!a.ext.isEmpty)
  exact ⟨this.1, this.2.1, this.2.2.1, this.2.2.2.1, this.2.2.2.2.1, this.2.2.2.2.2.1⟩

theorem pack_eq (a : Attrs) (h : a.WF) : pack a = .ok (packBytes a) := by
  obtain ⟨f1, f2, f3, f4, f5, flt⟩ := packFlags_has a
  have s0 : u32 (some (packFlags a)) = .ok (be32 (packFlags a)) := by simp [u32, flt]
  have s1 : whenFlag (packFlags a) FLAG_SIZE (u64 a.size) = .ok (opt64 a.size) := by
    unfold whenFlag; rw [f1]
    cases hs : a.size with
    | none => rfl
    | some n => simp [u64, h.size n hs, opt64]
  have pair : ∀ (x y : Option Nat) (F : Nat), has (packFlags a) F = (x.isSome && y.isSome) →
      (∀ n, x = some n → n < 4294967296) → (∀ n, y = some n → n < 4294967296) →
      whenFlag (packFlags a) F (do let p ← u32 x; let q ← u32 y; pure (p ++ q)) = .ok (segPair x y) := by
    intro x y F hF hx hy
    unfold whenFlag; rw [hF]
    cases x with
    | none => cases y <;> rfl
    | some u =>
      cases y with
      | none => rfl
      | some g =>
        have := hx u rfl; have := hy g rfl
        simp [segPair, u32, *, bind, Except.bind, pure, Except.pure]
  have s3 : whenFlag (packFlags a) FLAG_PERMISSIONS (u32 a.mode) = .ok (opt32 a.mode) := by
    unfold whenFlag; rw [f3]
    cases hs : a.mode with
    | none => rfl
    | some n => simp [u32, h.mode n hs, opt32]
  have s5 : whenFlag (packFlags a) FLAG_EXTENDED
      (do let c ← u32 (some a.ext.length); pure (c ++ packExt a.ext)) = .ok (segExt a) := by
    unfold whenFlag segExt; rw [f5]
    by_cases he : a.ext.isEmpty
    · simp [he]
    · simp [he, u32, h.count, bind, Except.bind, pure, Except.pure]
  simp only [pack, s0, s1, pair _ _ _ f2 h.uid h.gid, s3, pair _ _ _ f4 h.atime h.mtime, s5]
  rfl

/-! ### reading one segment back -/

theorem read_size {r : Rd} {rest : Bytes} (o : Option Nat) (ho : ∀ n, o = some n → n < 18446744073709551616)
    (hr : r.remainder = opt64 o ++ rest) :
    (if o.isSome then (let (n, r') := getU64 r; (some n, r')) else (none, r))
      = (o, adv r (opt64 o).length) := by
  cases o with
  | none => rfl
  | some n => simp only [Option.isSome_some, if_true, getU64_at (ho n rfl) hr, opt64, be64_length]

theorem read_u32 {r : Rd} {rest : Bytes} (o : Option Nat) (ho : ∀ n, o = some n → n < 4294967296)
    (hr : r.remainder = opt32 o ++ rest) :
    (if o.isSome then (let (n, r') := Rd.getInt r; (some n, r')) else (none, r))
      = (o, adv r (opt32 o).length) := by
  cases o with
  | none => rfl
  | some n => simp only [Option.isSome_some, if_true, getInt_at (ho n rfl) hr, opt32, be32_length]

theorem read_pair {r : Rd} {rest : Bytes} (x y : Option Nat)
    (hx : ∀ n, x = some n → n < 4294967296) (hy : ∀ n, y = some n → n < 4294967296)
    (hxy : x.isSome = y.isSome) (hr : r.remainder = segPair x y ++ rest) :
    (if (x.isSome && y.isSome) then
        (let (u, r') := Rd.getInt r; let (g, r'') := r'.getInt; (some u, some g, r''))
      else (none, none, r))
      = (x, y, adv r (segPair x y).length) := by
  cases x with
  | none =>
    cases y with
    | none => rfl
    | some g => simp at hxy
  | some u =>
    cases y with
    | none => simp at hxy
    | some g =>
      have h0 : r.remainder = be32 u ++ (be32 g ++ rest) := by simpa [segPair] using hr
      simp [getInt_at (hx u rfl) h0, getInt_at (hy g rfl) (adv_remainder h0 (be32_length _)), segPair, adv_adv]

theorem read_ext {r : Rd} {rest : Bytes} (a : Attrs) (h : a.WF) (hr : r.remainder = segExt a ++ rest) :
    (if (!a.ext.isEmpty) then (let (n, r') := Rd.getInt r; unpackExt r' n []) else ([], r))
      = (a.ext, adv r (segExt a).length) := by
  unfold segExt at hr ⊢
  by_cases he : a.ext.isEmpty
  · simp [List.isEmpty_iff.mp he, adv]
  · simp only [he] at hr ⊢
    have h0 : r.remainder = be32 a.ext.length ++ (packExt a.ext ++ rest) := by simpa using hr
    simp [getInt_at h.count h0,
      unpackExt_packExt a.ext [] _ rest h.lens (by simpa using h.keys) (adv_remainder h0 (be32_length _)), adv_adv]

/-! ### a decoded field is present exactly when its flag was set -/

theorem opt_present {β : Type} (on : Bool) (x : Nat × β) (y : β) :
    ∃ o r, (if on then (let (n, r') := x; (some n, r')) else (none, y) : Option Nat × β) = (o, r) ∧
      o.isSome = on := by
  cases on
  · exact ⟨none, y, rfl, rfl⟩
  · exact ⟨some x.1, x.2, rfl, rfl⟩

theorem pair_present (on : Bool) (r : Rd) :
    ∃ u g r', (if on then (let (u, r') := r.getInt; let (g, r'') := r'.getInt; (some u, some g, r''))
        else (none, none, r)) = (u, g, r') ∧ u.isSome = on ∧ g.isSome = on := by
  cases on
  · exact ⟨none, none, r, rfl, rfl, rfl⟩
  · exact ⟨some _, some _, _, rfl, rfl, rfl⟩

theorem unpack_present (r : Rd) : ∃ flags a r', unpack r = (flags, a, r') ∧
    a.size.isSome = has flags FLAG_SIZE ∧ a.uid.isSome = has flags FLAG_UIDGID ∧
    a.gid.isSome = has flags FLAG_UIDGID ∧ a.mode.isSome = has flags FLAG_PERMISSIONS ∧
    a.atime.isSome = has flags FLAG_AMTIME ∧ a.mtime.isSome = has flags FLAG_AMTIME := by
  unfold unpack
  generalize r.getInt = p
  obtain ⟨flags, r0⟩ := p
  obtain ⟨size, r1, e1, h1⟩ := opt_present (has flags FLAG_SIZE) (getU64 r0) r0
  obtain ⟨uid, gid, r2, e2, h2, h2'⟩ := pair_present (has flags FLAG_UIDGID) r1
  obtain ⟨mode, r3, e3, h3⟩ := opt_present (has flags FLAG_PERMISSIONS) r2.getInt r2
  obtain ⟨atime, mtime, r4, e4, h4, h4'⟩ := pair_present (has flags FLAG_AMTIME) r3
  simp only [e1, e2, e3, e4]
  exact ⟨_, _, _, rfl, h1, h2, h2', h3, h4, h4'⟩

end PV.SftpAttr
