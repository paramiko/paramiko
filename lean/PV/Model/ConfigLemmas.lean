/-
  Helper lemmas for the SSHConfig model (ordered dicts, the per-block merge of `_lookup`, `extendDedup`).
-/
import PV.Model.Config
namespace PV.Config

/-! ### ordered dicts -/

theorem Dict.get_nil (k : String) : Dict.get [] k = none := rfl

theorem Dict.get_cons (k k0 : String) (v0 : Val) (rest : Dict) :
    Dict.get ((k0, v0) :: rest) k = if k = k0 then some v0 else Dict.get rest k := by
  simp only [Dict.get, List.lookup]
  by_cases h : k = k0
  · subst h; simp
  · have : (k == k0) = false := by simpa using h
    simp [this, h]

theorem Dict.get_set (d : Dict) (k k' : String) (v : Val) :
    (d.set k v).get k' = if k' = k then some v else d.get k' := by
  induction d with
  | nil => rw [Dict.set, Dict.get_cons]
  | cons e rest ih =>
    obtain ⟨k0, v0⟩ := e
    rw [Dict.set]
    by_cases h : k0 = k
    · subst h
      rw [if_pos (beq_self_eq_true k0), Dict.get_cons, Dict.get_cons]
      split <;> rfl
    · rw [if_neg (by simpa using h), Dict.get_cons, Dict.get_cons, ih]
      by_cases h' : k' = k0
      · rw [if_pos h', if_pos h', if_neg (h' ▸ h)]
      · rw [if_neg h', if_neg h']

theorem Dict.get_set_same (d : Dict) (k : String) (v : Val) : (d.set k v).get k = some v :=
  (Dict.get_set d k k v).trans (if_pos rfl)

theorem Dict.get_set_other (d : Dict) (k k' : String) (v : Val) (hne : k' ≠ k) :
    (d.set k v).get k' = d.get k' :=
  (Dict.get_set d k k' v).trans (if_neg hne)

theorem Dict.has_iff (d : Dict) (k : String) : d.has k = true ↔ ∃ v, d.get k = some v := by
  simp [Dict.has, Option.isSome_iff_exists]

theorem Dict.has_false_iff (d : Dict) (k : String) : d.has k = false ↔ d.get k = none := by
  simp [Dict.has]

/-- Python's `d[k] if k in d else x` -/
theorem Dict.get_or (d : Dict) (k : String) (x : Option Val) :
    (d.get k).or x = if d.has k then d.get k else x := by
  unfold Dict.has
  cases d.get k <;> rfl

/-- the keys of the dict are pairwise different (true of every dict built with `Dict.set` from `[]`) -/
def NodupKeys (d : Dict) : Prop := (d.map (·.1)).Nodup

theorem Dict.keys_set (d : Dict) (k : String) (v : Val) :
    (d.set k v).map (·.1) = if d.has k then d.map (·.1) else d.map (·.1) ++ [k] := by
  induction d with
  | nil => simp [Dict.set, Dict.has, Dict.get_nil]
  | cons e rest ih =>
    obtain ⟨k0, v0⟩ := e
    simp only [Dict.set]
    by_cases h : k0 = k
    · subst h; simp [Dict.has, Dict.get_cons]
    · have hb : (k0 == k) = false := by simpa using h
      have h' : ¬ k = k0 := fun e => h e.symm
      simp only [hb, Bool.false_eq_true, if_false, List.map_cons, ih, Dict.has, Dict.get_cons, h']
      split <;> simp_all

theorem mem_keys_iff (d : Dict) (k : String) : k ∈ d.map (·.1) ↔ ∃ v, d.get k = some v := by
  induction d with
  | nil => simp [Dict.get_nil]
  | cons e rest ih =>
    obtain ⟨k0, v0⟩ := e
    simp only [List.map_cons, List.mem_cons, Dict.get_cons]
    by_cases h : k = k0
    · simp [h]
    · simp [h, ih]

theorem NodupKeys.set {d : Dict} (h : NodupKeys d) (k : String) (v : Val) : NodupKeys (d.set k v) := by
  unfold NodupKeys at *
  rw [Dict.keys_set]
  split
  · exact h
  · rename_i hk
    refine List.nodup_append.mpr ⟨h, by simp, fun a ha b hb hab => hk ?_⟩
    rw [← List.mem_singleton.mp hb, ← hab]
    exact (Dict.has_iff d a).mpr ((mem_keys_iff d a).mp ha)

theorem NodupKeys.nil : NodupKeys [] := by simp [NodupKeys]

theorem Dict.get_none_of_not_mem_keys (d : Dict) (k : String) (h : k ∉ d.map (·.1)) : d.get k = none := by
  cases hg : d.get k with
  | none => rfl
  | some v => exact absurd ((mem_keys_iff d k).mpr ⟨v, hg⟩) h

/-! ### `extendDedup` -/

theorem extendDedup_nil (acc : List String) : extendDedup acc [] = acc := rfl

theorem extendDedup_cons (acc : List String) (x : String) (xs : List String) :
    extendDedup acc (x :: xs) = extendDedup (if acc.contains x then acc else acc ++ [x]) xs := rfl

theorem mem_extendDedup (acc vs : List String) (x : String) :
    x ∈ extendDedup acc vs ↔ x ∈ acc ∨ x ∈ vs := by
  induction vs generalizing acc with
  | nil => simp [extendDedup_nil]
  | cons v vs ih =>
    rw [extendDedup_cons, ih, List.mem_cons]
    by_cases h : acc.contains v = true
    · rw [if_pos h]
      have hv : v ∈ acc := by simpa using h
      exact ⟨Or.imp_right .inr, fun h1 => h1.elim .inl fun h2 => h2.elim (fun e => .inl (e ▸ hv)) .inr⟩
    · rw [if_neg h, List.mem_append, List.mem_singleton, or_assoc]

theorem nodup_extendDedup (acc vs : List String) (h : acc.Nodup) : (extendDedup acc vs).Nodup := by
  induction vs generalizing acc with
  | nil => simpa [extendDedup_nil] using h
  | cons v vs ih =>
    rw [extendDedup_cons]
    apply ih
    by_cases hc : acc.contains v = true
    · rw [if_pos hc]; exact h
    · rw [if_neg hc]
      have hv : v ∉ acc := by simpa using hc
      rw [List.nodup_append]
      refine ⟨h, by simp, ?_⟩
      intro a ha b hb
      simp only [List.mem_singleton] at hb
      subst hb
      intro hab; subst hab; exact hv ha

/-- what is already there stays in front, in its order -/
theorem extendDedup_prefix (acc vs : List String) : acc <+: extendDedup acc vs := by
  induction vs generalizing acc with
  | nil => exact List.prefix_refl _
  | cons v vs ih =>
    rw [extendDedup_cons]
    by_cases hc : acc.contains v = true
    · rw [if_pos hc]; exact ih acc
    · rw [if_neg hc]
      exact List.IsPrefix.trans (List.prefix_append acc [v]) (ih _)

/-- extending by values that are all present changes nothing (second `_lookup` pass) -/
theorem extendDedup_of_subset (acc vs : List String) (h : ∀ x ∈ vs, x ∈ acc) : extendDedup acc vs = acc := by
  induction vs generalizing acc with
  | nil => rfl
  | cons v vs ih =>
    rw [extendDedup_cons]
    have hv : acc.contains v = true := by simpa using h v (by simp)
    simp only [hv, if_true]
    exact ih acc (fun x hx => h x (by simp [hx]))

/-! ### the per-block merge of `_lookup` -/

theorem mergeKey_get_other (opts : Dict) (k : String) (v : Val) (k' : String) (h : k' ≠ k) :
    (mergeKey opts k v).get k' = opts.get k' := by
  unfold mergeKey
  split
  · exact Dict.get_set_other _ _ _ _ h
  · split
    · rfl
    · exact Dict.get_set_other _ _ _ _ h

theorem mergeKey_get_identityfile (opts : Dict) (v : Val) :
    (mergeKey opts "identityfile" v).get "identityfile"
      = some (.list (extendDedup (listOf (opts.get "identityfile")) (listOf (some v)))) := by
  unfold mergeKey
  simp only [BEq.rfl, if_true, Dict.get_set_same]

theorem mergeKey_get_same (opts : Dict) (k : String) (v : Val) (hk : k ≠ "identityfile") :
    (mergeKey opts k v).get k = if opts.has k then opts.get k else some v := by
  unfold mergeKey
  have : (k == "identityfile") = false := by simpa using hk
  simp only [this, Bool.false_eq_true, if_false]
  split
  · rfl
  · exact Dict.get_set_same _ _ _

theorem mergeKey_nodup (opts : Dict) (k : String) (v : Val) (h : NodupKeys opts) : NodupKeys (mergeKey opts k v) := by
  unfold mergeKey
  split
  · exact h.set _ _
  · split
    · exact h
    · exact h.set _ _

theorem mergeBlock_nodup (opts cfg : Dict) (h : NodupKeys opts) : NodupKeys (mergeBlock opts cfg) := by
  unfold mergeBlock
  induction cfg generalizing opts with
  | nil => exact h
  | cons e rest ih => exact ih _ (mergeKey_nodup _ _ _ h)

/-- value of key `k` after merging one applying block into the options -/
def mergedValue (opts : Dict) (k : String) : Option Val → Option Val
  | none => opts.get k
  | some v =>
    if k = "identityfile" then some (.list (extendDedup (listOf (opts.get k)) (listOf (some v))))
    else if opts.has k then opts.get k else some v

theorem mergedValue_identityfile (opts : Dict) (v : Val) :
    mergedValue opts "identityfile" (some v)
      = some (.list (extendDedup (listOf (opts.get "identityfile")) (listOf (some v)))) := by
  rw [mergedValue]; exact if_pos rfl

theorem mergedValue_of_ne (opts : Dict) (k : String) (hk : k ≠ "identityfile") (x : Option Val) :
    mergedValue opts k x = (opts.get k).or x := by
  cases x with
  | none => exact Option.or_none.symm
  | some v => rw [Dict.get_or, mergedValue, if_neg hk]

theorem mergeBlock_get (opts cfg : Dict) (k : String) (hn : NodupKeys cfg) :
    (mergeBlock opts cfg).get k = mergedValue opts k (cfg.get k) := by
  unfold mergeBlock
  induction cfg generalizing opts with
  | nil => rfl
  | cons e rest ih =>
    obtain ⟨k0, v0⟩ := e
    have hn' : NodupKeys rest := by
      unfold NodupKeys at hn ⊢
      simp only [List.map_cons, List.nodup_cons] at hn
      exact hn.2
    have hk0 : k0 ∉ rest.map (·.1) := by
      unfold NodupKeys at hn
      simp only [List.map_cons, List.nodup_cons] at hn
      exact hn.1
    simp only [List.foldl_cons]
    rw [ih _ hn']
    by_cases hk : k = k0
    · subst hk
      have hr : Dict.get rest k = none := Dict.get_none_of_not_mem_keys _ _ hk0
      simp only [hr, mergedValue, Dict.get_cons, if_true]
      by_cases hid : k = "identityfile"
      · subst hid; simp only [if_true]; exact mergeKey_get_identityfile _ _
      · simp only [hid, if_false]; exact mergeKey_get_same _ _ _ hid
    · simp only [Dict.get_cons, hk, if_false]
      cases hr : Dict.get rest k with
      | none => simp only [mergedValue]; exact mergeKey_get_other _ _ _ _ hk
      | some v =>
        simp only [mergedValue, Dict.has, mergeKey_get_other _ _ _ _ hk]
        rfl

/-- The rule behind every level of `parse` and `_lookup` (lines of a block, blocks of a pass): when each step
keeps the value `k` already has and otherwise gives it what the item contributes, the fold holds the first
contribution. -/
theorem get_foldl_first {α : Type} (step : Dict → α → Dict) (contrib : α → Option Val) (k : String) (l : List α)
    (h : ∀ d, ∀ a ∈ l, (step d a).get k = (d.get k).or (contrib a)) (acc : Dict) :
    (l.foldl step acc).get k = (acc.get k).or (l.findSome? contrib) := by
  induction l generalizing acc with
  | nil => simp
  | cons a l ih =>
    rw [List.foldl_cons, ih (fun d b hb => h d b (List.mem_cons_of_mem a hb)), h acc a List.mem_cons_self,
      Option.or_assoc, List.findSome?_cons]
    cases contrib a <;> rfl

/-! ### a whole `_lookup` pass -/

/-- merge the configs of the applying blocks, in file order -/
def mergeAll (opts : Dict) (cfgs : List Dict) : Dict := cfgs.foldl mergeBlock opts

theorem mergeAll_append (opts : Dict) (a b : List Dict) : mergeAll opts (a ++ b) = mergeAll (mergeAll opts a) b :=
  List.foldl_append

theorem mergeAll_nodup (opts : Dict) (cfgs : List Dict) (h : NodupKeys opts) : NodupKeys (mergeAll opts cfgs) := by
  unfold mergeAll
  induction cfgs generalizing opts with
  | nil => exact h
  | cons c cs ih => exact ih _ (mergeBlock_nodup _ _ h)

/-- first-obtained value of an ordinary key: what is already there, else the first block that has the key -/
theorem mergeAll_get (opts : Dict) (cfgs : List Dict) (k : String) (hk : k ≠ "identityfile")
    (hn : ∀ c ∈ cfgs, NodupKeys c) :
    (mergeAll opts cfgs).get k = (opts.get k).or (cfgs.findSome? fun c => c.get k) := by
  refine get_foldl_first mergeBlock _ k cfgs (fun d c hc => ?_) opts
  rw [mergeBlock_get d c k (hn c hc), mergedValue_of_ne d k hk]

theorem extendDedup_append (acc l1 l2 : List String) :
    extendDedup acc (l1 ++ l2) = extendDedup (extendDedup acc l1) l2 := List.foldl_append

/-- IdentityFile: everything the applying blocks name, appended without duplicates to what is already there -/
theorem mergeAll_get_identityfile (opts : Dict) (cfgs : List Dict) (hn : ∀ c ∈ cfgs, NodupKeys c) :
    (mergeAll opts cfgs).get "identityfile" =
      if cfgs.all (fun c => (c.get "identityfile").isNone) then opts.get "identityfile"
      else some (.list (extendDedup (listOf (opts.get "identityfile"))
        (cfgs.flatMap fun c => listOf (c.get "identityfile")))) := by
  induction cfgs generalizing opts with
  | nil => rfl
  | cons c cs ih =>
    show (mergeAll (mergeBlock opts c) cs).get "identityfile" = _
    rw [ih _ (fun c' hc' => hn c' (List.mem_cons_of_mem c hc')), mergeBlock_get _ _ _ (hn c List.mem_cons_self),
      List.all_cons, List.flatMap_cons, extendDedup_append]
    cases c.get "identityfile" with
    | none => rfl
    | some v =>
      rw [mergedValue_identityfile]
      simp only [Option.isNone_some, Bool.false_and, Bool.false_eq_true, if_false]
      split
      · -- no later block names an IdentityFile
        rename_i hall
        have : (cs.flatMap fun c => listOf (c.get "identityfile")) = [] := by
          rw [List.flatMap_eq_nil_iff]
          intro c' hc'
          rw [Option.isNone_iff_eq_none.mp (List.all_eq_true.mp hall c' hc')]
          rfl
        rw [this, extendDedup_nil]
      · rfl

/-! ### token expansion -/

/-- `_tokenize` reads the options only through `hostname` (not when expanding HostName itself), `port`, `user` -/
theorem tokenize_congr (env : Env) (c1 c2 : Dict) (target key value : String)
    (hh : key = "hostname" ∨ c1.get "hostname" = c2.get "hostname")
    (hp : c1.get "port" = c2.get "port") (hu : c1.get "user" = c2.get "user") :
    tokenize env c1 target key value = tokenize env c2 target key value := by
  unfold tokenize
  rcases hh with hh | hh
  · subst hh; simp only [hp, hu, BEq.rfl, if_true]
  · simp only [hp, hu, hh]

theorem expandVal_congr (env : Env) (c1 c2 : Dict) (target key : String) (v : Val)
    (hh : key = "hostname" ∨ c1.get "hostname" = c2.get "hostname")
    (hp : c1.get "port" = c2.get "port") (hu : c1.get "user" = c2.get "user") :
    expandVal env c1 target key v = expandVal env c2 target key v := by
  have ht : tokenize env c1 target key = tokenize env c2 target key :=
    funext fun s => tokenize_congr env c1 c2 target key s hh hp hu
  cases v <;> simp only [expandVal, ht]

/-- keys without an entry in the token table are left alone (in particular Port and User) -/
theorem expandVal_no_tokens (env : Env) (c : Dict) (target key : String) (v : Val)
    (h : allowedTokens key = []) : expandVal env c target key v = v := by
  have ht : ∀ s, tokenize env c target key s = s := by
    intro s; unfold tokenize; simp [h]
  cases v with
  | none => rfl
  | str s => simp [expandVal, ht]
  | list l =>
    simp only [expandVal]
    congr 1
    have : (tokenize env c target key) = id := funext ht
    rw [this, List.map_id]

theorem allowedTokens_port : allowedTokens "port" = [] := by decide
theorem allowedTokens_user : allowedTokens "user" = [] := by decide

theorem expandKeys_append (env : Env) (target : String) (a b : List String) (c : Dict) :
    expandKeys env target (a ++ b) c = expandKeys env target b (expandKeys env target a c) := by
  induction a generalizing c with
  | nil => rfl
  | cons k ks ih =>
    simp only [List.cons_append, expandKeys]
    cases c.get k <;> simp [ih]

/-- the dict agrees with the reference `R` on what `_tokenize` reads -/
def Agree (c R : Dict) : Prop :=
  c.get "hostname" = R.get "hostname" ∧ c.get "port" = R.get "port" ∧ c.get "user" = R.get "user"

theorem expandKeys_spec (env : Env) (target : String) (R : Dict) (ks : List String) (hnd : ks.Nodup)
    (hnh : "hostname" ∉ ks) (c : Dict) (hag : Agree c R) (k : String) :
    (expandKeys env target ks c).get k =
      if k ∈ ks then (c.get k).map (expandVal env R target k) else c.get k := by
  induction ks generalizing c with
  | nil => simp [expandKeys]
  | cons k0 ks ih =>
    have hnd' : ks.Nodup := (List.nodup_cons.mp hnd).2
    have hk0 : k0 ∉ ks := (List.nodup_cons.mp hnd).1
    have hnh' : "hostname" ∉ ks := fun h => hnh (by simp [h])
    have hk0h : k0 ≠ "hostname" := fun h => hnh (by simp [h])
    simp only [expandKeys]
    cases hc : c.get k0 with
    | none =>
      simp only
      rw [ih hnd' hnh' c hag]
      by_cases hk : k = k0
      · subst hk; simp [hk0, hc]
      · simp [hk]
    | some v =>
      simp only
      have hev : expandVal env c target k0 v = expandVal env R target k0 v :=
        expandVal_congr env c R target k0 v (Or.inr hag.1) hag.2.1 hag.2.2
      rw [hev]
      have hag' : Agree (c.set k0 (expandVal env R target k0 v)) R := by
        refine ⟨?_, ?_, ?_⟩
        · rw [Dict.get_set_other _ _ _ _ (Ne.symm hk0h)]; exact hag.1
        · by_cases hp : k0 = "port"
          · subst hp
            rw [Dict.get_set_same, expandVal_no_tokens env R target "port" v allowedTokens_port, ← hc]
            exact hag.2.1
          · rw [Dict.get_set_other _ _ _ _ (Ne.symm hp)]; exact hag.2.1
        · by_cases hu : k0 = "user"
          · subst hu
            rw [Dict.get_set_same, expandVal_no_tokens env R target "user" v allowedTokens_user, ← hc]
            exact hag.2.2
          · rw [Dict.get_set_other _ _ _ _ (Ne.symm hu)]; exact hag.2.2
      rw [ih hnd' hnh' _ hag']
      by_cases hk : k = k0
      · subst hk
        simp [hk0, Dict.get_set_same, hc]
      · simp only [List.mem_cons, hk, false_or]
        rw [Dict.get_set_other _ _ _ _ hk]

theorem filter_eq_of_nodup (l : List String) (a : String) (h : l.Nodup) :
    l.filter (· == a) = if a ∈ l then [a] else [] := by
  induction l with
  | nil => rfl
  | cons x xs ih =>
    have hx : x ∉ xs := (List.nodup_cons.mp h).1
    have ih' := ih (List.nodup_cons.mp h).2
    by_cases hxa : x = a
    · subst hxa
      simp only [List.filter_cons, BEq.rfl, if_true, List.mem_cons, true_or, ih', hx, if_false]
    · have : (x == a) = false := by simpa using hxa
      have hne : ¬ a = x := fun e => hxa e.symm
      simp only [List.filter_cons, this, Bool.false_eq_true, if_false, ih', List.mem_cons, hne, false_or]

end PV.Config
