/-
  PV.Model.PacketEpoch — within one key epoch and fewer than 2^32 packets, the positional no-forgery hypothesis of C02
  follows from the set-membership form ("whatever verifies was authenticated by the sender"), because the sequence
  number is part of every record.
-/
import PV.Model.PacketAuth
namespace PV.Packet
open PV

def MacModeIn {p : Prims} (c : InC p) (macLen : Nat) : Prop :=
  match c with
  | .etm _ _ => True
  | .classic _ _ => 0 < macLen
  | _ => False

theorem MacModeIn.authCfg {p : Prims} {c : InC p} {macLen : Nat} (h : MacModeIn c macLen) : AuthCfg c macLen := by
  cases c with
  | plain => exact h
  | classic _ _ => exact h
  | etm _ _ => trivial
  | aead _ _ => trivial

def MsgOnly {p : Prims} (ops : List (Op p)) : Prop := ∀ op ∈ ops, ∃ d rnd, op = .msg d rnd

/-- the `k`-th record carries sequence number `n + k` (mod 2^32) -/
def SeqFrom (n : Nat) (l : List Auth) : Prop :=
  ∀ (k : Nat) (e : Auth), l[k]? = some e → e.seq = (n + k) % 4294967296

theorem SeqFrom.nil (n : Nat) : SeqFrom n [] := fun k e h => by cases h

theorem SeqFrom.cons {n : Nat} (hn : n < 4294967296) (nonce x : Bytes) {l : List Auth}
    (h : SeqFrom (nextSeq n) l) : SeqFrom n (⟨n, nonce, x⟩ :: l) := by
  intro k e hk
  cases k with
  | zero => cases hk; exact (Nat.mod_eq_of_lt hn).symm
  | succ k => rw [h k e hk]; unfold nextSeq; omega

theorem nextSeq_lt (n : Nat) : nextSeq n < 4294967296 := Nat.mod_lt _ (by decide)

theorem log_seqs {p : Prims} (ops : List (Op p)) : ∀ (s : Sender p), AuthOut s.ciph s.macLen → MsgOnly ops →
    s.seq < 4294967296 → ∀ s' wire log, sendAll s ops = .ok (s', wire, log) →
    log.length = ops.length ∧ SeqFrom s.seq log := by
  induction ops with
  | nil =>
    intro s _ _ _ s' wire log hs
    cases hs
    exact ⟨rfl, .nil _⟩
  | cons op ops ih =>
    intro s hA hmo hlt s' wire log hs
    obtain ⟨d, rnd, rfl⟩ := hmo op (List.mem_cons_self ..)
    obtain ⟨o, w1, l1, hsm, hsa, rfl, rfl⟩ := sendAll_msg_ok hs
    obtain ⟨⟨nonce, x, he⟩, hA', hsq⟩ := send_auth hsm hA
    obtain ⟨i1, i2⟩ := ih o.st hA' (fun o ho => hmo o (List.mem_cons_of_mem _ ho)) (hsq ▸ nextSeq_lt _) s' w1 l1 hsa
    rw [he]
    rw [hsq] at i2
    exact ⟨congrArg (· + 1) i1, .cons hlt nonce x i2⟩

theorem auths_seqs {p : Prims} (ops : List (Op p)) : ∀ (r : Receiver p) (w : Bytes), AuthCfg r.ciph r.macLen →
    MsgOnly ops → r.seq < 4294967296 →
    (recvAll r ops w).auths.length ≤ ops.length ∧ SeqFrom r.seq (recvAll r ops w).auths := by
  induction ops with
  | nil => intro r w _ _ _; exact ⟨Nat.le_refl _, .nil _⟩
  | cons op ops ih =>
    intro r w hA hmo hlt
    obtain ⟨d, rnd, rfl⟩ := hmo op (List.mem_cons_self ..)
    cases hrun : runBuf (readMessage r) w with
    | err e => simp only [recvAll, hrun]; exact ⟨Nat.zero_le _, .nil _⟩
    | ok o' rest =>
      obtain ⟨⟨nonce, x, he⟩, hA', hsq⟩ := recv_auth hrun hA
      obtain ⟨i1, i2⟩ := ih o'.st rest hA' (fun o ho => hmo o (List.mem_cons_of_mem _ ho)) (hsq ▸ nextSeq_lt _)
      simp only [recvAll, hrun, he]
      rw [hsq] at i2
      exact ⟨Nat.succ_le_succ i1, .cons hlt nonce x i2⟩

/-- membership form ⇒ positional form, inside one key epoch of at most 2^32 packets: a verified record sits in
the sender's log at the position its sequence number says, and that is the position at which it was verified -/
theorem positional_of_membership {p : Prims} (W : Laws p) (ops : List (Op p)) (s : Sender p) (r : Receiver p)
    (hp : PairedSt W s r) (hA : AuthCfg r.ciph r.macLen) (hmo : MsgOnly ops)
    (hlen : ops.length ≤ 4294967296) (hlt : s.seq < 4294967296)
    (s' : Sender p) (wire : Bytes) (log : List Auth) (hs : sendAll s ops = .ok (s', wire, log)) (w : Bytes)
    (hmem : ∀ e ∈ (recvAll r ops w).auths, e ∈ log) :
    ∀ (k : Nat) (e : Auth), (recvAll r ops w).auths[k]? = some e → log[k]? = some e := by
  intro k e hk
  obtain ⟨l1, l2⟩ := log_seqs ops s (hA.out hp) hmo hlt s' wire log hs
  obtain ⟨a1, a2⟩ := auths_seqs ops r w hA hmo (hp.seq ▸ hlt)
  obtain ⟨j, hj⟩ := List.mem_iff_getElem?.1 (hmem e (List.mem_of_getElem? hk))
  have hjl : j < log.length := (List.getElem?_eq_some_iff.1 hj).1
  have hkl : k < (recvAll r ops w).auths.length := (List.getElem?_eq_some_iff.1 hk).1
  have e1 := l2 j e hj
  have e2 := a2 k e hk
  rw [← hp.seq] at e2
  have : j = k := by omega
  exact this ▸ hj

end PV.Packet
