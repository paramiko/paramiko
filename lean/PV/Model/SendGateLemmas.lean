/-
  PV.Model.SendGateLemmas — the control part of PV/Model/SendGate.lean (lock owner, event, the two program counters): its
  invariant, by one evaluation over its finitely many states, and what a step of either thread does to the exchange's
  program counter (used by C11).
-/
import PV.Model.SendGate
namespace PV.SendGate

/-- control invariant: who holds `clear_to_send_lock`, when the event is cleared, and — the point of the re-check
under the lock — a user thread that is about to write has seen the event set *while holding the lock* -/
def GInv (c : Ctrl) : Bool :=
  (decide (c.lock = .user) == (c.upc == .locked || c.upc == .sending || c.upc == .sent)) &&
  (decide (c.lock = .kex) == (c.kpc == .haveLock || c.kpc == .cleared || c.kpc == .setLock || c.kpc == .setDone)) &&
  ((!c.event) == (c.kpc == .cleared || c.kpc == .released || c.kpc == .sentKexinit || c.kpc == .sentKex ||
      c.kpc == .sentNewkeys || c.kpc == .setLock)) &&
  (!(c.upc == .sending) || c.event)

/-- The control part is finite: one evaluation over its 360 states shows that both threads keep `GInv` and that under
it the user thread is about to write only while no exchange is open. -/
theorem ginv_all : ∀ lock ∈ [Owner.free, .user, .kex], ∀ event ∈ [true, false],
    ∀ upc ∈ [UPc.wait, .ready, .locked, .sending, .sent, .done],
    ∀ kpc ∈ [KPc.idle, .haveLock, .cleared, .released, .sentKexinit, .sentKex, .sentNewkeys, .setLock, .setDone,
      .done],
    let c : Ctrl := { lock, event, upc, kpc }
    GInv c = true → (∀ more, GInv (cuser true more c) = true) ∧ GInv (ckex true c) = true ∧
      (upc = .sending → kpc = .idle ∨ kpc = .done) := by
  decide +kernel

theorem ginv (c : Ctrl) (h : GInv c = true) :
    (∀ more, GInv (cuser true more c) = true) ∧ GInv (ckex true c) = true ∧
      (c.upc = .sending → c.kpc = .idle ∨ c.kpc = .done) := by
  obtain ⟨lock, ev, u, k⟩ := c
  exact ginv_all lock (by cases lock <;> simp) ev (by cases ev <;> simp) u (by cases u <;> simp)
    k (by cases k <;> simp) h

theorem cuser_kpc (recheck more : Bool) (c : Ctrl) : (cuser recheck more c).kpc = c.kpc := by
  fun_cases cuser recheck more c <;> rfl

theorem kexPart_step (s : St) :
    kexPart (ckex s.klock s.c).kpc = kexPart s.c.kpc ++ written s .kex ∧
      (s.c.kpc = .done → (ckex s.klock s.c).kpc = .done) := by
  fun_cases ckex s.klock s.c <;> simp [kexPart, written, *]

end PV.SendGate
