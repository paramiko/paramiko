/-
  Lemmas for PV.Model.Rekey: `step` one operation at a time.  A key switch (`setOut`, `setIn`) is one record update;
  every other operation leaves a pending request and an exchange in progress as they are.  Property theorems:
  PV/Props/C10.lean.
-/
import PV.Model.Rekey
namespace PV.Rekey

theorem bothSwitched_eq (s : St) (b : Nat) :
    bothSwitched s b = { s with initCount := if s.initCount ||| b = 3 then 0 else s.initCount ||| b,
                                needRekey := decide (s.initCount ||| b ≠ 3) && s.needRekey } := by
  unfold bothSwitched
  split <;> simp [*]

/-- the end of both switches, `if not need_rekey(): in_kex = False`: `in_kex` survives only under a pending request -/
theorem settle_eq (s : St) :
    (if ¬ s.needRekey then { s with inKex := false } else s) = { s with inKex := s.needRekey && s.inKex } := by
  rcases s with ⟨_, _, _, _, _, _, n, _, _, _, _⟩
  cases n <;> rfl

theorem step_setOut (L : Limits) (s : St) :
    step L s .setOut = { s with sentBytes := 0, sentPackets := 0,
                                initCount := if s.initCount ||| 1 = 3 then 0 else s.initCount ||| 1,
                                needRekey := decide (s.initCount ||| 1 ≠ 3) && s.needRekey,
                                inKex := (decide (s.initCount ||| 1 ≠ 3) && s.needRekey) && s.inKex } := by
  simp only [step, settle_eq]
  rw [bothSwitched_eq]

theorem step_setIn (L : Limits) (s : St) :
    step L s .setIn = { s with recvBytes := 0, recvPackets := 0, ovBytes := 0, ovPackets := 0,
                               initCount := if s.initCount ||| 2 = 3 then 0 else s.initCount ||| 2,
                               needRekey := decide (s.initCount ||| 2 ≠ 3) && s.needRekey,
                               inKex := (decide (s.initCount ||| 2 ≠ 3) && s.needRekey) && s.inKex } := by
  simp only [step, settle_eq]
  rw [bothSwitched_eq]

theorem kept_unless_switch (L : Limits) (s : St) (o : Op) (ho : o ≠ .setOut) (hi : o ≠ .setIn) :
    (s.needRekey = true → (step L s o).needRekey = true) ∧ (s.inKex = true → (step L s o).inKex = true) := by
  cases o with
  | setOut => exact absurd rfl ho
  | setIn => exact absurd rfl hi
  | send len =>
    exact ⟨fun h => by simp only [step, apply_ite St.needRekey, h, ite_self],
           fun h => by simp only [step, apply_ite St.inKex, h, ite_self]⟩
  | recv len =>
    exact ⟨fun h => by simp only [step, apply_ite St.needRekey, h, ite_self, if_true],
           fun h => by simp only [step, apply_ite St.inKex, h, ite_self]⟩
  | loopTop =>
    exact ⟨fun h => by simp only [step, apply_ite St.needRekey, h, ite_self],
           fun h => by simp only [step, apply_ite St.inKex, h, ite_self]⟩
  | peerKexInit => exact ⟨id, fun _ => rfl⟩

end PV.Rekey
