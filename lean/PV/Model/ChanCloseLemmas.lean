/-
  EOF / CLOSE handling in PV.Model.ChanWindow (used by C22): EOF and CLOSE are counted, on the wire and in the
  hands of threads, against the flags `eof_sent` and `closed`; no data follows them unless the EOF raced with a
  sender that had already reserved; a channel that is closed with its EOF out produces no new message.
-/
import PV.Model.ChanFlowLemmas
namespace PV.Chan

def Msg.isEof : Msg → Bool
  | .eof => true
  | _ => false

def Msg.isClose : Msg → Bool
  | .close => true
  | _ => false

def Msg.isEnd (m : Msg) : Bool := m.isEof || m.isClose

def TSt.nEof (x : TSt) : Nat := x.held.countP Msg.isEof
def TSt.nClose (x : TSt) : Nat := x.held.countP Msg.isClose
def TSt.nHeld (x : TSt) : Nat := x.held.length
def TSt.holdsEnd (x : TSt) : Bool := x.held.any Msg.isEnd

/-- `true` iff some data message comes after an EOF or CLOSE -/
def dataAfterEnd : List Msg → Bool
  | [] => false
  | m :: ms => (m.isEnd && ms.any Msg.isData) || dataAfterEnd ms

theorem dataAfterEnd_snoc (w : List Msg) (m : Msg) :
    dataAfterEnd (w ++ [m]) = (dataAfterEnd w || (w.any Msg.isEnd && m.isData)) := by
  induction w with
  | nil => simp [dataAfterEnd]
  | cons a w ih =>
    simp only [List.cons_append, dataAfterEnd, ih, List.any_append, List.any_cons, List.any_nil, Bool.or_false]
    cases a.isEnd <;> cases (w.any Msg.isData) <;> cases (dataAfterEnd w) <;> cases (w.any Msg.isEnd) <;>
      cases m.isData <;> rfl

@[simp] theorem mkData_isEof (ext : Bool) (n : Nat) : (mkData ext n).isEof = false := by cases ext <;> rfl
@[simp] theorem mkData_isClose (ext : Bool) (n : Nat) : (mkData ext n).isClose = false := by cases ext <;> rfl
@[simp] theorem mkData_isEnd (ext : Bool) (n : Nat) : (mkData ext n).isEnd = false := by cases ext <;> rfl

/-- idle-like: in any state but `hold` -/
theorem held_of_idleLike (x : TSt) (h : ∀ ms k, x ≠ .hold ms k) : x.held = [] := by
  cases x with
  | hold ms k => exact absurd rfl (h ms k)
  | _ => rfl

theorem idleLike_noData (x : TSt) (h : x.held = []) : x.holdsData = false ∧ x.holdsEnd = false := by
  rw [holdsData_eq]; simp [TSt.holdsEnd, h]

theorem SendOut.noEnd {cfg : Cfg} {s : St} {want : Nat} {ext : Bool} {lp : Option Loop} {x : TSt} {d : Nat}
    (h : SendOut cfg s want ext lp x d) : x.nEof = 0 ∧ x.nClose = 0 ∧ x.holdsEnd = false := by
  rcases h.held with ⟨e, _⟩ | ⟨e, _⟩ <;> simp [TSt.nEof, TSt.nClose, TSt.holdsEnd, e]

theorem acks_noEnd (ack : Nat) : ∀ m ∈ acks ack, m.isEof = false ∧ m.isClose = false ∧ m.isData = false :=
  fun _ hm => by rw [mem_acks hm]; exact ⟨rfl, rfl, rfl⟩

/-! ## counting EOF and CLOSE -/

def CountInv (s : St) : Prop :=
  List.countP Msg.isEof s.wire + sumBy TSt.nEof s.thr ≤ s.eofSent.toNat ∧
  List.countP Msg.isClose s.wire + sumBy TSt.nClose s.thr ≤ s.closed.toNat ∧
  s.active = true ∧ (s.linked = false → s.closed = true)

/-- thread `t` trades the EOF / CLOSE it held for what it holds now, while the flags move from `s` to `s0` -/
theorem count_setThr {s s0 : St} {t : Nat} {old : TSt} (x : TSt) (hr : s.thr[t]? = some old) (hthr : s0.thr = s.thr)
    (hact : s0.active = s.active) (hi : CountInv s)
    (he : List.countP Msg.isEof s0.wire + x.nEof + s.eofSent.toNat ≤
      List.countP Msg.isEof s.wire + old.nEof + s0.eofSent.toNat)
    (hc : List.countP Msg.isClose s0.wire + x.nClose + s.closed.toNat ≤
      List.countP Msg.isClose s.wire + old.nClose + s0.closed.toNat)
    (hl : s0.linked = false → s0.closed = true) : CountInv (setThr s0 t x) := by
  obtain ⟨e1, c1, a1, _⟩ := hi
  have h1 := sumBy_set TSt.nEof s.thr t old x hr
  have h2 := sumBy_set TSt.nClose s.thr t old x hr
  refine ⟨?_, ?_, hact.trans a1, hl⟩
  · simp only [setThr, hthr]; omega
  · simp only [setThr, hthr]; omega

theorem CountInv.step {cfg : Cfg} {s s' : St} {a : Act} (h : Step cfg s a s') (hi : CountInv s) : CountInv s' := by
  have hl := hi.2.2.2
  have plain : ∀ {s0 : St} {t : Nat} {old : TSt} (x : TSt), s.thr[t]? = some old → s0.thr = s.thr →
      s0.wire = s.wire → s0.active = s.active → s0.eofSent = s.eofSent → s0.closed = s.closed →
      s0.linked = s.linked → x.nEof = 0 → x.nClose = 0 → CountInv (setThr s0 t x) := by
    intro s0 t old x hr h1 h2 h3 h4 h5 h6 hx1 hx2
    exact count_setThr x hr h1 h3 hi (by rw [h2, h4, hx1]; omega) (by rw [h2, h5, hx2]; omega) (by rw [h5, h6]; exact hl)
  cases h with
  | sends hc hr ho => exact plain _ hr rfl rfl rfl rfl rfl rfl ho.noEnd.1 ho.noEnd.2.1
  | quiet hr hq =>
    exact plain _ hr rfl rfl rfl rfl rfl rfl (by simp [TSt.nEof, hq.held.1]) (by simp [TSt.nClose, hq.held.1])
  | recv hr _ => exact plain _ hr rfl rfl rfl rfl rfl rfl rfl rfl
  | emit hr =>
    refine count_setThr _ hr rfl rfl hi ?_ ?_ hl <;> simp only [TSt.nEof, TSt.nClose, holdState_held] <;>
      simp only [TSt.held, List.countP_append, List.countP_cons, List.countP_nil] <;> omega
  | emitFail hr => exact count_setThr _ hr rfl rfl hi (by simp [TSt.nEof, TSt.held]) (by simp [TSt.nClose, TSt.held]) hl
  | check hr _ =>
    refine plain _ hr rfl rfl rfl rfl rfl rfl ?_ ?_ <;>
      simp only [TSt.nEof, TSt.nClose, holdState_held, List.countP_eq_zero] <;>
      intro m hm <;> simp [acks_noEnd _ m hm]
  | creditAck hr _ _ => exact plain _ hr rfl rfl rfl rfl rfl rfl rfl rfl
  | @ends _ _ _ s0 _ l _ hr he hlink =>
    have hcl : l = false → s0.closed = true := fun h => by
      rcases hlink with rfl | ⟨_, h3⟩
      · exact he.mono.1 (hl h)
      · exact h3 hi.2.2.1
    cases he with
    | none => exact count_setThr _ hr rfl rfl hi (Nat.le_refl _) (Nat.le_refl _) hcl
    | eof h =>
      exact count_setThr _ hr rfl rfl hi (by simp [TSt.nEof, TSt.held, holdState, Msg.isEof, h])
        (by simp [TSt.nClose, TSt.held, holdState, Msg.isClose]) hcl
    | close _ h2 _ =>
      exact count_setThr _ hr rfl rfl hi (by simp [TSt.nEof, TSt.held, holdState, Msg.isEof, setClosed])
        (by simp [TSt.nClose, TSt.held, holdState, Msg.isClose, setClosed, h2]) hcl
    | eofClose _ h2 h3 =>
      exact count_setThr _ hr rfl rfl hi
        (by simp [TSt.nEof, TSt.held, holdState, List.countP_cons, Msg.isEof, setClosed, h3])
        (by simp [TSt.nClose, TSt.held, holdState, Msg.isClose, setClosed, h2]) hcl
  | unlink hc =>
    obtain ⟨e1, c1, a1, _⟩ := hi
    refine ⟨e1, ?_, a1, fun _ => rfl⟩
    simp only [hc, Bool.toNat_false] at c1
    simp only [setClosed, Bool.toNat_true]
    omega
  | _ => exact hi

theorem run_count (cfg : Cfg) (s : St) (as : List Act) (hi : CountInv s) : CountInv (run cfg s as) :=
  run_inv cfg (fun s a => CountInv.step (step_sound cfg s a)) s as hi

/-! ## no data after EOF / CLOSE unless the EOF raced with a sender that had already reserved -/

def RaceFree (s : St) : Prop :=
  (s.eofSent = true → ∀ x ∈ s.thr, x.holdsData = false) ∧
  (s.eofSent = false → (∀ m ∈ s.wire, m.isEnd = false) ∧ ∀ x ∈ s.thr, x.holdsEnd = false) ∧
  dataAfterEnd s.wire = false

def RaceInv (s : St) : Prop := s.raced = false → RaceFree s

theorem raced_false_of_or (a b : Bool) (h : (a || b) = false) : a = false :=
  (Bool.or_eq_false_iff.1 h).1

theorem Step.raced {cfg : Cfg} {s s' : St} {a : Act} (h : Step cfg s a s') (hr : s'.raced = false) :
    s.raced = false := by
  cases h with
  | ends _ _ he _ => cases he <;> first | exact hr | exact raced_false_of_or _ _ hr
  | _ => exact hr

theorem race_setThr {s s0 : St} (t : Nat) (x : TSt) (hw : s0.wire = s.wire) (hthr : s0.thr = s.thr)
    (hf : s0.eofSent = s.eofSent) (hd : x.holdsData = true → s.eofSent = false)
    (he : x.holdsEnd = true → s.eofSent = true) (hi : RaceFree s) : RaceFree (setThr s0 t x) := by
  obtain ⟨a, b, w⟩ := hi
  simp only [RaceFree, setThr, hw, hthr, hf]
  refine ⟨fun h y hy => ?_, fun h => ⟨(b h).1, fun y hy => ?_⟩, w⟩
  · rcases List.mem_or_eq_of_mem_set hy with h' | rfl
    · exact a h y h'
    · cases hx : y.holdsData
      · rfl
      · rw [hd hx] at h; cases h
  · rcases List.mem_or_eq_of_mem_set hy with h' | rfl
    · exact (b h).2 y h'
    · cases hx : y.holdsEnd
      · rfl
      · rw [he hx] at h; cases h

/-- EOF is decided now and, the ghost says, no thread held data: thread `t` is left with messages other than data -/
theorem race_flip {s s0 : St} (t : Nat) (x : TSt) (hw : s0.wire = s.wire) (hthr : s0.thr = s.thr)
    (hf : s0.eofSent = true) (hr : (s.raced || s.thr.any TSt.holdsData) = false) (hx : x.holdsData = false)
    (hi : RaceFree s) : RaceFree (setThr s0 t x) := by
  have hnone : ∀ y ∈ s.thr, y.holdsData = false := by
    rw [Bool.or_eq_false_iff, List.any_eq_false] at hr
    exact fun y hy => by simpa using hr.2 y hy
  simp only [RaceFree, setThr, hw, hthr]
  refine ⟨fun _ y hy => ?_, (fun h => by rw [hf] at h; cases h), hi.2.2⟩
  rcases List.mem_or_eq_of_mem_set hy with h' | rfl
  · exact hnone y h'
  · exact hx

theorem RaceInv.step {cfg : Cfg} {s s' : St} {a : Act} (h : Step cfg s a s') (hi : RaceInv s) : RaceInv s' := by
  intro hraced
  have hi := hi (h.raced hraced)
  have plain : ∀ {s0 : St} (t : Nat) (x : TSt), s0.wire = s.wire → s0.thr = s.thr → s0.eofSent = s.eofSent →
      (∀ m ∈ x.held, m.isData = false ∧ m.isEnd = false) → RaceFree (setThr s0 t x) := by
    intro s0 t x h1 h2 h3 hx
    refine race_setThr t x h1 h2 h3 (fun h => ?_) (fun h => ?_) hi
    · rw [holdsData_eq, List.any_eq_true] at h
      obtain ⟨m, hm, h⟩ := h; rw [(hx m hm).1] at h; cases h
    · rw [TSt.holdsEnd, List.any_eq_true] at h
      obtain ⟨m, hm, h⟩ := h; rw [(hx m hm).2] at h; cases h
  have nothing : ∀ {x : TSt}, x.held = [] → ∀ m ∈ x.held, m.isData = false ∧ m.isEnd = false :=
    fun e m hm => by rw [e] at hm; cases hm
  cases h with
  | sends hc hr ho =>
    refine race_setThr _ _ rfl rfl rfl (fun h => ?_) (fun h => ?_) hi
    · rcases ho.held with ⟨e, _⟩ | ⟨_, _, _, _, _, h6⟩
      · rw [(idleLike_noData _ e).1] at h; cases h
      · exact h6
    · rw [ho.noEnd.2.2] at h; cases h
  | quiet hr hq => exact plain _ _ rfl rfl rfl (nothing hq.held.1)
  | recv hr _ => exact plain _ _ rfl rfl rfl (nothing rfl)
  | @emit t m ms k hr =>
    obtain ⟨a, b, w⟩ := hi
    have hmem := List.mem_of_getElem? hr
    -- what the thread still holds it held before
    have ⟨a', b', _⟩ : RaceFree (setThr s t (holdState ms k)) := by
      refine race_setThr t _ rfl rfl rfl (fun h => ?_) (fun h => ?_) ⟨a, b, w⟩
      · cases he : s.eofSent
        · rfl
        · have := a he _ hmem
          rw [holdsData_eq, holdState_held] at h
          simp [TSt.holdsData, h] at this
      · cases he : s.eofSent
        · have := (b he).2 _ hmem
          rw [TSt.holdsEnd, holdState_held] at h
          simp [TSt.holdsEnd, TSt.held, h] at this
        · rfl
    refine ⟨a', fun he => ⟨fun m' hm' => ?_, (b' he).2⟩, ?_⟩
    · rcases List.mem_append.1 hm' with h' | h'
      · exact (b he).1 m' h'
      · have := (b he).2 _ hmem
        rw [List.mem_singleton.1 h']
        simp only [TSt.holdsEnd, TSt.held, List.any_cons, Bool.or_eq_false_iff] at this
        exact this.1
    · show dataAfterEnd (s.wire ++ [m]) = false
      rw [dataAfterEnd_snoc, w, Bool.false_or]
      cases hmd : m.isData
      · simp
      · -- the thread held data, so EOF had not been decided, so nothing on the wire ends the stream
        have he : s.eofSent = false := by
          cases he : s.eofSent
          · rfl
          · have := a he _ hmem; simp [TSt.holdsData, hmd] at this
        have : s.wire.any Msg.isEnd = false := List.any_eq_false.2 fun m' hm' => by simp [(b he).1 m' hm']
        simp [this]
  | emitFail hr => exact plain _ _ rfl rfl rfl (nothing rfl)
  | check hr _ =>
    refine plain _ _ rfl rfl rfl fun m hm => ?_
    rw [holdState_held] at hm; rw [mem_acks hm]; exact ⟨rfl, rfl⟩
  | creditAck hr _ _ =>
    exact plain _ _ rfl rfl rfl fun m hm => by rw [List.mem_singleton.1 hm]; exact ⟨rfl, rfl⟩
  | ends _ hr he _ =>
    cases he with
    | none => exact plain _ _ rfl rfl rfl (nothing rfl)
    | eof _ => exact race_flip (s := s) _ _ rfl rfl rfl hraced rfl hi
    | close _ _ h3 => exact race_setThr _ _ rfl rfl rfl (fun h => by cases h) (fun _ => h3) hi
    | eofClose _ _ _ => exact race_flip (s := s) _ _ rfl rfl rfl hraced rfl hi
  | _ => exact hi

theorem run_race (cfg : Cfg) (s : St) (as : List Act) (hi : RaceInv s) : RaceInv (run cfg s as) :=
  run_inv cfg (fun s a => RaceInv.step (step_sound cfg s a)) s as hi

/-! ## once closed and EOF sent, the channel never produces a new message -/

def msgTotal (s : St) : Nat := s.wire.length + sumBy TSt.nHeld s.thr

theorem msgTotal_setThr {s s0 : St} {t : Nat} {old : TSt} (x : TSt) (hr : s.thr[t]? = some old)
    (hthr : s0.thr = s.thr) :
    msgTotal (setThr s0 t x) + s.wire.length + old.nHeld = msgTotal s + s0.wire.length + x.nHeld := by
  have := sumBy_set TSt.nHeld s.thr t old x hr
  simp only [msgTotal, setThr, hthr]; omega

/-- On a closed channel whose EOF is out no action produces a message: written plus held stays the same, except
    that a failed wire write drops what its thread held. -/
theorem Step.dead {cfg : Cfg} {s s' : St} {a : Act} (h : Step cfg s a s') (hc : s.closed = true)
    (he : s.eofSent = true) :
    msgTotal s' ≤ msgTotal s ∧ ((∀ t, a ≠ .emitFail t) → msgTotal s' = msgTotal s) := by
  have same : ∀ {s0 : St} {t : Nat} {old : TSt} (x : TSt), s.thr[t]? = some old → s0.thr = s.thr →
      s0.wire = s.wire → x.nHeld = old.nHeld → msgTotal (setThr s0 t x) = msgTotal s := by
    intro s0 t old x hr h1 h2 h3
    have := msgTotal_setThr x hr h1
    rw [h2, h3] at this; omega
  have eq : ∀ {s1 : St}, msgTotal s1 = msgTotal s →
      msgTotal s1 ≤ msgTotal s ∧ ((∀ t, a ≠ .emitFail t) → msgTotal s1 = msgTotal s) :=
    fun h => ⟨Nat.le_of_eq h, fun _ => h⟩
  cases h with
  | sends hk hr ho =>
    refine eq (same _ hr rfl rfl ?_)
    rcases ho.held with ⟨e, _⟩ | ⟨_, _, _, _, h5, _⟩
    · rw [TSt.nHeld, TSt.nHeld, e, hk.held.1]
    · rw [hc] at h5; cases h5
  | quiet hr hq => exact eq (same _ hr rfl rfl (by rw [TSt.nHeld, hq.held.1]; rfl))
  | recv hr _ => exact eq (same _ hr rfl rfl rfl)
  | @emit t m ms k hr =>
    refine eq ?_
    have := msgTotal_setThr (s0 := { s with wire := s.wire ++ [m] }) (holdState ms k) hr rfl
    simp only [TSt.nHeld, holdState_held, List.length_append, List.length_cons, List.length_nil] at this
    simp only [TSt.held, List.length_cons] at this
    omega
  | @emitFail t m ms k hr =>
    have := msgTotal_setThr (s0 := { s with leaked := s.leaked + dataSum (m :: ms) }) (.idle .sshError) hr rfl
    exact ⟨by simp only [TSt.nHeld, TSt.held, List.length_nil] at this; omega, fun h => absurd rfl (h _)⟩
  | check hr hk =>
    refine eq (same _ hr rfl rfl ?_)
    rw [TSt.nHeld, holdState_held, (hk.closed hc).2]; rfl
  | creditAck hr hk h0 => exact absurd (hk.closed hc).2 h0
  | ends _ hr hk _ =>
    cases hk with
    | none => exact eq (same _ hr rfl rfl rfl)
    | eof h | eofClose _ _ h => rw [he] at h; cases h
    | close _ h _ => rw [hc] at h; cases h
  | _ => exact eq rfl

/-- the peer's CLOSE on an open channel: we are closed, released from the transport's map, and the handling
    thread holds our EOF (unless already sent) and our CLOSE -/
theorem peerClose_open (cfg : Cfg) (s : St) (t : Nat) (r : Res) (hr : s.thr[t]? = some (.idle r))
    (ha : s.active = true) (hc : s.closed = false) :
    let s' := step cfg s (.peerClose t)
    s'.closed = true ∧ s'.linked = false ∧ s'.eofSent = true ∧
    s'.thr[t]? = some (.hold ((if s.eofSent then [] else [.eof]) ++ [.close]) .retNone) := by
  simp only [step, idleOf_of_get hr, if_true]
  rw [holdOrDone_eq]
  rcases closeInternal_cases s with ⟨h0, _⟩ | ⟨_, _, he, e⟩ | ⟨_, _, he, e⟩
  · simp [ha, hc] at h0
  · rw [e]; exact ⟨rfl, rfl, he, by simp only [he, ↓reduceIte]; exact setThr_get _ hr⟩
  · rw [e]; exact ⟨rfl, rfl, rfl, by simp only [he, Bool.false_eq_true, ↓reduceIte]; exact setThr_get _ hr⟩

/-- the peer's CLOSE after we closed: nothing more is sent, the channel is released -/
theorem peerClose_closed (cfg : Cfg) (s : St) (t : Nat) (r : Res) (hr : s.thr[t]? = some (.idle r))
    (hc : s.closed = true) :
    let s' := step cfg s (.peerClose t)
    s'.linked = false ∧ s'.thr[t]? = some (.idle .none) ∧ s'.wire = s.wire := by
  have e : closeInternal s = (s, []) := by simp [closeInternal, hc]
  simp only [step, idleOf_of_get hr, if_true]
  rw [holdOrDone_eq, e]
  exact ⟨rfl, setThr_get _ hr, rfl⟩

end PV.Chan
