/-
  Helper lemmas for PV.Model.Sig (readers applied to exactly what the writers produced).
-/
import PV.Model.Sig
import PV.Base.WireLemmas
namespace PV.Sig
open PV PV.Wire PV.KeyUtf8

/-- first string of a message -/
theorem getString_head (s rest : Bytes) (h : s.length < 4294967296) :
    Rd.getString { content := encStr s ++ rest, pos := 0 }
      = (s, { content := encStr s ++ rest, pos := (encStr s).length }) := by
  simpa using getString_exact [] s rest h

theorem getString_second (a s : Bytes) (h : s.length < 4294967296) :
    (Rd.getString { content := encStr a ++ encStr s, pos := (encStr a).length }).1 = s := by
  rw [getString_at (rest := []) h (by rw [List.append_nil]; exact remainder_at _ _)]

theorem getText_head (s rest : Bytes) (h : s.length < 4294967296) (hv : utf8Valid s = true) :
    getText { content := encStr s ++ rest, pos := 0 }
      = .ok (s, { content := encStr s ++ rest, pos := (encStr s).length }) := by
  unfold getText
  rw [getString_head s rest h]
  simp [hv]

theorem getText_cases (r : Rd) :
    getText r = .error .unicodeDecodeError ∨ ∃ alg r1, getText r = .ok (alg, r1) := by
  unfold getText
  dsimp only
  split
  · exact .inr ⟨_, _, rfl⟩
  · exact .inl rfl

theorem encMpint_body_len (z : Int) : (if z = 0 then ([] : Bytes) else deflate z).length ≤ (deflate z).length := by
  split <;> simp

/-- `_sigdecode (_sigencode r s) = (r, s)` -/
theorem sigDecode_sigEncode (r s : Int)
    (hr : (deflate r).length < 4294967296) (hs : (deflate s).length < 4294967296) :
    sigDecode (sigEncode r s) = (r, s) := by
  obtain ⟨h1, h2⟩ := parse2 (r := ⟨sigEncode r s, 0⟩) (rest := [])
    (Nat.lt_of_le_of_lt (encMpint_body_len r) hr) (Nat.lt_of_le_of_lt (encMpint_body_len s) hs)
    (List.append_nil _).symm
  simp only [sigDecode, h1, h2, inflate_encMpint]

theorem sigEncode_length (r s : Int) :
    (sigEncode r s).length ≤ (deflate r).length + (deflate s).length + 8 := by
  unfold sigEncode encMpint encStr
  have := encMpint_body_len r
  have := encMpint_body_len s
  simp only [List.length_append, be32, beBytes_length]
  omega

theorem natBytes_length_le (n k : Nat) (h : n < 256 ^ k) : (natBytes n).length ≤ k := by
  induction k generalizing n with
  | zero =>
    have : n = 0 := by simpa using h
    subst this; simp [natBytes_zero]
  | succ k ih =>
    by_cases hn : n = 0
    · subst hn; simp [natBytes_zero]
    · rw [natBytes_pos n hn]
      have : n / 256 < 256 ^ k := by
        rw [Nat.pow_succ] at h; omega
      have := ih _ this
      simp; omega

theorem deflate_length_nat (n k : Nat) (h : n < 256 ^ k) : (deflate (n : Int)).length ≤ k + 1 := by
  unfold deflate
  simp only [Int.natCast_nonneg, if_true, Int.toNat_natCast]
  unfold deflatePos
  split
  · simp
  · have hl := natBytes_length_le n k h
    cases hq : natBytes n with
    | nil => simp [signPad]
    | cons b r =>
      rw [hq] at hl
      simp only [signPad]
      split <;> simp at hl ⊢ <;> omega

end PV.Sig
