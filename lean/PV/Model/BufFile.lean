/-
  PV.Model.BufFile — executable model of paramiko/file.py `BufferedFile` (binary and text mode,
  every buffering mode; the universal-newline flag 'U' is in PV.Model.BufFileU) over an abstract
  underlying stream given by `Ops` (`_read`, `_write`).  Statement-by-statement mirror of the
  current code, including what state is left behind when the underlying stream raises.

  Instances: `Chan`/`chanOps` (a byte stream that delivers SHORT reads and accepts SHORT writes
  according to an arbitrary grant list = "however the stream delivers its bytes"; used for C42)
  and the SFTP client file over a server-side file (PV.Model.SftpFile; used for C27).
  Mathlib-free, total.
-/
import PV.Base.Bytes
namespace PV.BufFile
open PV

def LF : UInt8 := 10

/-- Error kinds (exception class → small enum). -/
inductive Err
  | closed        -- IOError("File is closed")
  | notReadable   -- IOError("File is not open for reading")
  | notWritable   -- IOError("File not open for writing")
  | notSeekable   -- IOError("File does not support seeking.")
  | fuel          -- cannot happen for lawful streams (proved): loop bound exhausted
  | stall         -- `_write` accepted 0 bytes: `_write_all` would loop forever
  | stream (code : Nat)   -- raised by the underlying `_read` / `_write` (class code chosen by the instance)
  deriving DecidableEq, Repr

/-- The subclass hooks.  `read s realpos n`: `_read(n)`; the empty string stands for every way
    of signalling EOF (`None`, `EOFError`, `b""`).  `write s realpos data`: `_write(data)` → count.
    `bound s realpos`: an upper bound on the number of consecutive non-empty `_read`s (loop fuel). -/
structure Ops (σ : Type) where
  read  : σ → Int → Nat → σ × Except Err Bytes
  write : σ → Int → Bytes → σ × Except Err Nat
  bound : σ → Int → Nat
  seekable : Bool := false     -- `seekable()`: False for BufferedFile/ChannelFile, True for SFTPFile

/-- `BufferedFile` instance attributes (`_flags` split into booleans). -/
structure BF (σ : Type) where
  s : σ
  rd : Bool := false
  wr : Bool := false
  app : Bool := false
  bin : Bool := false
  buffered : Bool := false
  lineBuf : Bool := false
  bufsize : Nat := 8192
  dflt : Nat := 8192          -- `_DEFAULT_BUFSIZE`
  rbuf : Bytes := []
  wbuf : Bytes := []
  pos : Int := 0
  realpos : Int := 0
  size : Int := 0
  closed : Bool := false

abbrev Res (σ : Type) (α : Type) := BF σ × Except Err α

/-- first half of `_set_mode`: the buffering flags -/
def setBuf {σ : Type} (f : BF σ) (bufsize : Int) : BF σ :=
  let f := { f with bufsize := f.dflt }
  let bufsize := if bufsize < 0 then 0 else bufsize
  if bufsize == 1 then { f with buffered := true, lineBuf := true }
  else if bufsize > 1 then { f with bufsize := bufsize.toNat, buffered := true, lineBuf := false }
  else { f with buffered := false, lineBuf := false }

/-- second half of `_set_mode`: the mode letters; `sz` is what `_get_size()` returns (append mode only) -/
def setFlags {σ : Type} (f : BF σ) (mode : List Char) (sz : Int) : BF σ :=
  let f := if mode.contains 'r' || mode.contains '+' then { f with rd := true } else f
  let f := if mode.contains 'w' || mode.contains '+' then { f with wr := true } else f
  let f := if mode.contains 'a' then { f with wr := true, app := true, size := sz, pos := sz, realpos := sz } else f
  if mode.contains 'b' then { f with bin := true } else f

/-- `_set_mode(mode, bufsize)` -/
def setMode {σ : Type} (f : BF σ) (mode : List Char) (bufsize : Int) (sz : Int) : BF σ :=
  setFlags (setBuf f bufsize) mode sz

/-! ## `_write_all` and `flush` (used by the read calls of seekable files too) -/

/-- `_write_all` -/
def writeAllLoop {σ : Type} (o : Ops σ) : Nat → BF σ → Bytes → Res σ Unit
  | 0, f, _ => (f, .error .fuel)
  | fuel+1, f, data =>
    if data.isEmpty then (f, .ok ())
    else match o.write f.s f.realpos data with
      | (s', .error e) => ({ f with s := s' }, .error e)
      | (s', .ok count) =>
        if count == 0 then ({ f with s := s' }, .error .stall)
        else
          let f := { f with s := s' }
          let f := if f.app then { f with size := f.size + count, pos := f.size + count, realpos := f.size + count }
                   else { f with pos := f.pos + count, realpos := f.realpos + count }
          writeAllLoop o fuel f (data.drop count)

/-- `_write_all`: on a seekable file, read-ahead is dropped first (position back to the caller's) -/
def dropReadAhead {σ : Type} (o : Ops σ) (f : BF σ) (data : Bytes) : BF σ :=
  if !data.isEmpty && !f.rbuf.isEmpty && o.seekable then { f with rbuf := [], realpos := f.pos } else f

def writeAll {σ : Type} (o : Ops σ) (f : BF σ) (data : Bytes) : Res σ Unit :=
  writeAllLoop o (data.length + 1) (dropReadAhead o f data) data

/-- `flush()` (note: no closed / writable test in the code) -/
def flush {σ : Type} (o : Ops σ) (f : BF σ) : Res σ Unit :=
  match writeAll o f f.wbuf with
  | (f, .error e) => (f, .error e)
  | (f, .ok ()) => ({ f with wbuf := [] }, .ok ())

/-- read()/readline() on a seekable file flush pending writes first -/
def syncForRead {σ : Type} (o : Ops σ) (f : BF σ) : Res σ Unit :=
  if !f.wbuf.isEmpty && o.seekable then flush o f else (f, .ok ())

/-! ## reading -/

/-- the `while True` loop of `read()` with no / negative size -/
def readAllLoop {σ : Type} (o : Ops σ) : Nat → BF σ → Bytes → Res σ Bytes
  | 0, f, _ => (f, .error .fuel)
  | fuel+1, f, acc =>
    match o.read f.s f.realpos f.dflt with
    | (s', .error e) =>
      -- nothing is returned: what was fetched so far goes back into the read-ahead
      ({ f with s := s', rbuf := acc, pos := f.pos - acc.length }, .error e)
    | (s', .ok d) =>
      if d.isEmpty then ({ f with s := s' }, .ok acc)
      else readAllLoop o fuel
        { f with s := s', realpos := f.realpos + d.length, pos := f.pos + d.length } (acc ++ d)

/-- the `while len(self._rbuffer) < size` loop of `read(size)` -/
def readFillLoop {σ : Type} (o : Ops σ) (size : Nat) : Nat → BF σ → Res σ Unit
  | 0, f => (f, .error .fuel)
  | fuel+1, f =>
    if f.rbuf.length < size then
      let want := size - f.rbuf.length
      let want := if f.buffered then max f.bufsize want else want
      match o.read f.s f.realpos want with
      | (s', .error e) => ({ f with s := s' }, .error e)
      | (s', .ok d) =>
        if d.isEmpty then ({ f with s := s' }, .ok ())
        else readFillLoop o size fuel
          { f with s := s', rbuf := f.rbuf ++ d, realpos := f.realpos + d.length }
    else (f, .ok ())

/-- `read(size)`; `none` = omitted or negative. -/
def read {σ : Type} (o : Ops σ) (f : BF σ) (size : Option Nat) : Res σ Bytes :=
  if f.closed then (f, .error .closed)
  else if !f.rd then (f, .error .notReadable)
  else match syncForRead o f with
  | (f, .error e) => (f, .error e)
  | (f, .ok ()) =>
  match size with
  | none =>
    let acc := f.rbuf
    let f := { f with rbuf := [], pos := f.pos + acc.length }
    readAllLoop o (o.bound f.s f.realpos + 1) f acc
  | some n =>
    if n ≤ f.rbuf.length then
      ({ f with rbuf := f.rbuf.drop n, pos := f.pos + (f.rbuf.take n).length }, .ok (f.rbuf.take n))
    else
      match readFillLoop o n (o.bound f.s f.realpos + 1) f with
      | (f, .error e) => (f, .error e)
      | (f, .ok ()) =>
        ({ f with rbuf := f.rbuf.drop n, pos := f.pos + (f.rbuf.take n).length }, .ok (f.rbuf.take n))

/-- how the `while True` loop of `readline` is left -/
inductive RL
  | eof (line : Bytes)                      -- EOF: `_rbuffer` emptied, `_pos` advanced, line returned
  | brk (line : Bytes) (truncated : Bool)   -- `break`

/-- "check size before looking for a linefeed": `none` = the line is already long enough (truncate);
    `some n` = go on, the next `_read` asks for `n` bytes -/
def rlLimit (size : Option Nat) (bufsize : Nat) (line : Bytes) : Option Nat :=
  match size with
  | some sz => if line.length ≥ sz then none else some (sz - line.length)
  | none => some bufsize

def readlineLoop {σ : Type} (o : Ops σ) (size : Option Nat) : Nat → BF σ → Bytes → Res σ RL
  | 0, f, _ => (f, .error .fuel)
  | fuel+1, f, line =>
    match rlLimit size f.bufsize line with
    | none =>
      let sz := size.getD 0
      ({ f with rbuf := line.drop sz }, .ok (.brk (line.take sz) true))
    | some n =>
      if line.contains LF then (f, .ok (.brk line false))
      else match o.read f.s f.realpos n with
        | (s', .error e) => ({ f with s := s', rbuf := line }, .error e)   -- fetched data kept as read-ahead
        | (s', .ok d) =>
          if d.isEmpty then
            ({ f with s := s', rbuf := [], pos := f.pos + line.length }, .ok (.eof line))
          else readlineLoop o size fuel
            { f with s := s', realpos := f.realpos + d.length } (line ++ d)

/-- the code after the loop ("find the newline") -/
def readlinePost {σ : Type} (r : Res σ RL) : Res σ Bytes :=
  match r with
  | (f, .error e) => (f, .error e)
  | (f, .ok (.eof line)) => (f, .ok line)
  | (f, .ok (.brk line tr)) =>
    if !line.contains LF then ({ f with pos := f.pos + line.length }, .ok line)
    else
      let xpos := line.idxOf LF + 1
      let out := line.take (line.idxOf LF) ++ [LF]
      ({ f with rbuf := if tr then line.drop xpos ++ f.rbuf else line.drop xpos,
                pos := f.pos + out.length }, .ok out)

/-- `readline(size)`; `none` = omitted or negative. -/
def readline {σ : Type} (o : Ops σ) (f : BF σ) (size : Option Nat) : Res σ Bytes :=
  if f.closed then (f, .error .closed)
  else if !f.rd then (f, .error .notReadable)
  else match syncForRead o f with
  | (f, .error e) => (f, .error e)
  | (f, .ok ()) => readlinePost (readlineLoop o size (o.bound f.s f.realpos + 1) f f.rbuf)

/-- `(sizehint is not None) and (byte_count >= sizehint)` -/
def rlStop (hint : Option Int) (count : Nat) : Bool :=
  match hint with | some h => decide ((count : Int) ≥ h) | none => false

/-- `readlines(sizehint)`: `hint = none` for an omitted hint; an `Int` otherwise (the code compares
    `byte_count >= sizehint`, so a hint ≤ 0 stops after the first line).  `n` bounds the number of lines. -/
def readlinesLoop {σ : Type} (o : Ops σ) (hint : Option Int) : Nat → BF σ → List Bytes → Nat → Res σ (List Bytes)
  | 0, f, _, _ => (f, .error .fuel)
  | fuel+1, f, acc, count =>
    match readline o f none with
    | (f, .error e) => (f, .error e)
    | (f, .ok l) =>
      if l.isEmpty then (f, .ok acc)
      else
        if rlStop hint (count + l.length) then (f, .ok (acc ++ [l]))
        else readlinesLoop o hint fuel f (acc ++ [l]) (count + l.length)

/-- The loop bound is computed after the flush that the first `readline` performs on a seekable file (the
    flush may change what is left to read); on a closed / unreadable file that first `readline` raises. -/
def readlines {σ : Type} (o : Ops σ) (f : BF σ) (hint : Option Int) : Res σ (List Bytes) :=
  if f.closed || !f.rd then readlinesLoop o hint 1 f [] 0
  else match syncForRead o f with
    | (g, .error e) => (g, .error e)
    | (g, .ok ()) => readlinesLoop o hint (g.rbuf.length + o.bound g.s g.realpos + 1) g [] 0

/-- `__next__`: `none` = StopIteration -/
def next {σ : Type} (o : Ops σ) (f : BF σ) : Res σ (Option Bytes) :=
  match readline o f none with
  | (f, .error e) => (f, .error e)
  | (f, .ok l) => (f, .ok (if l.isEmpty then none else some l))

/-- `list(f)` / a `for` loop run to its end: `__iter__` (raises ValueError on a closed file), then
    `__next__` until StopIteration. -/
def iterLoop {σ : Type} (o : Ops σ) : Nat → BF σ → List Bytes → Res σ (List Bytes)
  | 0, f, _ => (f, .error .fuel)
  | fuel+1, f, acc =>
    match next o f with
    | (f, .error e) => (f, .error e)
    | (f, .ok none) => (f, .ok acc)
    | (f, .ok (some l)) => iterLoop o fuel f (acc ++ [l])

def iterAll {σ : Type} (o : Ops σ) (f : BF σ) : Res σ (List Bytes) :=
  if f.closed then (f, .error .closed)
  else iterLoop o (f.rbuf.length + o.bound f.s f.realpos + 1) f []

/-! ## writing -/

/-- index of the last LF, if any (`data.rfind(b"\n")`) -/
def rfindLF (data : Bytes) : Option Nat :=
  if data.contains LF then some (data.length - 1 - data.reverse.idxOf LF) else none

def write {σ : Type} (o : Ops σ) (f : BF σ) (data : Bytes) : Res σ Unit :=
  if f.closed then (f, .error .closed)
  else if !f.wr then (f, .error .notWritable)
  else if !f.buffered then writeAll o f data
  else
    let f := { f with wbuf := f.wbuf ++ data }
    if f.lineBuf then
      match rfindLF data with
      | none => (f, .ok ())
      | some p =>
        let cut := p + (f.wbuf.length - data.length) + 1
        match writeAll o f (f.wbuf.take cut) with
        | (f, .error e) => (f, .error e)
        | (f', .ok ()) => ({ f' with wbuf := f.wbuf.drop cut }, .ok ())
    else if f.wbuf.length ≥ f.bufsize then flush o f
    else (f, .ok ())

/-- `BufferedFile.close()` -/
def close {σ : Type} (o : Ops σ) (f : BF σ) : Res σ Unit :=
  match flush o f with
  | (f, .error e) => (f, .error e)
  | (f, .ok ()) => ({ f with closed := true }, .ok ())

def tell {σ : Type} (f : BF σ) : Int := f.pos

/-- `writelines(seq)`: `write` each element; the first exception ends the loop -/
def writelines {σ : Type} (o : Ops σ) (f : BF σ) : List Bytes → Res σ Unit
  | [] => (f, .ok ())
  | d :: ds =>
    match write o f d with
    | (f, .error e) => (f, .error e)
    | (f, .ok ()) => writelines o f ds

/-! ## programs: the calls a user can make, and what each returns -/

inductive Op
  | read (size : Option Nat)        -- read(n); `none`: read() / read(None) / read(negative)
  | readline (size : Option Nat)
  | readlines (hint : Option Int)
  | next                            -- __next__
  | iter                            -- list(f)
  | write (data : Bytes)
  | writelines (ds : List Bytes)
  | flush
  | close
  | tell
  deriving Repr

inductive Out
  | bytes (b : Bytes)
  | lines (ls : List Bytes)
  | stop                            -- StopIteration
  | unit                            -- returned None
  | pos (z : Int)
  | err (e : Err)
  deriving Repr, DecidableEq

def outOf {σ α : Type} (k : α → Out) (r : Res σ α) : BF σ × Out :=
  match r with
  | (f, .ok a) => (f, k a)
  | (f, .error e) => (f, .err e)

def step {σ : Type} (o : Ops σ) (f : BF σ) : Op → BF σ × Out
  | .read n => outOf .bytes (read o f n)
  | .readline n => outOf .bytes (readline o f n)
  | .readlines h => outOf .lines (readlines o f h)
  | .next => outOf (fun x => match x with | none => .stop | some b => .bytes b) (next o f)
  | .iter => outOf .lines (iterAll o f)
  | .write d => outOf (fun _ => .unit) (write o f d)
  | .writelines ds => outOf (fun _ => .unit) (writelines o f ds)
  | .flush => outOf (fun _ => .unit) (flush o f)
  | .close => outOf (fun _ => .unit) (close o f)
  | .tell => (f, .pos (tell f))

def run {σ : Type} (o : Ops σ) : BF σ → List Op → BF σ × List Out
  | f, [] => (f, [])
  | f, op :: ops =>
    let r := step o f op
    let rs := run o r.1 ops
    (rs.1, r.2 :: rs.2)

/-- bytes an operation handed to the caller -/
def Out.got : Out → Bytes
  | .bytes b => b
  | .lines ls => ls.flatten
  | _ => []

/-! ## specification vocabulary for lines -/

/-- the first line of `p`: through the first LF, or all of `p` when there is none -/
def lineOf (p : Bytes) : Bytes := if p.contains LF then p.take (p.idxOf LF + 1) else p

/-- what `readline(size)` must return when `p` is still to come -/
def specLine (size : Option Nat) (p : Bytes) : Bytes :=
  match size with
  | none => lineOf p
  | some sz => lineOf (p.take sz)

/-! ## a byte stream with arbitrary short reads and short writes -/

/-- `inp`: bytes the stream will still deliver; `rg`: one grant per `_read` call (a grant `g`
    delivers at most `g+1` bytes; no grant left = as many as asked for); `out`: bytes accepted so
    far; `wg`: grants for `_write` in the same way. -/
structure Chan where
  inp : Bytes
  rg : List Nat
  out : Bytes := []
  wg : List Nat
  deriving Repr

def grant (g : List Nat) (n : Nat) : Nat := match g with | [] => n | k :: _ => min n (k + 1)

def chanOps : Ops Chan where
  read s _ n :=
    let k := grant s.rg n
    ({ s with inp := s.inp.drop k, rg := s.rg.tail }, .ok (s.inp.take k))
  write s _ data :=
    let k := grant s.wg data.length
    ({ s with out := s.out ++ data.take k, wg := s.wg.tail }, .ok k)
  bound s _ := s.inp.length

end PV.BufFile
