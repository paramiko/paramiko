/-
  PV.Model.ChanWindow — one `paramiko.channel.Channel` object at lock-region granularity.

  Mirrors (paramiko/channel.py): `_send` / `_wait_for_send_window` (reserve under `self.lock`, the wire write
  after the lock is released), `send`, `send_stderr`, `sendall`, `sendall_stderr`, `_window_adjust`, `recv`,
  `recv_stderr` (pipe read, then `_check_add_window`, then the WINDOW_ADJUST write), `_feed`, `_feed_extended`,
  `close`, `_close_internal`, `_send_eof`, `_set_closed`, `shutdown`, `_handle_eof`, `_handle_close`,
  `_request_failed`, `_unlink`, `settimeout`.

  Concurrency convention (each concurrent model has its own `step`/`run`): an action is one atomic region the
  code really has — the body of one `with self.lock` region executed by one thread, or one
  `_send_user_message` call made with no lock held.  "All schedules" = all lists of actions.  A thread that is inside an API call is in a thread state
  (`TSt`); an action naming a thread that cannot take it is a no-op (stutter).

  Data is abstracted to its length (flow control never looks at the contents).  Mathlib-free, executable.
-/
namespace PV.Chan

/-- channel messages this side writes to the transport (payload abstracted to its length) -/
inductive Msg where
  | data (n : Nat)      -- CHANNEL_DATA
  | ext (n : Nat)       -- CHANNEL_EXTENDED_DATA (type 1)
  | adjust (n : Nat)    -- CHANNEL_WINDOW_ADJUST
  | eof                 -- CHANNEL_EOF
  | close               -- CHANNEL_CLOSE
  deriving Repr, DecidableEq

/-- `self.timeout`: None / 0.0 / a positive number of clock ticks -/
inductive Mode where
  | blocking | nonblocking | timed (t : Nat)
  deriving Repr, DecidableEq

/-- how an API call ended -/
inductive Res where
  | none                 -- nothing called yet / returned None
  | ret (n : Nat)        -- send / send_stderr returned n
  | bytes (n : Nat)      -- recv / recv_stderr returned n bytes
  | sockClosed           -- socket.error("Socket is closed")
  | timeout              -- socket.timeout
  | sshError             -- SSHException out of transport._send_user_message (e.g. re-keying timed out)
  | doneAll (handed total : Nat)   -- sendall returned None; ghosts: bytes this call handed over / was given
  deriving Repr, DecidableEq

/-- bookkeeping of one `sendall` call: `rem = len(s)` at the loop head; ghosts `handed`, `total` -/
structure Loop where
  rem : Nat
  handed : Nat
  total : Nat
  deriving Repr, DecidableEq

/-- what a thread does after its held messages are written -/
inductive Kont where
  | retN (n : Nat)
  | retNone
  | retBytes (n : Nat)
  | loop (l : Loop) (ext : Bool) (n : Nat)   -- `s = s[sent:]` with sent = n, back to `while s:`
  deriving Repr, DecidableEq

inductive TSt where
  | idle (r : Res)
  | waiting (want : Nat) (ext : Bool) (left : Option Nat) (lp : Option Loop)  -- in out_buffer_cv.wait
  | hold (ms : List Msg) (k : Kont)      -- lock released; messages this thread still has to write, in order
  | gotBytes (n : Nat)                   -- recv: the pipe returned n bytes; _check_add_window not yet run
  | loopHead (l : Loop) (ext : Bool)     -- sendall: at `while s:` with len(s) = l.rem > 0
  deriving Repr, DecidableEq

/-- which version of the code is mirrored (both flags true = the repaired tree) -/
structure Cfg where
  creditDiscarded : Bool   -- _feed_extended credits discarded (type ≠ 1) data to the window   (C20 fix)
  raiseOnZero     : Bool   -- sendall raises when send returns 0                               (C25 fix)
  deriving Repr, DecidableEq

def fixedCfg : Cfg := { creditDiscarded := true, raiseOnZero := true }
def oldCfg : Cfg := { creditDiscarded := false, raiseOnZero := false }

structure St where
  active      : Bool
  closed      : Bool
  eofSent     : Bool
  eofRecv     : Bool
  linked      : Bool        -- still in Transport._channels
  combine     : Bool        -- combine_stderr
  pipesClosed : Bool        -- in_buffer / in_stderr_buffer closed
  outWin      : Nat         -- out_window_size
  maxPkt      : Nat         -- out_max_packet_size (sanitised)
  inThreshold : Nat         -- in_window_threshold
  inSofar     : Nat         -- in_window_sofar
  inBuf       : Nat         -- len(in_buffer)
  errBuf      : Nat         -- len(in_stderr_buffer)
  mode        : Mode
  thr         : List TSt
  wire        : List Msg    -- ghost: everything written to the transport, in order
  granted     : Nat         -- ghost: peer's initial window + Σ WINDOW_ADJUST received
  recvd       : Nat         -- ghost: Σ data bytes delivered by the peer (all types)
  consumed    : Nat         -- ghost: Σ bytes returned by recv/recv_stderr
  discarded   : Nat         -- ghost: Σ bytes of extended data of unknown type thrown away
  leaked      : Nat         -- ghost: Σ data bytes reserved from the window whose _send_user_message raised
  raced       : Bool        -- ghost: EOF was decided while some thread still held unsent data
  deriving Repr

def MIN_PACKET_SIZE : Nat := 4096
def MAX_WINDOW_SIZE : Nat := 4294967295

/-- `Transport._sanitize_packet_size` = clamp_value(MIN_PACKET_SIZE, n, MAX_WINDOW_SIZE) -/
def sanitizePkt (n : Nat) : Nat := max MIN_PACKET_SIZE (min n MAX_WINDOW_SIZE)

/-- `_set_window(inWin, _)` then `_set_remote_channel(_, peerWin, peerMax)`, `nthr` application/transport threads -/
def init (inWin peerWin peerMax nthr : Nat) (combine : Bool) : St :=
  { active := true, closed := false, eofSent := false, eofRecv := false, linked := true, combine := combine,
    pipesClosed := false, outWin := peerWin, maxPkt := sanitizePkt peerMax, inThreshold := inWin / 10,
    inSofar := 0, inBuf := 0, errBuf := 0, mode := .blocking, thr := List.replicate nthr (.idle .none),
    wire := [], granted := peerWin, recvd := 0, consumed := 0, discarded := 0, leaked := 0, raced := false }

inductive Act where
  | send (t n : Nat) (ext : Bool)        -- send / send_stderr of n bytes: the lock region of _send
  | sendall (t n : Nat) (ext : Bool)     -- sendall / sendall_stderr entered with n bytes
  | iter (t : Nat)                       -- sendall: one `self.send(s)` — its lock region
  | wake (t dt : Nat)                    -- out_buffer_cv.wait returns, dt clock ticks after it started
  | emit (t : Nat)                       -- the thread's next _send_user_message
  | emitFail (t : Nat)                   -- … which raises SSHException instead of writing (transport still alive)
  | recv (t k : Nat) (err : Bool)        -- recv / recv_stderr(k): the pipe read
  | check (t : Nat)                      -- … its _check_add_window lock region
  | close (t : Nat)                      -- Channel.close: lock region
  | shutdownWrite (t : Nat)              -- shutdown(1): lock region
  | shutdownRead                         -- shutdown(0)
  | setMode (m : Mode)                   -- settimeout
  | feed (n : Nat)                       -- peer CHANNEL_DATA → _feed
  | feedExt (t code n : Nat)             -- peer CHANNEL_EXTENDED_DATA → _feed_extended (thread t = transport thread)
  | adjust (n : Nat)                     -- peer CHANNEL_WINDOW_ADJUST → _window_adjust
  | peerEof                              -- peer CHANNEL_EOF → _handle_eof
  | peerClose (t : Nat)                  -- peer CHANNEL_CLOSE → _handle_close: lock region (t = transport thread)
  | requestFailed (t : Nat)              -- peer CHANNEL_FAILURE → _request_failed: lock region
  | unlink                               -- Channel._unlink (transport teardown)
  deriving Repr

def setThr (s : St) (t : Nat) (x : TSt) : St := { s with thr := s.thr.set t x }

def mkData (ext : Bool) (n : Nat) : Msg := if ext then .ext n else .data n

def Msg.dataLen : Msg → Nat
  | .data n => n
  | .ext n => n
  | _ => 0

def Msg.adjLen : Msg → Nat
  | .adjust n => n
  | _ => 0

def Msg.isData : Msg → Bool
  | .data _ => true
  | .ext _ => true
  | _ => false

def dataSum : List Msg → Nat
  | [] => 0
  | m :: ms => m.dataLen + dataSum ms

def adjSum : List Msg → Nat
  | [] => 0
  | m :: ms => m.adjLen + adjSum ms

/-- state a thread is in once everything it held has been written -/
def kontState : Kont → TSt
  | .retN n => .idle (.ret n)
  | .retNone => .idle .none
  | .retBytes n => .idle (.bytes n)
  | .loop l ext n =>
    if l.rem - n = 0 then .idle (.doneAll (l.handed + n) l.total)
    else .loopHead { rem := l.rem - n, handed := l.handed + n, total := l.total } ext

def holdOrDone (s : St) (t : Nat) (ms : List Msg) (k : Kont) : St :=
  match ms with
  | [] => setThr s t (kontState k)
  | _ :: _ => setThr s t (.hold ms k)

def TSt.holdsData : TSt → Bool
  | .hold ms _ => ms.any Msg.isData
  | _ => false

/-- the allocation tail of `_wait_for_send_window` -/
def allocate (s : St) (want : Nat) : Nat :=
  let size := if s.outWin < want then s.outWin else want
  if s.maxPkt - 64 < size then s.maxPkt - 64 else size

/-- `_send` got 0 from `_wait_for_send_window` (or reserved nothing) -/
def zeroResult (cfg : Cfg) (s : St) (t : Nat) (ext : Bool) : Option Loop → St
  | none => setThr s t (.idle (.ret 0))
  | some l => if cfg.raiseOnZero then setThr s t (.idle .sockClosed) else setThr s t (.loopHead l ext)

def grant (cfg : Cfg) (s : St) (t want : Nat) (ext : Bool) (lp : Option Loop) : St :=
  let size := allocate s want
  if size = 0 then zeroResult cfg s t ext lp
  else
    let k := match lp with
      | none => Kont.retN size
      | some l => Kont.loop l ext size
    setThr { s with outWin := s.outWin - size } t (.hold [mkData ext size] k)

/-- the lock region of `_send` for a request of `want` bytes -/
def sendRegion (cfg : Cfg) (s : St) (t want : Nat) (ext : Bool) (lp : Option Loop) : St :=
  if s.closed then setThr s t (.idle .sockClosed)
  else if s.eofSent then zeroResult cfg s t ext lp
  else if s.outWin = 0 then
    match s.mode with
    | .nonblocking => setThr s t (.idle .timeout)
    | .blocking => setThr s t (.waiting want ext none lp)
    | .timed 0 => setThr s t (.idle .timeout)
    | .timed (l + 1) => setThr s t (.waiting want ext (some (l + 1)) lp)
  else grant cfg s t want ext lp

/-- `_wait_for_send_window` after `out_buffer_cv.wait` returned (lock held again) -/
def wakeRegion (cfg : Cfg) (s : St) (t dt want : Nat) (ext : Bool) (left : Option Nat) (lp : Option Loop) : St :=
  let cont (left' : Option Nat) : St :=
    if s.outWin = 0 then
      if s.closed || s.eofSent then zeroResult cfg s t ext lp
      else setThr s t (.waiting want ext left' lp)
    else if s.closed || s.eofSent then zeroResult cfg s t ext lp
    else grant cfg s t want ext lp
  match left with
  | none => cont none
  | some l => if l ≤ dt then setThr s t (.idle .timeout) else cont (some (l - dt))

/-- `_check_add_window(n)`: new state and the ack to send (0 = none) -/
def checkAdd (s : St) (n : Nat) : St × Nat :=
  if s.closed || s.eofRecv || !s.active then (s, 0)
  else if s.inSofar + n ≤ s.inThreshold then ({ s with inSofar := s.inSofar + n }, 0)
  else ({ s with inSofar := 0 }, s.inSofar + n)

/-- `_send_eof` (lock held) -/
def sendEof (s : St) : St × List Msg :=
  if s.eofSent then (s, [])
  else ({ s with eofSent := true, raced := s.raced || s.thr.any TSt.holdsData }, [.eof])

/-- `_set_closed` -/
def setClosed (s : St) : St := { s with closed := true, pipesClosed := true }

/-- `_close_internal` (lock held) -/
def closeInternal (s : St) : St × List Msg :=
  if !s.active || s.closed then (s, [])
  else
    let r := sendEof s
    (setClosed r.1, r.2 ++ [.close])

def idleOf (s : St) (t : Nat) : Bool :=
  match s.thr[t]? with
  | some (.idle _) => true
  | _ => false

def step (cfg : Cfg) (s : St) : Act → St
  | .send t n ext => if idleOf s t then sendRegion cfg s t n ext none else s
  | .sendall t n ext =>
    if idleOf s t then
      if n = 0 then setThr s t (.idle (.doneAll 0 0))
      else setThr s t (.loopHead { rem := n, handed := 0, total := n } ext)
    else s
  | .iter t =>
    match s.thr[t]? with
    | some (.loopHead l ext) => sendRegion cfg s t l.rem ext (some l)
    | _ => s
  | .wake t dt =>
    match s.thr[t]? with
    | some (.waiting want ext left lp) => wakeRegion cfg s t dt want ext left lp
    | _ => s
  | .emit t =>
    match s.thr[t]? with
    | some (.hold (m :: ms) k) => holdOrDone { s with wire := s.wire ++ [m] } t ms k
    | _ => s
  | .emitFail t =>
    -- the exception propagates out of the API call: nothing is written, the remaining messages of this call are
    -- never sent, and a reserved piece of window is NOT handed back (it is simply lost)
    match s.thr[t]? with
    | some (.hold (m :: ms) _) =>
      setThr { s with leaked := s.leaked + dataSum (m :: ms) } t (.idle .sshError)
    | _ => s
  | .recv t k err =>
    if idleOf s t then
      let buf := if err then s.errBuf else s.inBuf
      if buf = 0 then
        if s.pipesClosed then setThr s t (.gotBytes 0)
        else match s.mode with
          | .nonblocking => setThr s t (.idle .timeout)
          | .timed 0 => setThr s t (.idle .timeout)
          | _ => s           -- a blocking read of an empty pipe is not scheduled (the thread would sleep in BufferedPipe)
      else
        let got := if buf ≤ k then buf else k
        let s1 := if err then { s with errBuf := s.errBuf - got } else { s with inBuf := s.inBuf - got }
        setThr { s1 with consumed := s1.consumed + got } t (.gotBytes got)
    else s
  | .check t =>
    match s.thr[t]? with
    | some (.gotBytes n) =>
      let r := checkAdd s n
      if r.2 = 0 then setThr r.1 t (.idle (.bytes n))
      else setThr r.1 t (.hold [.adjust r.2] (.retBytes n))
    | _ => s
  | .close t =>
    if idleOf s t then
      let r := closeInternal s
      holdOrDone r.1 t r.2 .retNone
    else s
  | .shutdownWrite t =>
    if idleOf s t then
      let r := sendEof s
      holdOrDone r.1 t r.2 .retNone
    else s
  | .shutdownRead => { s with eofRecv := true }
  | .setMode m => { s with mode := m }
  | .feed n => { s with inBuf := s.inBuf + n, recvd := s.recvd + n }
  | .feedExt t code n =>
    if code = 1 then
      if s.combine then { s with inBuf := s.inBuf + n, recvd := s.recvd + n }
      else { s with errBuf := s.errBuf + n, recvd := s.recvd + n }
    else if cfg.creditDiscarded then
      if idleOf s t then
        let s0 := { s with recvd := s.recvd + n, discarded := s.discarded + n }
        let r := checkAdd s0 n
        if r.2 = 0 then r.1 else setThr r.1 t (.hold [.adjust r.2] .retNone)
      else s
    else { s with recvd := s.recvd + n, discarded := s.discarded + n }
  | .adjust n => { s with outWin := s.outWin + n, granted := s.granted + n }
  | .peerEof => if s.eofRecv then s else { s with eofRecv := true, pipesClosed := true }
  | .peerClose t =>
    if idleOf s t then
      let r := closeInternal s
      holdOrDone { r.1 with linked := false } t r.2 .retNone
    else s
  | .requestFailed t =>
    if idleOf s t then
      let r := closeInternal s
      holdOrDone r.1 t r.2 .retNone
    else s
  | .unlink => if s.closed then s else { setClosed s with linked := false }

def run (cfg : Cfg) (s : St) (as : List Act) : St := as.foldl (step cfg) s

/-! ## observables -/

/-- bytes a thread has reserved (or read) but not yet put on the wire / accounted -/
def TSt.heldData : TSt → Nat
  | .hold ms _ => dataSum ms
  | _ => 0

def TSt.heldAdj : TSt → Nat
  | .hold ms _ => adjSum ms
  | .gotBytes n => n
  | _ => 0

def sumBy (f : TSt → Nat) : List TSt → Nat
  | [] => 0
  | x :: xs => f x + sumBy f xs

/-- Σ over threads of data bytes reserved (window already debited) but not yet written -/
def heldDataAll (l : List TSt) : Nat := sumBy TSt.heldData l

/-- Σ over threads of bytes read from the pipes / acks computed but not yet accounted / written -/
def heldAdjAll (l : List TSt) : Nat := sumBy TSt.heldAdj l

end PV.Chan
