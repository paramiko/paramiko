/-
  Request-number uniqueness for the prefetch model: request numbers are fresh, every number is in flight at most
  once, and an answer to a prefetch request whose extent is not registered yet belongs to a thread that is between
  "packet sent" and "extent registered".  This is what makes the reader's spin in `_async_response` end.
-/
import PV.Model.PrefetchLive
namespace PV.Prefetch
open PV

def heldNum : Pc → Option Nat
  | .sendSync _ n => some n
  | _ => none

def dCnt (d : Option Nat) (n : Nat) : Nat := if d = some n then 1 else 0

/-- how many times request number `n` is in flight: on the wire to the server, in the response queue, or being
    dispatched by the reader -/
def cnt (c2s : List Nat) (s2c : List (Nat × Resp)) (d : Option Nat) (n : Nat) : Nat :=
  c2s.count n + (s2c.map (·.1)).count n + dCnt d n

/-- `d` is the number being dispatched by the reader (`dispNum pc`), `h` the number it holds between allocating and
    sending (`heldNum pc`): see `Uniq`. -/
structure UniqF (info : List Info) (c2s : List Nat) (s2c : List (Nat × Resp)) (threads : List Thread)
    (ext : List (Nat × Chunk)) (d h : Option Nat) : Prop where
  uniq : ∀ n, cnt c2s s2c d n ≤ 1
  bound : ∀ n, 0 < cnt c2s s2c d n → n < info.length
  freshT : ∀ (i : Nat) (t : Thread) (n o l : Nat) (r : List Chunk), threads[i]? = some t → t.st = TSt.allocd n o l r →
    cnt c2s s2c d n = 0
  freshR : ∀ n, h = some n → cnt c2s s2c d n = 0
  owner : ∀ n i, PfOwned info n i → 0 < cnt c2s s2c d n → dictHas ext n = false →
    ∃ t : Thread, threads[i]? = some t ∧ ∃ o l r, t.st = TSt.sent n o l r
  dispW : ∀ n, d = some n → ∃ i, PfOwned info n i

def Uniq (s : St) : Prop := UniqF s.info s.c2s s.s2c s.threads s.extents (dispNum s.pc) (heldNum s.pc)

/-! ## counting -/

theorem count_cons' (a b : Nat) (l : List Nat) : (a :: l).count b = l.count b + (if a = b then 1 else 0) := by
  rw [List.count_cons]; simp

theorem count_snoc (a b : Nat) (l : List Nat) : (l ++ [a]).count b = l.count b + (if a = b then 1 else 0) := by
  rw [List.count_append, List.count_cons]; simp

theorem cnt_send (c2s : List Nat) (s2c : List (Nat × Resp)) (d : Option Nat) (n m : Nat) :
    cnt (c2s ++ [n]) s2c d m = cnt c2s s2c d m + (if n = m then 1 else 0) := by
  unfold cnt; rw [count_snoc]; omega

theorem cnt_send_fresh {c2s : List Nat} {s2c : List (Nat × Resp)} {d : Option Nat} {num : Nat}
    (hf : cnt c2s s2c d num = 0) (m : Nat) :
    cnt (c2s ++ [num]) s2c d m = if num = m then 1 else cnt c2s s2c d m := by
  rw [cnt_send]
  split
  · rename_i h; rw [← h, hf]
  · rfl

theorem cnt_serve (num : Nat) (rest : List Nat) (s2c : List (Nat × Resp)) (r : Resp) (d : Option Nat) (m : Nat) :
    cnt rest (s2c ++ [(num, r)]) d m = cnt (num :: rest) s2c d m := by
  unfold cnt
  rw [count_cons', List.map_append, List.map_cons, List.map_nil, count_snoc]
  show _ + (_ + (if num = m then 1 else 0)) + _ = _
  omega

theorem cnt_pop_disp (c2s : List Nat) (num : Nat) (r : Resp) (rest : List (Nat × Resp)) (m : Nat) :
    cnt c2s rest (some num) m = cnt c2s ((num, r) :: rest) none m := by
  unfold cnt dCnt
  rw [List.map_cons, count_cons']
  show _ + _ + (if some num = some m then 1 else 0) = _ + (_ + (if num = m then 1 else 0)) + (if none = some m then 1 else 0)
  by_cases h : num = m <;> simp [h] <;> omega

theorem cnt_pop_drop (c2s : List Nat) (num : Nat) (r : Resp) (rest : List (Nat × Resp)) (m : Nat) :
    cnt c2s rest none m ≤ cnt c2s ((num, r) :: rest) none m := by
  unfold cnt
  rw [List.map_cons, count_cons']; omega

theorem cnt_undisp (c2s : List Nat) (s2c : List (Nat × Resp)) (n m : Nat) :
    cnt c2s s2c none m + (if n = m then 1 else 0) = cnt c2s s2c (some n) m := by
  unfold cnt dCnt; simp

theorem cnt_pos_inflight {c2s : List Nat} {s2c : List (Nat × Resp)} {pc : Pc} {n : Nat}
    (h : InFlight c2s s2c pc n) : 0 < cnt c2s s2c (dispNum pc) n := by
  unfold cnt dCnt
  rcases h with (h | h) | h
  · have := List.count_pos_iff.mpr h; omega
  · have := List.count_pos_iff.mpr h; omega
  · simp [h]

/-! ## monotone transfer: nothing but the in-flight counters (which may only shrink) and the reader's pc changes -/

theorem uniqF_mono {info c2s s2c threads ext d h} {c2s' : List Nat} {s2c' : List (Nat × Resp)} {d' h' : Option Nat}
    (hu : UniqF info c2s s2c threads ext d h) (hle : ∀ n, cnt c2s' s2c' d' n ≤ cnt c2s s2c d n)
    (hd : ∀ n, d' = some n → ∃ i, PfOwned info n i) (hh : ∀ n, h' = some n → h = some n) :
    UniqF info c2s' s2c' threads ext d' h' := by
  refine ⟨?_, ?_, ?_, ?_, ?_, hd⟩
  · intro n; exact Nat.le_trans (hle n) (hu.uniq n)
  · intro n hn; exact hu.bound n (Nat.lt_of_lt_of_le hn (hle n))
  · intro i t n o l r ht hs
    have := hu.freshT i t n o l r ht hs
    have := hle n; omega
  · intro n hn
    have := hu.freshR n (hh n hn)
    have := hle n; omega
  · intro n i ho hp hx
    exact hu.owner n i ho (Nat.lt_of_lt_of_le hp (hle n)) hx

theorem Stop.uniq {s t : St} {c : RCtx} (hs : Stop s c t)
    (hu : UniqF s.info s.c2s s.s2c s.threads s.extents none none) : Uniq t := by
  cases hs <;> exact hu

theorem uniq_advance {s : St} (fuel : Nat) (c : RCtx)
    (hu : UniqF s.info s.c2s s.s2c s.threads s.extents none none) : Uniq (advance fuel s c) := by
  obtain ⟨b, p, a, z, hs⟩ := advance_stop_any fuel s c
  exact hs.uniq hu

theorem uniq_afterCheck {s : St} (c : RCtx)
    (hu : UniqF s.info s.c2s s.s2c s.threads s.extents none none) : Uniq (afterCheck s c) := by
  unfold afterCheck
  split
  · exact hu
  · exact uniq_advance _ _ hu

theorem sent_set {threads : List Thread} {i j n : Nat} {old : Thread} (new : Thread) (hth : threads[i]? = some old)
    (hold : ∀ o l r, old.st ≠ .sent n o l r)
    (h : ∃ t : Thread, threads[j]? = some t ∧ ∃ o l r, t.st = TSt.sent n o l r) :
    ∃ t : Thread, (threads.set i new)[j]? = some t ∧ ∃ o l r, t.st = TSt.sent n o l r := by
  obtain ⟨t, ht, o, l, r, hs⟩ := h
  by_cases hij : i = j
  · subst hij
    cases hth.symm.trans ht
    exact absurd hs (hold o l r)
  · exact ⟨t, by rw [List.getElem?_set_ne hij]; exact ht, o, l, r, hs⟩

theorem allocd_set {threads : List Thread} {i j n o l : Nat} {r : List Chunk} {new t : Thread}
    (hnew : ∀ n o l r, new.st ≠ .allocd n o l r) (ht : (threads.set i new)[j]? = some t)
    (hs : t.st = .allocd n o l r) : threads[j]? = some t := by
  rcases get_set ht with ⟨_, ht'⟩ | ⟨_, ht'⟩
  · exact absurd (ht' ▸ hs) (hnew n o l r)
  · exact ht'

theorem pfOwned_of_append {info m : List Info} {n i : Nat} (h : PfOwned (info ++ m) n i) (hlt : n < info.length) :
    PfOwned info n i := by
  obtain ⟨o, l, hh⟩ := h
  rw [List.getElem?_append_left hlt] at hh
  exact ⟨o, l, hh⟩

theorem UniqF.send {info c2s s2c threads ext d h} (hu : UniqF info c2s s2c threads ext d h) {num : Nat}
    (hf : cnt c2s s2c d num = 0) (hlt : num < info.length) :
    (∀ m, cnt (c2s ++ [num]) s2c d m ≤ 1) ∧ (∀ m, 0 < cnt (c2s ++ [num]) s2c d m → m < info.length) := by
  refine ⟨fun m => ?_, fun m hp => ?_⟩
  · rw [cnt_send_fresh hf]
    split
    · exact Nat.le_refl 1
    · exact hu.uniq m
  · rw [cnt_send_fresh hf] at hp
    split at hp
    · rename_i hm; exact hm ▸ hlt
    · exact hu.bound m hp

theorem allocd_owned {info c2s s2c threads ext done pc pf} (hl : LiveF info c2s s2c threads ext done pc pf)
    {j m o l : Nat} {r : List Chunk} {t : Thread} (ht : threads[j]? = some t) (hs : t.st = .allocd m o l r) :
    PfOwned info m j := by
  have := (hl.thrs j t ht).1
  rw [hs] at this
  exact this.1

theorem UniqF.fresh_next {info c2s s2c threads ext d h} (hu : UniqF info c2s s2c threads ext d h) :
    cnt c2s s2c d info.length = 0 :=
  Nat.eq_zero_of_not_pos fun h0 => Nat.lt_irrefl _ (hu.bound _ h0)

theorem UniqF.append_info {info c2s s2c threads ext d h} (hu : UniqF info c2s s2c threads ext d h) (m : List Info) :
    UniqF (info ++ m) c2s s2c threads ext d h :=
  ⟨hu.uniq, fun n hn => by have := hu.bound n hn; rw [List.length_append]; omega, hu.freshT, hu.freshR,
   fun n j ho hp hx => hu.owner n j (pfOwned_of_append ho (hu.bound n hp)) hp hx,
   fun n hn => (hu.dispW n hn).imp fun _ hj => pfOwned_append hj _⟩

/-- changing the state of thread `i` from something that is neither `allocd` nor `sent` to something that is
    not `allocd` -/
theorem uniq_thread_quiet {info c2s s2c threads ext d h} {i : Nat} {old new : Thread}
    (hu : UniqF info c2s s2c threads ext d h) (hth : threads[i]? = some old)
    (hold : ∀ n o l r, old.st ≠ .sent n o l r) (hnew : ∀ n o l r, new.st ≠ .allocd n o l r) :
    UniqF info c2s s2c (threads.set i new) ext d h := by
  exact ⟨hu.uniq, hu.bound, fun j t n o l r ht hs => hu.freshT j t n o l r (allocd_set hnew ht hs) hs, hu.freshR,
    fun n j ho hp hx => sent_set new hth (hold n) (hu.owner n j ho hp hx), hu.dispW⟩

theorem uniq_startPrefetch {s : St} (hu : Uniq s) (ch : List Chunk) (cap : Option Nat) :
    Uniq (startPrefetch s ch cap) := by
  unfold Uniq at hu ⊢
  simp only [startPrefetch]
  refine ⟨hu.uniq, hu.bound, ?_, hu.freshR, ?_, hu.dispW⟩
  · intro j t n o l r ht hs
    by_cases hj : j < s.threads.length
    · rw [List.getElem?_append_left hj] at ht
      exact hu.freshT j t n o l r ht hs
    · rw [List.getElem?_append_right (by omega)] at ht
      have hlen := (List.getElem?_eq_some_iff.mp ht).1
      simp at hlen
      have : j - s.threads.length = 0 := by omega
      rw [this] at ht
      simp at ht
      subst ht
      cases hs
  · intro n j ho hp hx
    obtain ⟨t, ht, rest⟩ := hu.owner n j ho hp hx
    exact ⟨t, by rw [List.getElem?_append_left (List.getElem?_eq_some_iff.mp ht).1]; exact ht, rest⟩

/-- after the locked region of `_async_response` for the request being dispatched -/
theorem uniq_asyncResponse {s s1 : St} {n : Nat} {r : Resp} (hu : Uniq s) (hd : dispNum s.pc = some n)
    (h : asyncResponse s n r = some s1) : UniqF s1.info s1.c2s s1.s2c s1.threads s1.extents none none := by
  obtain ⟨off, len, -, rfl⟩ := asyncResponse_some h
  show UniqF s.info s.c2s s.s2c s.threads (dictDel s.extents n) none none
  unfold Uniq at hu
  rw [hd] at hu
  have hle : ∀ m, cnt s.c2s s.s2c none m + (if n = m then 1 else 0) = cnt s.c2s s.s2c (some n) m :=
    fun m => cnt_undisp _ _ n m
  refine ⟨?_, ?_, ?_, ?_, ?_, ?_⟩
  · intro m; have := hu.uniq m; have := hle m; omega
  · intro m hp; exact hu.bound m (by have := hle m; omega)
  · intro j t m o l r' ht hs
    have := hu.freshT j t m o l r' ht hs
    have := hle m; omega
  · intro m hm; cases hm
  · intro m j ho hp hx
    by_cases hmn : m = n
    · subst hmn
      exfalso
      have := hu.uniq m
      have := hle m
      simp at this
      omega
    · exact hu.owner m j ho (by have := hle m; omega) ((dictHas_dictDel_false_iff.mp hx).resolve_left hmn)
  · intro m hm; cases hm

theorem uniq_reply {s : St} (hu : Uniq s) {num : Nat} {rest : List Nat} (hc : s.c2s = num :: rest) (r : Resp) :
    Uniq { s with c2s := rest, s2c := s.s2c ++ [(num, r)] } := by
  unfold Uniq at hu ⊢
  rw [hc] at hu
  exact uniqF_mono hu (fun n => Nat.le_of_eq (cnt_serve num rest s.s2c _ _ n)) hu.dispW (fun _ x => x)

theorem uniq_pop {info c2s threads ext} {num : Nat} {r : Resp} {rest : List (Nat × Resp)}
    (hu : UniqF info c2s ((num, r) :: rest) threads ext none none) : UniqF info c2s rest threads ext none none :=
  uniqF_mono hu (fun m => cnt_pop_drop c2s num r rest m) nofun nofun

theorem step_uniq {s s' : St} {a : Act} (hl : Live s) (hu : Uniq s) (h : Step s a s') : Uniq s' := by
  cases h with
  | serve hq | serveFail hq => exact uniq_reply hu hq _
  | tCheck hth hc => exact uniq_thread_quiet hu hth nofun nofun
  | @tAlloc i c rest cap hth =>
    unfold Uniq at hu ⊢
    simp only [setThread]
    have hu' := hu.append_info [⟨c.1, c.2, .pf i⟩]
    refine ⟨hu'.uniq, hu'.bound, fun j t n o l r ht hs => ?_, hu'.freshR,
      fun n j ho hp hx => sent_set _ hth (by intro o l r hc; cases hc) (hu'.owner n j ho hp hx), hu'.dispW⟩
    rcases get_set ht with ⟨_, rfl⟩ | ⟨_, ht'⟩
    · cases hs; exact hu.fresh_next
    · exact hu.freshT j t n o l r ht' hs
  | @tSend i num off len rest cap hth =>
    unfold Uniq at hu ⊢
    unfold Live at hl
    simp only [setThread]
    have hme : PfOwned s.info num i := (hl.thrs _ _ hth).1.1
    have hfresh := hu.freshT i _ num off len rest hth rfl
    have hcnt := cnt_send_fresh hfresh
    obtain ⟨h1, h2⟩ := hu.send hfresh (pfOwned_lt hme)
    refine ⟨h1, h2, ?_, ?_, ?_, hu.dispW⟩
    · intro j t m o l r ht hs
      rcases get_set ht with ⟨_, ht'⟩ | ⟨hj, ht'⟩
      · subst ht'; cases hs
      · rw [hcnt, if_neg (fun hc : num = m => hj (pfOwned_inj (allocd_owned hl ht' hs) (hc ▸ hme)))]
        exact hu.freshT j t m o l r ht' hs
    · intro m hm
      -- the reader holds a number for a synchronous request, this one belongs to a prefetch thread
      have hsync : SyncOwned s.info m := by
        cases hpc : s.pc with
        | sendSync c n =>
          rw [hpc] at hm
          obtain rfl := Option.some.inj hm
          exact hl.heldW c n hpc
        | _ => rw [hpc] at hm; cases hm
      rw [hcnt, if_neg (fun hc : num = m => pf_not_sync (hc ▸ hme) hsync)]
      exact hu.freshR m hm
    · intro m j ho hp hx
      rw [hcnt] at hp
      split at hp
      · rename_i hm
        subst hm
        obtain rfl : j = i := pfOwned_inj ho hme
        exact ⟨_, List.getElem?_set_self (List.getElem?_eq_some_iff.mp hth).1, off, len, rest, rfl⟩
      · exact sent_set _ hth (by intro o l r hc; cases hc) (hu.owner m j ho hp hx)
  | @tReg i num off len rest cap hth =>
    unfold Uniq at hu ⊢
    simp only [setThread]
    refine ⟨hu.uniq, hu.bound, ?_, hu.freshR, ?_, hu.dispW⟩
    · exact fun j t n o l r ht hs => hu.freshT j t n o l r (allocd_set (by intro n o l r hc; cases hc) ht hs) hs
    · intro m j ho hp hx
      -- the extent registered now is for another number
      obtain ⟨hne, hx'⟩ := dictHas_dictSet_false_iff.mp hx
      exact sent_set _ hth (by intro o l r hc; cases hc; exact hne rfl) (hu.owner m j ho hp hx')
  | seek | prefetchNone | readvNone => exact hu
  | read hpc | readAt hpc | cont hpc =>
    unfold Uniq at hu
    rw [hpc] at hu
    exact uniq_advance _ _ hu
  | prefetchStart | readvStart => exact uniq_startPrefetch hu _ _
  | @recvPf c num o l j r rest hpc hq ho | @otherPf c _ num o l j r rest hpc hq _ ho =>
    unfold Uniq at hu ⊢
    rw [hpc, hq] at hu
    exact uniqF_mono hu (fun m => Nat.le_of_eq (cnt_pop_disp s.c2s num r rest m))
      (fun m hm => Option.some.inj hm ▸ ⟨j, o, l, ho⟩) nofun
  | dropPf hpc hq =>
    unfold Uniq at hu
    rw [hpc, hq] at hu
    exact uniq_afterCheck _ (uniq_pop hu)
  | ownData hpc hq =>
    unfold Uniq at hu
    rw [hpc, hq] at hu
    exact uniq_advance _ _ (uniq_pop hu)
  | ownEmpty hpc hq | ownEof hpc hq | ownErr hpc hq =>
    unfold Uniq at hu
    rw [hpc, hq] at hu
    exact uniq_pop hu
  | otherDrop hpc hq =>
    unfold Uniq at hu ⊢
    rw [hpc, hq] at hu
    rw [hpc]
    exact uniq_pop hu
  | dispPf hpc hres => exact uniq_afterCheck _ (uniq_asyncResponse hu (by rw [hpc]; rfl) hres)
  | @allocSync c hpc =>
    unfold Uniq at hu ⊢
    rw [hpc] at hu
    have hu' := hu.append_info [⟨s.realpos, c.size, .sync⟩]
    exact ⟨hu'.uniq, hu'.bound, hu'.freshT, fun n hn => Option.some.inj hn ▸ hu.fresh_next, hu'.owner, nofun⟩
  | @sendSync c num hpc =>
    unfold Live at hl
    have hsync := hl.heldW c num hpc
    unfold Uniq at hu ⊢
    rw [hpc] at hu
    have hcnt := cnt_send_fresh (d := none) (hu.freshR num rfl)
    obtain ⟨h1, h2⟩ := hu.send (hu.freshR num rfl)
      (by obtain ⟨o, l, ho⟩ := hsync; exact (List.getElem?_eq_some_iff.mp ho).1)
    refine ⟨h1, h2, ?_, nofun, ?_, nofun⟩
    · intro j t m o l r ht hs
      show cnt (s.c2s ++ [num]) s.s2c none m = 0
      rw [hcnt, if_neg (fun hc : num = m => pf_not_sync (hc ▸ allocd_owned hl ht hs) hsync)]
      exact hu.freshT j t m o l r ht hs
    · intro m j ho hp hx
      replace hp : 0 < cnt (s.c2s ++ [num]) s.s2c none m := hp
      replace ho : PfOwned s.info m j := ho
      rw [hcnt, if_neg (fun hc : num = m => pf_not_sync (hc ▸ ho) hsync)] at hp
      exact hu.owner m j ho hp hx
  | dispSync hpc hres =>
    have := uniq_asyncResponse hu (by rw [hpc]; rfl) hres
    obtain ⟨off, len, -, rfl⟩ := asyncResponse_some hres
    exact this

theorem init_uniq (file : Bytes) (maxReq : Nat) (bufsize : Nat := 0) : Uniq (init file maxReq bufsize) := by
  unfold Uniq init
  refine ⟨?_, ?_, ?_, ?_, ?_, ?_⟩ <;> simp [cnt, dCnt, dispNum, heldNum]

theorem step_live_uniq {s s' : St} {a : Act} (h : Live s ∧ Uniq s) (ha : actOK a) (hs : Step s a s') :
    Live s' ∧ Uniq s' :=
  ⟨step_live h.1 ha hs, step_uniq h.1 h.2 hs⟩

theorem run_live_uniq {s : St} (hl : Live s) (hu : Uniq s) (as : List Act) (ha : ∀ a ∈ as, actOK a) :
    Live (run s as) ∧ Uniq (run s as) :=
  run_induction (fun _ _ _ => step_live_uniq) ⟨hl, hu⟩ as ha

/-! ## a blocked reader is never stuck -/

/-- the reader is in the middle of a call and cannot take its next step: it waits for a response with none
    queued, or it spins in `_async_response` because the extent of the answer in hand is not registered yet -/
def ReaderBlocked (s : St) : Prop := s.pc ≠ .idle ∧ step s .rStep = none

theorem spin_not_stuck {s : St} {n : Nat} {r : Resp} (hu : Uniq s) (hd : dispNum s.pc = some n)
    (ha : asyncResponse s n r = none) : ∃ a, nonReader a ∧ (step s a).isSome = true := by
  unfold Uniq at hu
  have hx : dictHas s.extents n = false := by
    apply dictHas_false_of_get_none
    unfold asyncResponse at ha
    cases hg : dictGet? s.extents n with
    | none => rfl
    | some v =>
      simp only [hg] at ha
      obtain ⟨o, l⟩ := v
      cases r <;> simp at ha
  obtain ⟨i, hi⟩ := hu.dispW n hd
  have hp : 0 < cnt s.c2s s.s2c (dispNum s.pc) n := by
    unfold cnt dCnt; simp [hd]
  obtain ⟨t, ht, o, l, rest, hs⟩ := hu.owner n i hi hp hx
  obtain ⟨st, cap⟩ := t
  simp only at hs
  subst hs
  exact ⟨.tReg i, trivial, tReg_enabled ht⟩

theorem blocked_not_stuck {s : St} (hl : Live s) (hu : Uniq s) (hb : ReaderBlocked s) :
    ∃ a, nonReader a ∧ (step s a).isSome = true := by
  rcases rStep_none hb.1 hb.2 with hw | ⟨n, r, hpc, ha⟩
  · exact waiting_not_stuck hl hw
  · refine spin_not_stuck hu ?_ ha
    rcases hpc with ⟨c, h⟩ | ⟨c, m, h⟩ <;> rw [h] <;> rfl

theorem runStrict_live_uniq {s s' : St} {as : List Act} (hl : Live s) (hu : Uniq s) (ha : ∀ a ∈ as, actOK a)
    (h : runStrict s as = some s') : Live s' ∧ Uniq s' :=
  runStrict_induction (fun _ _ _ => step_live_uniq) ⟨hl, hu⟩ ha h

end PV.Prefetch
