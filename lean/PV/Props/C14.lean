/-
  C14 — A server grants authentication only with its own approval and valid proof.
  Property theorems only.  Model: PV/Model/AuthServer.lean; helpers: PV/Model/AuthServerLemmas.lean,
  PV/Model/AuthServerGrant.lean.

  `Call.approves c` : the callback `c` evaluated a credential (check_auth_none / password / publickey /
  interactive / interactive_response / gssapi_with_mic / gssapi_keyex) and returned AUTH_SUCCESSFUL.
  The signature scheme `sc` is arbitrary; only `replayed_signature_rejected` needs a hypothesis about it.
-/
import PV.Model.AuthServerGrant
import PV.Base.WireLemmas
namespace PV.Props.C14
open PV PV.Wire PV.AuthServer PV.Generated.AuthTables

variable (sc : SigScheme) (sid : Bytes)

/-! ## USERAUTH_SUCCESS and `is_authenticated()` need an approving callback in the same step -/

/-- **Approval.** Whatever the state, the message and the application's answers: if the step puts
USERAUTH_SUCCESS on the wire, then in that same step a credential callback returned AUTH_SUCCESSFUL. -/
theorem success_needs_approval (s : St) (p : Nat) (b : Bytes) (e : Env)
    (h : msgSuccess ∈ (step sc sid s p b e).2.sent) : ∃ c ∈ (step sc sid s p b e).2.cbs, c.approves :=
  step_success sc sid s p b e h

/-- the server-side "authenticated" flag is raised only in a step that sends USERAUTH_SUCCESS — hence only
with an approving callback -/
theorem authentication_needs_approval (s : St) (p : Nat) (b : Bytes) (e : Env)
    (h0 : s.authenticated = false) (h1 : (step sc sid s p b e).1.authenticated = true) :
    msgSuccess ∈ (step sc sid s p b e).2.sent ∧ ∃ c ∈ (step sc sid s p b e).2.cbs, c.approves :=
  have hs := step_authenticated sc sid s p b e h0 h1
  ⟨hs, step_success sc sid s p b e hs⟩

/-- the approving callback was asked about the username pinned on this connection (the only username the
connection ever evaluates, C16) -/
theorem approval_is_for_the_pinned_username (s : St) (p : Nat) (b : Bytes) (e : Env) (c : Call)
    (hc : c ∈ (step sc sid s p b e).2.cbs) (u : Bytes) (hu : userOf c.cb = some u) :
    (step sc sid s p b e).1.authUser = some u := step_cbs_user sc sid s p b e c hc u hu

/-! ## all histories -/

/-- **History form.** On a fresh connection, after ANY history of messages and application answers: if the
server reports the client as authenticated, some step of the history sent USERAUTH_SUCCESS and had an approving
callback. -/
theorem authenticated_only_after_approval (ms : List Msg) (h : (run sc sid init ms).1.isAuthenticated = true) :
    ∃ o ∈ (run sc sid init ms).2, msgSuccess ∈ o.sent ∧ ∃ c ∈ o.cbs, c.approves := by
  simp only [St.isAuthenticated, Bool.and_eq_true] at h
  exact run_authenticated sc sid init ms rfl h.2

/-! ## public keys: a signature over this session's blob -/

/-- a publickey USERAUTH_REQUEST as the handler reads it -/
structure PubkeyRequest (b user service algo keyblob sig : Bytes) (attached : Bool) : Prop where
  parse : ∃ r1 r2 r3 r4 r5 r6 r7,
    getText { content := b, pos := 0 } = (some user, r1) ∧ getText r1 = (some service, r2) ∧
    getText r2 = (some sPublickey, r3) ∧ getBool r3 = (attached, r4) ∧ getText r4 = (some algo, r5) ∧
    r5.getString = (keyblob, r6) ∧ r6.getString = (sig, r7)

private theorem pk_ne_none : ¬ sPublickey = sNone := by decide +kernel
private theorem pk_ne_pw : ¬ sPublickey = sPassword := by decide +kernel

/-- what the handler decides for a publickey request that passes the service and username checks -/
private theorem pubkey_step (s : St) (hact : s.active = true) (hsub : s.gssSub = false) (hexp : s.expected = [])
    (hauth : s.authenticated = false) (b user service algo keyblob sig : Bytes) (attached : Bool)
    (hreq : PubkeyRequest b user service algo keyblob sig attached) (hsvc : service = sSshConnection)
    (hpin : s.authUser = none ∨ s.authUser = some user) (e : Env) :
    step sc sid s 50 b e =
      perform { s with authUser := some user } e
        (match e.keyCanon with
         | none => .disconnect [cGss] msgDiscNoMoreAuth
         | some key =>
           if e.rPubkey ≠ AUTH_FAILED then
             if !attached then .reply [cGss, Call.mk (.authPubkey user key) (some e.rPubkey)] [msgPkOk algo keyblob]
             else if sc.verify key (sessionBlob sid user service algo key) sig then
               .result [cGss, Call.mk (.authPubkey user key) (some e.rPubkey)] (some user) e.rPubkey
             else .result [cGss, Call.mk (.authPubkey user key) (some e.rPubkey)] (some user) AUTH_FAILED
           else .result [cGss, Call.mk (.authPubkey user key) (some e.rPubkey)] (some user) e.rPubkey) := by
  obtain ⟨r1, r2, r3, r4, r5, r6, r7, h1, h2, h3, h4, h5, h6, h7⟩ := hreq.parse
  have hp : ¬ (s.authUser ≠ none ∧ s.authUser ≠ some user) := by
    rcases hpin with h | h <;> simp [h]
  rw [step_request sc sid s b e hact hsub hexp, parseUserauthRequest_eq sc sid s b e hauth h1 h2 h3,
    if_neg (not_not_intro hsvc), if_neg hp]
  simp only [authMethod, pk_ne_none, pk_ne_pw, if_false, h4, h5, h6, h7]
  cases e.keyCanon with
  | none => rfl
  | some key =>
    by_cases hf : e.rPubkey = AUTH_FAILED <;> cases attached <;>
      by_cases hv : sc.verify key (sessionBlob sid user service algo key) sig = true <;>
      simp [hf, hv]

/-- **Public key.** A publickey request authenticates only if the key was accepted by the key classes, the
application approved *this key for this username* (`check_auth_publickey` returned AUTH_SUCCESSFUL), a signature
is attached, and that signature verifies under this key over exactly this session's blob: session id, username,
service, algorithm, key. -/
theorem publickey_needs_valid_signature (s : St) (hact : s.active = true) (hsub : s.gssSub = false)
    (hexp : s.expected = []) (hauth : s.authenticated = false) (b user service algo keyblob sig : Bytes)
    (attached : Bool) (hreq : PubkeyRequest b user service algo keyblob sig attached)
    (hsvc : service = sSshConnection) (hpin : s.authUser = none ∨ s.authUser = some user) (e : Env)
    (h : msgSuccess ∈ (step sc sid s 50 b e).2.sent) :
    attached = true ∧ e.rPubkey = AUTH_SUCCESSFUL ∧
    ∃ key, e.keyCanon = some key ∧ sc.verify key (sessionBlob sid user service algo key) sig = true ∧
      Call.mk (.authPubkey user key) (some AUTH_SUCCESSFUL) ∈ (step sc sid s 50 b e).2.cbs := by
  rw [pubkey_step sc sid s hact hsub hexp hauth b user service algo keyblob sig attached hreq hsvc hpin e] at h ⊢
  cases hk : e.keyCanon with
  | none => rw [hk] at h; simp [perform, success_ne_disc] at h
  | some key =>
    rw [hk] at h
    simp only at h ⊢
    by_cases hf : e.rPubkey = AUTH_FAILED
    · simp only [hf, ne_eq, not_true_eq_false, if_false, perform, Out.pre] at h
      exact absurd ((sar_success _ e _ _).mp h) (by decide)
    · simp only [ne_eq, hf, not_false_eq_true, if_true] at h ⊢
      cases attached with
      | false => simp [perform] at h; exact absurd h.symm (plain_of_type (t := 60)).2
      | true =>
        simp only [Bool.not_true, Bool.false_eq_true, if_false] at h ⊢
        by_cases hv : sc.verify key (sessionBlob sid user service algo key) sig = true
        · simp only [hv, if_true, perform, Out.pre] at h ⊢
          have hr := (sar_success _ e _ _).mp h
          refine ⟨trivial, hr, key, rfl, hv, ?_⟩
          rw [hr]; simp
        · simp only [hv, perform, Out.pre] at h
          exact absurd ((sar_success _ e _ _).mp h) (by decide)

/-- **Probes.** A publickey request without a signature ("is this key acceptable?") never authenticates and
never sends USERAUTH_SUCCESS, whatever the application answers. -/
theorem key_probe_never_authenticates (s : St) (hact : s.active = true) (hsub : s.gssSub = false)
    (hexp : s.expected = []) (hauth : s.authenticated = false) (b user service algo keyblob sig : Bytes)
    (hreq : PubkeyRequest b user service algo keyblob sig false)
    (hsvc : service = sSshConnection) (hpin : s.authUser = none ∨ s.authUser = some user) (e : Env) :
    msgSuccess ∉ (step sc sid s 50 b e).2.sent ∧ (step sc sid s 50 b e).1.authenticated = false := by
  have hns : msgSuccess ∉ (step sc sid s 50 b e).2.sent := fun h =>
    Bool.noConfusion (publickey_needs_valid_signature sc sid s hact hsub hexp hauth b user service algo keyblob sig
      false hreq hsvc hpin e h).1
  exact ⟨hns, step_not_authenticated sc sid s 50 b e hauth hns⟩

/-! ## the session blob determines its five fields -/

/-- the five fields of a session blob -/
structure BlobFields where
  sid : Bytes
  user : Bytes
  service : Bytes
  algo : Bytes
  key : Bytes

def BlobFields.blob (f : BlobFields) : Bytes := sessionBlob f.sid f.user f.service f.algo f.key
def BlobFields.WF (f : BlobFields) : Prop :=
  f.sid.length < 4294967296 ∧ f.user.length < 4294967296 ∧ f.service.length < 4294967296 ∧
  f.algo.length < 4294967296 ∧ f.key.length < 4294967296

/-- **Injectivity of the signed data.** Two session blobs (built over the wire model, as
`AuthHandler._get_session_blob` builds them) are equal only if session id, username, service, algorithm and key
are all equal: changing any one field changes the signed data. -/
theorem blob_injective (f g : BlobFields) (hf : f.WF) (hg : g.WF) (h : f.blob = g.blob) : f = g := by
  obtain ⟨f1, f2, f3, f4, f5⟩ := f
  obtain ⟨g1, g2, g3, g4, g5⟩ := g
  obtain ⟨hf1, hf2, hf3, hf4, hf5⟩ := hf
  obtain ⟨hg1, hg2, hg3, hg4, hg5⟩ := hg
  simp only [BlobFields.blob, sessionBlob] at h hf1 hf2 hf3 hf4 hf5 hg1 hg2 hg3 hg4 hg5
  simp only [List.append_assoc] at h
  obtain ⟨e1, h⟩ := encStr_append_inj _ _ _ _ hf1 hg1 h
  simp only [List.cons_append, List.nil_append, List.cons.injEq, true_and] at h
  obtain ⟨e2, h⟩ := encStr_append_inj _ _ _ _ hf2 hg2 h
  obtain ⟨e3, h⟩ := encStr_append_inj _ _ _ _ hf3 hg3 h
  obtain ⟨_, h⟩ := encStr_append_inj _ _ _ _ (by decide +kernel) (by decide +kernel) h
  simp only [List.cons.injEq, true_and] at h
  obtain ⟨e4, h⟩ := encStr_append_inj _ _ _ _ hf4 hg4 h
  have h' : encStr f5 ++ [] = encStr g5 ++ [] := by simpa using h
  obtain ⟨e5, _⟩ := encStr_append_inj _ _ _ _ hf5 hg5 h'
  subst e1 e2 e3 e4 e5
  rfl

/-- **Replay.** Hypothesis on the signature scheme (unforgeability, stated symbolically): whatever verifies
under `key` was signed by the key's owner for exactly that data (`Signed key data sig`).  If the signature the
client presents was only ever made for a blob that differs from this session's in at least one of session id,
username, service, algorithm, key — a signature replayed from another session, or for another user, … — the
request does not authenticate. -/
theorem replayed_signature_rejected (Signed : Bytes → Bytes → Bytes → Prop)
    (unforgeable : ∀ k m sg, sc.verify k m sg = true → Signed k m sg)
    (s : St) (hact : s.active = true) (hsub : s.gssSub = false) (hexp : s.expected = [])
    (hauth : s.authenticated = false) (b user service algo keyblob sig : Bytes) (attached : Bool)
    (hreq : PubkeyRequest b user service algo keyblob sig attached)
    (hsvc : service = sSshConnection) (hpin : s.authUser = none ∨ s.authUser = some user) (e : Env)
    (key : Bytes) (hkey : e.keyCanon = some key)
    (orig : BlobFields) (horig : ∀ m, Signed key m sig → m = orig.blob) (hwf : orig.WF)
    (hthis : (BlobFields.mk sid user service algo key).WF)
    (hdiff : orig ≠ BlobFields.mk sid user service algo key) :
    msgSuccess ∉ (step sc sid s 50 b e).2.sent ∧ (step sc sid s 50 b e).1.authenticated = false := by
  have hns : msgSuccess ∉ (step sc sid s 50 b e).2.sent := by
    intro h
    obtain ⟨_, _, k, hk, hv, _⟩ := publickey_needs_valid_signature sc sid s hact hsub hexp hauth b user service algo
      keyblob sig attached hreq hsvc hpin e h
    rw [hkey] at hk
    have hkk : key = k := Option.some.inj hk
    subst hkk
    have := horig _ (unforgeable _ _ _ hv)
    exact hdiff (blob_injective _ _ hthis hwf this).symm
  exact ⟨hns, step_not_authenticated sc sid s 50 b e hauth hns⟩

/-! ## non-vacuity -/

/-- toy scheme: the "signature" of data `m` under key `k` is `k ++ m` -/
private def toySc : SigScheme := { verify := fun k m s => s == k ++ m }

/-- the toy scheme satisfies the unforgeability hypothesis with `Signed k m s := s = k ++ m` -/
example : ∀ k m sg, toySc.verify k m sg = true → sg = k ++ m := by
  intro k m sg h; simpa [toySc] using h

private def tKey : Bytes := [7, 7]
private def tSid : Bytes := [1, 2, 3]
private def pkReq (attached : Bool) (sig : Bytes) : Bytes :=
  encStr (str "alice") ++ encStr sSshConnection ++ encStr sPublickey ++ [if attached then 1 else 0] ++
    encStr (str "ssh-ed25519") ++ encStr tKey ++ encStr sig
private def goodSig : Bytes := tKey ++ sessionBlob tSid (str "alice") sSshConnection (str "ssh-ed25519") tKey
private def otherSessionSig : Bytes := tKey ++ sessionBlob [9, 9, 9] (str "alice") sSshConnection (str "ssh-ed25519") tKey
private def envOk : Env := { rPubkey := 0, keyCanon := some tKey }

-- approved key + signature over this session's blob: authenticated
example : (step toySc tSid init 50 (pkReq true goodSig) envOk).1.isAuthenticated = true ∧
    (step toySc tSid init 50 (pkReq true goodSig) envOk).2.sent = [msgSuccess] := by decide +kernel
-- the same signature made for another session id: rejected, counted as a failure
example : (step toySc tSid init 50 (pkReq true otherSessionSig) envOk).1.isAuthenticated = false ∧
    (step toySc tSid init 50 (pkReq true otherSessionSig) envOk).1.failCount = 1 := by decide +kernel
-- a probe of the approved key: PK_OK, not authenticated
example : (step toySc tSid init 50 (pkReq false []) envOk).1.isAuthenticated = false ∧
    (step toySc tSid init 50 (pkReq false []) envOk).2.sent = [msgPkOk (str "ssh-ed25519") tKey] := by
  decide +kernel
-- valid signature but the application rejects the key: not authenticated
example : (step toySc tSid init 50 (pkReq true goodSig) { envOk with rPubkey := 2 }).1.isAuthenticated = false := by
  decide +kernel
-- gssapi-keyex: good MIC but the application's check_auth_gssapi_keyex says no → not authenticated
example : (step toySc tSid init 50
      (encStr (str "alice") ++ encStr sSshConnection ++ encStr sGssKeyex ++ encStr (str "mic"))
      { gssEnabled := true, kexCtx := true, micOk := true, rGssKeyex := 2 }).1.isAuthenticated = false := by
  decide +kernel
-- … and yes → authenticated
example : (step toySc tSid init 50
      (encStr (str "alice") ++ encStr sSshConnection ++ encStr sGssKeyex ++ encStr (str "mic"))
      { gssEnabled := true, kexCtx := true, micOk := true, rGssKeyex := 0 }).1.isAuthenticated = true := by
  decide +kernel

end PV.Props.C14
