/-
  C35 — Signatures verify exactly when they are genuine, for every key object.
  Model: PV/Model/Sig.lean (helpers: PV/Model/SigLemmas.lean).

  What is proved (for every primitive scheme `S`, every key, all data and all signature bytes):
    * totality — `verify_ssh_sig` answers `True`/`False` and never raises (`*_verify_total`);
    * completeness — what `sign_ssh_data` produces verifies under the signing object and under every
      other object holding the same public key, whatever route built either of them
      (`*_sign_verify`, `*_routes`), given the primitive's own law `verify pk m (sign sk m)`;
    * exactness — `True` is answered iff the blob declares a known algorithm name and the primitive
      accepted exactly (public key, hash named by the declared algorithm, the data, the signature as
      carried) (`*_accept_iff`), hence under a symbolic unforgeability hypothesis only genuine
      signatures are accepted (`*_accept_genuine`).
  Not proved here (the primitive's): that the primitive rejects altered data/signatures/other keys.
  The four defects present before the `fix:` commits are kept as `legacy_*_witness`.
-/
import PV.Model.SigLemmas
namespace PV.Props.C35
open PV PV.Wire PV.Sig PV.KeyUtf8

/-! ## totality: verification never raises -/

/-- RSA.  `hrsa` = cryptography's RSA `verify` leaves only by returning or by `InvalidSignature`. -/
theorem rsa_verify_total (S : Scheme) (hrsa : ∀ pk h d s, S.rsaVerify pk h d s ≠ .valueError)
    (k : RsaKey S) (data blob : Bytes) : ∃ b, rsaVerifyBlob S k data blob = .ok b := by
  unfold rsaVerifyBlob
  rcases getText_cases { content := blob, pos := 0 } with hg | ⟨alg, r1, hg⟩ <;> rw [hg]
  · exact ⟨false, rfl⟩
  · dsimp only
    cases rsaAlg alg with
    | none => exact ⟨false, rfl⟩
    | some hw =>
      dsimp only
      cases hv : S.rsaVerify k.pubKey hw.1 data (rsaPad (S.rsaBits k.pubKey) (r1.getString).1) with
      | accept => exact ⟨true, rfl⟩
      | invalidSignature => exact ⟨false, rfl⟩
      | valueError => exact absurd hv (hrsa _ _ _ _)

example : ∃ b, rsaVerifyBlob toy (.pub (3, 1024)) [1, 2] [0, 0, 0, 1, 0xff] = .ok b :=
  rsa_verify_total toy (by intro pk h d s; simp only [toy]; split <;> simp) _ _ _

/-- ECDSA: whatever the primitive does (accept / InvalidSignature / ValueError), a Bool comes back. -/
theorem ec_verify_total (S : Scheme) (k : EcKey S) (data blob : Bytes) :
    ∃ b, ecVerifyBlob S k data blob = .ok b := by
  unfold ecVerifyBlob
  rcases getText_cases { content := blob, pos := 0 } with hg | ⟨alg, r1, hg⟩ <;> rw [hg]
  · exact ⟨false, rfl⟩
  · dsimp only
    split
    · exact ⟨false, rfl⟩
    · exact ⟨_, rfl⟩

/-- Ed25519, for every object the constructor can build (`WF`: at least one half present). -/
theorem ed_verify_total (S : Scheme) (k : EdKey S) (hk : k.WF) (data blob : Bytes) :
    ∃ b, edVerifyBlob S k data blob = .ok b := by
  have hvk : ∃ vk, k.verifyKey = .ok vk := by
    unfold EdKey.verifyKey
    cases hs : k.signing with
    | some sk => exact ⟨_, rfl⟩
    | none =>
      cases hv : k.verifying with
      | some pk => exact ⟨_, rfl⟩
      | none => unfold EdKey.WF at hk; simp [hs, hv] at hk
  obtain ⟨vk, hvk⟩ := hvk
  unfold edVerifyBlob
  rcases getText_cases { content := blob, pos := 0 } with hg | ⟨alg, r1, hg⟩ <;> rw [hg]
  · exact ⟨false, rfl⟩
  · dsimp only
    split
    · exact ⟨false, rfl⟩
    · rw [hvk]; exact ⟨_, rfl⟩

/-- every route of the statement builds a well-formed Ed25519 object -/
theorem ed_routes_wf (S : Scheme) (sk : S.EdSK) (r : Route) (k : EdKey S)
    (h : edOfRoute S sk r = some k) : k.WF := by
  cases r <;> simp [edOfRoute] at h <;> subst h <;> simp [EdKey.WF]

/-! ## completeness: genuine signatures verify, for every pair of construction routes -/

/-- the six names `RSAKey.HASHES` knows: (hash, name on the wire) per RFC 8332 -/
theorem rsa_hash_table :
    rsaAlg nSshRsa = some (.sha1, nSshRsa) ∧ rsaAlg (nSshRsa ++ certSuffix) = some (.sha1, nSshRsa) ∧
    rsaAlg nRsa256 = some (.sha256, nRsa256) ∧ rsaAlg (nRsa256 ++ certSuffix) = some (.sha256, nRsa256) ∧
    rsaAlg nRsa512 = some (.sha512, nRsa512) ∧ rsaAlg (nRsa512 ++ certSuffix) = some (.sha512, nRsa512) := by
  decide

/-- a name is known iff it is one of the six; the wire name is always one of the three plain ones
    and maps to the same hash -/
theorem rsaAlg_some (name : Bytes) (h : Hash) (w : Bytes) (hs : rsaAlg name = some (h, w)) :
    (name, h, w) ∈ rsaTable ∧ rsaAlg w = some (h, w) ∧ utf8Valid w = true ∧ w.length < 4294967296 := by
  unfold rsaAlg at hs
  cases hf : rsaTable.find? (fun e => e.1 == name) with
  | none => simp [hf] at hs
  | some e =>
    simp only [hf, Option.map_some, Option.some.injEq] at hs
    have hmem := List.mem_of_find?_eq_some hf
    have hname : e.1 = name := by
      have := List.find?_some hf
      simpa using this
    obtain ⟨n, h', w'⟩ := e
    simp only at hs hname
    cases hs
    subst hname
    refine ⟨hmem, ?_⟩
    simp only [rsaTable, List.mem_cons, Prod.mk.injEq, List.not_mem_nil, or_false] at hmem
    rcases hmem with ⟨_, rfl, rfl⟩ | ⟨_, rfl, rfl⟩ | ⟨_, rfl, rfl⟩ | ⟨_, rfl, rfl⟩ | ⟨_, rfl, rfl⟩ | ⟨_, rfl, rfl⟩ <;>
      decide

/-- RSA: a signature made by a private-key object verifies under every object with the same public
    key, for `algorithm=None` and for each of the six algorithm names. -/
theorem rsa_sign_verify (S : Scheme) (L : Laws S) (sk : S.RsaSK) (verifier : RsaKey S)
    (hv : verifier.pubKey = S.rsaPub sk) (data : Bytes) (alg : Option Bytes)
    (halg : (rsaAlg (alg.getD nSshRsa)).isSome = true) :
    ∃ blob, rsaSignBlob S (.priv sk) data alg = .ok blob ∧
      rsaVerifyBlob S verifier data blob = .ok true := by
  unfold rsaSignBlob
  cases ha : rsaAlg (alg.getD nSshRsa) with
  | none => simp [ha] at halg
  | some hw =>
    obtain ⟨h, w⟩ := hw
    obtain ⟨_, hw2, hwv, hwl⟩ := rsaAlg_some _ h w ha
    refine ⟨_, rfl, ?_⟩
    unfold rsaVerifyBlob
    rw [getText_head w _ hwl hwv]
    simp only [hw2]
    rw [getString_second w _ (L.rsa_len sk h data), hv]
    have hfull := L.rsa_full sk h data
    have hpad : rsaPad (S.rsaBits (S.rsaPub sk)) (S.rsaSign sk h data) = S.rsaSign sk h data := by
      unfold rsaPad
      have : ¬ S.rsaBits (S.rsaPub sk) > (S.rsaSign sk h data).length * 8 := by omega
      simp [this]
    simp only [hpad, L.rsa_ok]

/-- … in particular for every (signer route, verifier route) pair of the statement -/
theorem rsa_routes (S : Scheme) (L : Laws S) (sk : S.RsaSK) (rs rv : Route) (hs : rs ≠ .publicBytes)
    (data : Bytes) (alg : Option Bytes) (halg : (rsaAlg (alg.getD nSshRsa)).isSome = true) :
    ∃ blob, rsaSignBlob S (rsaOfRoute S sk rs) data alg = .ok blob ∧
      rsaVerifyBlob S (rsaOfRoute S sk rv) data blob = .ok true := by
  have hsig : rsaOfRoute S sk rs = .priv sk := by cases rs <;> simp_all [rsaOfRoute]
  rw [hsig]
  exact rsa_sign_verify S L sk _ (by cases rv <;> rfl) data alg halg

private theorem curve_name_ok (c : Curve) : utf8Valid c.name = true ∧ c.name.length < 4294967296 := by
  cases c <;> decide

/-- ECDSA (all three curves): signer holds the private key; verifier is any object on the same curve
    with the matching public key. -/
theorem ec_sign_verify (S : Scheme) (L : Laws S) (sk : S.EcSK) (signer verifier : EcKey S)
    (hs : signer.signing = some sk) (hc : verifier.curve = signer.curve)
    (hv : verifier.verifying = S.ecPub sk) (data : Bytes) :
    ∃ blob, ecSignBlob S signer data = .ok blob ∧ ecVerifyBlob S verifier data blob = .ok true := by
  unfold ecSignBlob
  rw [hs]
  refine ⟨_, rfl, ?_⟩
  obtain ⟨hnv, hnl⟩ := curve_name_ok signer.curve
  unfold ecVerifyBlob
  rw [getText_head _ _ hnl hnv]
  simp only [hc, ne_eq, not_true_eq_false, if_false]
  have hlen := L.ec_len sk signer.curve.hash data
  have hsl := sigEncode_length ((S.ecSign sk signer.curve.hash data).1 : Int) ((S.ecSign sk signer.curve.hash data).2 : Int)
  rw [getString_second signer.curve.name _ (by omega), sigDecode_sigEncode _ _ (by omega) (by omega), hv]
  simp only [L.ec_ok, caught]

theorem ec_routes (S : Scheme) (L : Laws S) (c : Curve) (sk : S.EcSK) (rs rv : Route)
    (hs : rs ≠ .publicBytes) (data : Bytes) :
    ∃ blob, ecSignBlob S (ecOfRoute S c sk rs) data = .ok blob ∧
      ecVerifyBlob S (ecOfRoute S c sk rv) data blob = .ok true := by
  apply ec_sign_verify S L sk
  · cases rs <;> simp_all [ecOfRoute]
  · cases rs <;> cases rv <;> rfl
  · cases rv <;> rfl

/-- Ed25519: signer holds a signing key; verifier is any object whose verify key is the matching
    public key — a key loaded from the same private file (only `_signing_key` set) included. -/
theorem ed_sign_verify (S : Scheme) (L : Laws S) (sk : S.EdSK) (signer verifier : EdKey S)
    (hs : signer.signing = some sk) (hv : verifier.verifyKey = .ok (S.edPub sk)) (data : Bytes) :
    ∃ blob, edSignBlob S signer data = .ok blob ∧ edVerifyBlob S verifier data blob = .ok true := by
  unfold edSignBlob
  rw [hs]
  refine ⟨_, rfl, ?_⟩
  unfold edVerifyBlob
  rw [getText_head nEd _ (by decide) (by decide)]
  simp only [ne_eq, not_true_eq_false, if_false, hv]
  rw [getString_second nEd _ (L.ed_len sk data)]
  simp only [L.ed_ok, caught]

theorem ed_routes (S : Scheme) (L : Laws S) (sk : S.EdSK) (rv : Route) (signer verifier : EdKey S)
    (hs : edOfRoute S sk .privateFile = some signer) (hv : edOfRoute S sk rv = some verifier)
    (data : Bytes) :
    ∃ blob, edSignBlob S signer data = .ok blob ∧ edVerifyBlob S verifier data blob = .ok true := by
  apply ed_sign_verify S L sk
  · simp [edOfRoute] at hs; subst hs; rfl
  · cases rv <;> simp [edOfRoute] at hv <;> subst hv <;> rfl

/-! ## the toy scheme satisfies the laws (the hypotheses above are satisfiable) -/

private theorem toyDigest_lt (seed : Nat) (b : Bytes) : toyDigest seed b < 4294967291 := by
  unfold toyDigest
  generalize hs : seed % 4294967291 = s0
  have h0 : s0 < 4294967291 := by omega
  clear hs
  induction b generalizing s0 with
  | nil => simpa using h0
  | cons x xs ih => simp only [List.foldl_cons]; exact ih _ (Nat.mod_lt _ (by decide))

theorem toy_laws : Laws toy where
  rsa_ok := by intro sk h d; simp [toy]
  rsa_full := by
    intro sk h d
    simp only [toy, toyRsaSig, beBytes_length]
    omega
  rsa_len := by
    intro sk h d
    simp only [toy, toyRsaSig, beBytes_length]
    omega
  ec_ok := by
    intro sk h d
    simp only [toy]
    have : ¬ (((toyEcSig (toyPub sk) h d).1 : Int) < 0 ∨ ((toyEcSig (toyPub sk) h d).2 : Int) < 0) := by omega
    simp [this]
  ec_len := by
    intro sk h d
    simp only [toy, toyEcSig]
    have h1 := toyDigest_lt (toyPub sk * 1000 + h.id) d
    have h2 := toyDigest_lt (toyPub sk * 1000 + 500 + h.id) d
    have a := deflate_length_nat (toyDigest (toyPub sk * 1000 + h.id) d + 1) 4 (by omega)
    have b := deflate_length_nat (toyDigest (toyPub sk * 1000 + 500 + h.id) d + 1) 4 (by omega)
    simp only [Int.natCast_add, Int.cast_ofNat_Int] at a b ⊢
    omega
  ed_ok := by intro sk d; simp [toy, toyEdSig]
  ed_len := by intro sk d; simp [toy, toyEdSig]

/-! non-vacuity: the laws hold for the toy scheme, so the completeness theorems apply to it -/

example : ∃ blob, rsaSignBlob toy (rsaOfRoute toy (5, 1024) .privateFile) [1, 2, 3] (some nRsa512) = .ok blob ∧
    rsaVerifyBlob toy (rsaOfRoute toy (5, 1024) .publicBytes) [1, 2, 3] blob = .ok true :=
  rsa_routes toy toy_laws (5, 1024) .privateFile .publicBytes (by decide) _ _ (by decide)

example : ∃ blob, ecSignBlob toy (ecOfRoute toy .p521 (9 : Nat) .generated) [7] = .ok blob ∧
    ecVerifyBlob toy (ecOfRoute toy .p521 (9 : Nat) .publicBytes) [7] blob = .ok true :=
  ec_routes toy toy_laws .p521 (9 : Nat) .generated .publicBytes (by decide) _

example : ∃ blob, edSignBlob toy ⟨some (4 : Nat), none⟩ [7] = .ok blob ∧
    edVerifyBlob toy ⟨some (4 : Nat), none⟩ [7] blob = .ok true :=
  ed_routes toy toy_laws (4 : Nat) .privateFile _ _ rfl rfl _

/-! ## exactness: `True` iff the primitive accepted exactly (pub, hash of declared algo, data, sig) -/

theorem rsa_accept_iff (S : Scheme) (k : RsaKey S) (data blob : Bytes) :
    rsaVerifyBlob S k data blob = .ok true ↔
      ∃ alg r1 h w, getText { content := blob, pos := 0 } = .ok (alg, r1) ∧ rsaAlg alg = some (h, w) ∧
        S.rsaVerify k.pubKey h data (rsaPad (S.rsaBits k.pubKey) (r1.getString).1) = .accept := by
  constructor
  · intro hacc
    unfold rsaVerifyBlob at hacc
    rcases getText_cases { content := blob, pos := 0 } with hg | ⟨alg, r1, hg⟩ <;> rw [hg] at hacc
    · cases hacc
    · dsimp only at hacc
      cases ha : rsaAlg alg with
      | none => rw [ha] at hacc; cases hacc
      | some hw =>
        obtain ⟨h, w⟩ := hw
        rw [ha] at hacc
        dsimp only at hacc
        cases hv : S.rsaVerify k.pubKey h data (rsaPad (S.rsaBits k.pubKey) (r1.getString).1) with
        | accept => exact ⟨alg, r1, h, w, hg, ha, hv⟩
        | _ => rw [hv] at hacc; cases hacc
  · rintro ⟨alg, r1, h, w, hg, ha, hv⟩
    unfold rsaVerifyBlob
    rw [hg]
    dsimp only
    rw [ha]
    dsimp only
    rw [hv]

theorem ec_accept_iff (S : Scheme) (k : EcKey S) (data blob : Bytes) :
    ecVerifyBlob S k data blob = .ok true ↔
      ∃ r1, getText { content := blob, pos := 0 } = .ok (k.curve.name, r1) ∧
        S.ecVerify k.verifying k.curve.hash data (sigDecode (r1.getString).1).1
          (sigDecode (r1.getString).1).2 = .accept := by
  unfold ecVerifyBlob
  rcases getText_cases { content := blob, pos := 0 } with hg | ⟨alg, r1, hg⟩ <;> rw [hg]
  · simp
  · dsimp only
    by_cases hn : alg = k.curve.name
    · subst hn
      cases hv : S.ecVerify k.verifying k.curve.hash data (sigDecode (r1.getString).1).1
          (sigDecode (r1.getString).1).2 <;> simp [caught, hv]
    · simp [hn]

theorem ed_accept_iff (S : Scheme) (k : EdKey S) (data blob : Bytes) :
    edVerifyBlob S k data blob = .ok true ↔
      ∃ r1 vk, getText { content := blob, pos := 0 } = .ok (nEd, r1) ∧ k.verifyKey = .ok vk ∧
        S.edVerify vk data (r1.getString).1 = .accept := by
  unfold edVerifyBlob
  rcases getText_cases { content := blob, pos := 0 } with hg | ⟨alg, r1, hg⟩ <;> rw [hg]
  · simp
  · dsimp only
    by_cases hn : alg = nEd
    · subst hn
      cases hk : k.verifyKey with
      | error e => simp
      | ok vk =>
        dsimp only
        cases hv : S.edVerify vk data (r1.getString).1 <;> simp [caught, hv]
    · simp [hn]

/-- the declared algorithm fixes the hash: a blob naming `rsa-sha2-512` is checked with SHA-512 … -/
theorem rsa_declared_hash (S : Scheme) (k : RsaKey S) (data blob alg : Bytes) (r1 : Rd) (h : Hash) (w : Bytes)
    (hg : getText { content := blob, pos := 0 } = .ok (alg, r1)) (ha : rsaAlg alg = some (h, w))
    (hacc : rsaVerifyBlob S k data blob = .ok true) :
    S.rsaVerify k.pubKey h data (rsaPad (S.rsaBits k.pubKey) (r1.getString).1) = .accept := by
  obtain ⟨alg', r1', h', w', hg', ha', hv⟩ := (rsa_accept_iff S k data blob).mp hacc
  rw [hg] at hg'
  cases hg'
  rw [ha] at ha'
  cases ha'
  exact hv

/-- Symbolic unforgeability lifted through the wrapper: if the primitive only accepts signatures
    the key owner made (`Genuine`), `verify_ssh_sig` only accepts blobs carrying such a signature
    for exactly this data and the hash its algorithm name declares. -/
theorem rsa_accept_genuine (S : Scheme) (Genuine : S.RsaPK → Hash → Bytes → Bytes → Prop)
    (huf : ∀ pk h d s, S.rsaVerify pk h d s = .accept → Genuine pk h d s)
    (k : RsaKey S) (data blob : Bytes) (hacc : rsaVerifyBlob S k data blob = .ok true) :
    ∃ alg r1 h w, getText { content := blob, pos := 0 } = .ok (alg, r1) ∧ rsaAlg alg = some (h, w) ∧
      Genuine k.pubKey h data (rsaPad (S.rsaBits k.pubKey) (r1.getString).1) := by
  obtain ⟨alg, r1, h, w, hg, ha, hv⟩ := (rsa_accept_iff S k data blob).mp hacc
  exact ⟨alg, r1, h, w, hg, ha, huf _ _ _ _ hv⟩

theorem ec_accept_genuine (S : Scheme) (Genuine : S.EcPK → Hash → Bytes → Int → Int → Prop)
    (huf : ∀ pk h d r s, S.ecVerify pk h d r s = .accept → Genuine pk h d r s)
    (k : EcKey S) (data blob : Bytes) (hacc : ecVerifyBlob S k data blob = .ok true) :
    ∃ r1, getText { content := blob, pos := 0 } = .ok (k.curve.name, r1) ∧
      Genuine k.verifying k.curve.hash data (sigDecode (r1.getString).1).1 (sigDecode (r1.getString).1).2 := by
  obtain ⟨r1, hg, hv⟩ := (ec_accept_iff S k data blob).mp hacc
  exact ⟨r1, hg, huf _ _ _ _ _ hv⟩

theorem ed_accept_genuine (S : Scheme) (Genuine : S.EdPK → Bytes → Bytes → Prop)
    (huf : ∀ pk d s, S.edVerify pk d s = .accept → Genuine pk d s)
    (k : EdKey S) (data blob : Bytes) (hacc : edVerifyBlob S k data blob = .ok true) :
    ∃ r1 vk, getText { content := blob, pos := 0 } = .ok (nEd, r1) ∧ k.verifyKey = .ok vk ∧
      Genuine vk data (r1.getString).1 := by
  obtain ⟨r1, vk, hg, hk, hv⟩ := (ed_accept_iff S k data blob).mp hacc
  exact ⟨r1, vk, hg, hk, huf _ _ _ hv⟩

/-- the toy scheme is (trivially) unforgeable in this symbolic sense w.r.t. "is the toy signature" -/
example : ∀ pk d s, toy.edVerify pk d s = .accept → s = toyEdSig pk d := by
  intro pk d s h
  simp only [toy] at h
  split at h
  · cases h
  · split at h
    · assumption
    · cases h

/-! ## the four defects repaired by `fix:` commits (behaviour of the code before them) -/

/-- a signature blob whose algorithm name is the single byte FF: every `verify_ssh_sig` raised
    `UnicodeDecodeError` out of its first `get_text()`; now all three answer `False` -/
theorem legacy_nonutf8_witness :
    Legacy.textGuard [0, 0, 0, 1, 0xff] = .error .unicodeDecodeError ∧
    rsaVerifyBlob toy (.pub (3, 1024)) [] [0, 0, 0, 1, 0xff] = .ok false ∧
    ecVerifyBlob toy ⟨.p256, none, (3 : Nat)⟩ [] [0, 0, 0, 1, 0xff] = .ok false ∧
    edVerifyBlob toy ⟨none, some (3 : Nat)⟩ [] [0, 0, 0, 1, 0xff] = .ok false := by
  decide

/-- `ecdsa-sha2-nistp256` signature whose `r` is the mpint `FF` (= -1): `ValueError` escaped -/
def ecNegBlob : Bytes := encStr nEc256 ++ encStr (encStr [0xff] ++ encStr [1])

theorem legacy_ecdsa_negative_witness :
    Legacy.ecVerifyBlob toy ⟨.p256, none, (3 : Nat)⟩ [] ecNegBlob = .error .valueError ∧
    ecVerifyBlob toy ⟨.p256, none, (3 : Nat)⟩ [] ecNegBlob = .ok false := by
  decide

/-- an `ssh-ed25519` signature of 63 bytes: nacl's `ValueError` escaped -/
def edShortBlob : Bytes := encStr nEd ++ encStr (zeros 63)

theorem legacy_ed25519_length_witness :
    Legacy.edVerifyBlob toy ⟨none, some (3 : Nat)⟩ [] edShortBlob = .error .valueError ∧
    edVerifyBlob toy ⟨none, some (3 : Nat)⟩ [] edShortBlob = .ok false := by
  decide

/-- an Ed25519 key loaded from a private key file (`_verifying_key is None`) could not verify even
    its own signature: `AttributeError`; now it answers `True` -/
theorem legacy_ed25519_private_file_witness :
    ∃ k blob, edOfRoute toy (4 : Nat) .privateFile = some k ∧ edSignBlob toy k [7] = .ok blob ∧
      Legacy.edVerifyBlob toy k [7] blob = .error .attributeError ∧
      edVerifyBlob toy k [7] blob = .ok true := by
  refine ⟨_, _, rfl, rfl, ?_, ?_⟩ <;> decide +kernel

end PV.Props.C35
