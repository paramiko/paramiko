/-
  C38 — Peer protocol violations surface as SSH exceptions, not internal errors.  (partial)

  Proved: whatever class of exception the packet reader, a kex engine or any message handler raises in
  the transport thread, for whatever peer bytes, every API that reports the failure hands the
  application an SSHException, EOFError or socket error — because the generic clause of `run()`
  converts everything else.  Not proved (validated by structured fuzzing only): that code running on
  the *caller's* thread never raises an internal error from peer data, and which inputs make which
  handler fail.
-/
import PV.Model.Surface
import PV.Generated.C38
namespace PV.Props.C38
open PV.Surface

/-- the generic clause of `run()` leaves only allowed classes to be stored -/
theorem runCatch_allowed (raised : Exc) : (runCatch true raised).allowed = true := by
  cases raised <;> rfl

/-- a reporting API hands on what is stored, or an SSHException of its own -/
theorem surface_cases (api : Api) (saved : Option Exc) :
    surface api saved = saved ∨ surface api saved = some .ssh := by
  cases api <;> rcases saved with _ | (_ | _ | _ | c) <;> simp [surface]

/-- no internal error class reaches the application through any reporting API, whatever was raised -/
theorem surfaced_is_allowed (api : Api) (raised : Exc) :
    ∀ e, observed true api raised = some e → e.allowed = true := by
  intro e h
  rcases surface_cases api (some (runCatch true raised)) with h' | h' <;>
    rw [observed, h'] at h <;> cases h
  · exact runCatch_allowed raised
  · rfl

/-- an API that must raise always has something allowed to raise, even with nothing stored -/
theorem nothing_stored_is_ssh (api : Api) (h : api ≠ .getException) :
    surface api none = some .ssh := by
  cases api <;> simp_all [surface]

/-- classes that are already allowed pass through unchanged (EOF stays EOF, socket errors stay) -/
theorem allowed_preserved (raised : Exc) (h : raised.allowed = true) :
    runCatch true raised = raised := by
  cases raised <;> simp_all [runCatch, Exc.allowed]

/-- the old generic clause stored the exception as it was: an internal class escaped -/
theorem old_run_leaks_internal_witness (c : Nat) :
    observed false .getException (.internal c) = some (.internal c) ∧
    (Exc.internal c).allowed = false := by
  simp [observed, surface, runCatch, Exc.allowed]

/-- every place in the transport layer that stores into `saved_exception` (table regenerated from the
source on every run) stores an SSHException-family object, an EOFError/socket error caught as such, or
None — so the run() ladder modelled above is the only way an exception class gets chosen -/
theorem all_writers_store_allowed : ∀ s ∈ PV.Generated.C38.sites, s.safe = true := by decide

/-- the blocking `auth_*` calls read `self.auth_handler` repeatedly on the caller's thread while the transport
thread may be ending: no code resets it to None once the object exists (table regenerated from the source) -/
theorem auth_handler_never_cleared : ∀ s ∈ PV.Generated.C38.handlerSites, s.safe = true := by decide

/-- `channel_events` is shared by the transport thread (reply handlers) and the threads inside `open_channel`: every
mutation of it lies inside a `self.lock` region, so a reply arriving while a caller gives up cannot make either thread
raise KeyError (table regenerated from the source) -/
theorem channel_events_mutated_under_lock : ∀ s ∈ PV.Generated.C38.channelEventMutations, s.safe = true := by decide

/-- the table is not empty and contains the run() ladder -/
theorem run_ladder_in_table :
    (PV.Generated.C38.sites.filter fun s => s.file == "transport.py" && s.func == "run").length = 4 := by
  decide

example : observed true .startClient (.internal 7) = some .ssh := by decide
example : observed true .authWait .eof = some .ssh := by decide

end PV.Props.C38
