/-
  C07 — Signatures must use the negotiated or declared signature algorithm.
  Property theorems only.  Model: PV/Model/SigAlgo.lean (the repaired code: `_check_sig_algorithm`
  is called by `Transport._verify_key` and by the server's publickey branch).

  Full statement, proved for every table of algorithms, every key, every library verdict
  (`rawVerify` is arbitrary) and every signature blob:
      accept → sigAlgo = stripCert negotiated ∧ negotiated ∈ enabled.
-/
import PV.Model.SigAlgo
namespace PV.Props.C07
open PV PV.Wire PV.SigAlgo

/-- a guard `if not c: <fail>` that was passed: `c` held and the rest produced the result -/
private theorem of_guard {α : Type} {c : Bool} {a b r : α} (h : (if ¬ c = true then a else b) = r)
    (ha : a ≠ r) : c = true ∧ b = r := by
  cases c
  · exact absurd h ha
  · exact ⟨rfl, h⟩

private theorem checkSigAlgorithm_iff {t : Name} {sig : Bytes} :
    checkSigAlgorithm t sig = true ↔ sigAlgoOf sig = stripCert t := by
  simp [checkSigAlgorithm]

private theorem mem_filterAlgos {defaults disabled : List Name} {a : Name} :
    a ∈ filterAlgos defaults disabled ↔ a ∈ defaults ∧ a ∉ disabled := by
  simp [filterAlgos]

/-! ## client: key exchange -/

/-- `_verify_key` returns normally only if the blob names the negotiated algorithm (certificate
    suffix stripped) and the key's own `verify_ssh_sig` accepted -/
theorem verifyKey_accept (P : Prims) (t : Name) (H hk sig : Bytes) (key : Key)
    (h : verifyKey P t H hk sig = .ok key) :
    sigAlgoOf sig = stripCert t ∧ verifySshSig P key H sig = true ∧
      ∃ cls, P.keyInfo t = some cls ∧ P.parseKey cls hk = .ok key := by
  unfold verifyKey at h
  cases hcls : P.keyInfo t with
  | none => rw [hcls] at h; cases h
  | some cls =>
  simp only [hcls] at h
  cases hk' : P.parseKey cls hk with
  | error e => rw [hk'] at h; cases h
  | ok k =>
  rw [hk'] at h
  obtain ⟨hc, h⟩ := of_guard h nofun
  obtain ⟨hv, h⟩ := of_guard h nofun
  cases h
  exact ⟨checkSigAlgorithm_iff.mp hc, hv, cls, rfl, hk'⟩

/-- what the client negotiated is one of ITS enabled host-key algorithms, offered by the server -/
theorem agreeClient_mem (pref sl : List Name) (t : Name) (h : agreeClient pref sl = some t) :
    t ∈ pref ∧ t ∈ sl := by
  have := List.mem_filter.mp (List.mem_of_mem_head? h)
  exact ⟨this.1, by simpa using this.2⟩

/-- every name in `preferred_keys` is enabled: not in `disabled_algorithms["keys"]`, and either a
    default name or the cert variant of a default name that is itself not disabled -/
theorem preferredKeys_enabled (defaults disabled : List Name) (t : Name)
    (h : t ∈ preferredKeys defaults disabled) :
    t ∉ disabled ∧ (t ∈ defaults ∨ ∃ b, b ∈ defaults ∧ b ∉ disabled ∧ t = b ++ certSuffix) := by
  unfold preferredKeys at h
  simp only [List.mem_append, List.mem_filter, List.mem_map] at h
  rcases h with h | ⟨⟨b, hb, rfl⟩, hd⟩
  · exact ⟨(mem_filterAlgos.mp h).2, .inl (mem_filterAlgos.mp h).1⟩
  · exact ⟨by simpa using hd, .inr ⟨b, (mem_filterAlgos.mp hb).1, (mem_filterAlgos.mp hb).2, rfl⟩⟩

/-- C07, client half, full strength: negotiation followed by `_verify_key` accepts only if the
    signature's algorithm is the negotiated one (cert suffix stripped) and the negotiated one is
    enabled (in `preferred_keys`, not disabled) and was offered by the server -/
theorem client_accept (P : Prims) (defaults disabled serverList : List Name) (H hk sig : Bytes)
    (t : Name) (key : Key) (h : clientKex P defaults disabled serverList H hk sig = .ok (t, key)) :
    sigAlgoOf sig = stripCert t ∧ t ∈ preferredKeys defaults disabled ∧ t ∉ disabled ∧ t ∈ serverList := by
  unfold clientKex at h
  cases ht : agreeClient (preferredKeys defaults disabled) serverList with
  | none => rw [ht] at h; cases h
  | some t' =>
  simp only [ht] at h
  cases hk' : verifyKey P t' H hk sig with
  | error e => rw [hk'] at h; cases h
  | ok k =>
  rw [hk'] at h
  cases h
  have hm := agreeClient_mem _ _ _ ht
  exact ⟨(verifyKey_accept P t H hk sig key hk').1, hm.1, (preferredKeys_enabled _ _ _ hm.1).1, hm.2⟩

/-! ## paramiko's own table: the algorithm NAMED BY THE SIGNATURE is an enabled one -/

theorem stripCert_defaults : ∀ b ∈ defaultKeys, stripCert b = b ∧ stripCert (b ++ certSuffix) = b := by
  decide +kernel

/-- with paramiko's seven host-key algorithms: whatever the server offers and sends, an accepted
    signature names one of the seven, and not one the client disabled — a disabled `ssh-rsa`
    (SHA-1) can not be substituted for a negotiated `rsa-sha2-512` -/
theorem client_accept_default (P : Prims) (disabled serverList : List Name) (H hk sig : Bytes)
    (t : Name) (key : Key) (h : clientKex P defaultKeys disabled serverList H hk sig = .ok (t, key)) :
    sigAlgoOf sig ∈ defaultKeys ∧ sigAlgoOf sig ∉ disabled := by
  obtain ⟨h1, h2, h3, _⟩ := client_accept P defaultKeys disabled serverList H hk sig t key h
  rcases (preferredKeys_enabled _ _ _ h2).2 with hd | ⟨b, hb, hbd, rfl⟩
  · rw [h1, (stripCert_defaults t hd).1]; exact ⟨hd, h3⟩
  · rw [h1, (stripCert_defaults b hb).2]; exact ⟨hb, hbd⟩

/-- RSA: the hash the library is asked to verify with is the NEGOTIATED algorithm's hash -/
theorem rsa_hash_is_negotiated (P : Prims) (t : Name) (H hk sig : Bytes) (key : Key)
    (h : verifyKey P t H hk sig = .ok key) (hr : key.cls = .rsa) :
    ∃ hash, P.rsaHashes (stripCert t) = some hash ∧ P.rawVerify key hash H (sigBodyOf sig) = true := by
  obtain ⟨h1, h2, _⟩ := verifyKey_accept P t H hk sig key h
  unfold verifySshSig at h2
  rw [hr, h1] at h2
  cases heq : P.rsaHashes (stripCert t) <;> rw [heq] at h2
  · cases h2
  · exact ⟨_, rfl, h2⟩

/-- ECDSA / Ed25519: the negotiated name (cert suffix stripped) is the key's own identifier —
    a P-384 key and signature are not accepted under a negotiated `ecdsa-sha2-nistp256` -/
theorem fixed_name_keys (P : Prims) (t : Name) (H hk sig : Bytes) (key : Key)
    (h : verifyKey P t H hk sig = .ok key) :
    (key.cls = .ecdsa → stripCert t = key.ident) ∧ (key.cls = .ed25519 → stripCert t = ed25519Name) := by
  obtain ⟨h1, h2, _⟩ := verifyKey_accept P t H hk sig key h
  unfold verifySshSig at h2
  rw [h1] at h2
  -- in both classes `verify_ssh_sig` first compares the blob's name with the one name the key answers to
  have fixed : ∀ {n : Name} {v : Bool}, (if stripCert t ≠ n then false else v) = true → stripCert t = n :=
    fun h => Classical.byContradiction fun hne => by rw [if_pos hne] at h; cases h
  exact ⟨fun hc => fixed (by rw [hc] at h2; exact h2), fun hc => fixed (by rw [hc] at h2; exact h2)⟩

/-! ## server: public-key authentication -/

/-- C07, server half, full strength: the request succeeds only if a signature is attached whose
    blob names the DECLARED algorithm (cert suffix stripped), that name is in `preferred_pubkeys`,
    the server's callback accepted the key and the key verified the signature -/
theorem server_accept (P : Prims) (pubkeys : List Name) (cb : Key → Bool) (algorithm : Name)
    (keyblob : Bytes) (sig : Option Bytes) (blob : Bytes)
    (h : authPublickey P pubkeys cb algorithm keyblob sig blob = .success) :
    ∃ sg key, sig = some sg ∧ sigAlgoOf sg = stripCert algorithm ∧ stripCert algorithm ∈ pubkeys ∧
      generateKeyFromRequest P pubkeys algorithm keyblob = some key ∧ cb key = true ∧
      verifySshSig P key blob sg = true := by
  unfold authPublickey at h
  cases hkey : generateKeyFromRequest P pubkeys algorithm keyblob with
  | none => rw [hkey] at h; cases h
  | some key =>
  rw [hkey] at h
  obtain ⟨hcb, h⟩ := of_guard h nofun
  cases sig with
  | none => cases h
  | some sg =>
  obtain ⟨hc, h⟩ := of_guard h nofun
  obtain ⟨hv, _⟩ := of_guard h nofun
  refine ⟨sg, key, rfl, checkSigAlgorithm_iff.mp hc, ?_, rfl, hcb, hv⟩
  -- a key is only built for an algorithm of `preferred_pubkeys`
  unfold generateKeyFromRequest at hkey
  exact Classical.byContradiction fun hin => by
    rw [if_pos (by simpa using hin)] at hkey; cases hkey

/-- with `preferred_pubkeys` = defaults minus `disabled_algorithms["pubkeys"]`: the signature's
    algorithm is a default one that is not disabled -/
theorem server_accept_enabled (P : Prims) (defaults disabled : List Name) (cb : Key → Bool)
    (algorithm : Name) (keyblob : Bytes) (sig : Option Bytes) (blob : Bytes)
    (h : authPublickey P (filterAlgos defaults disabled) cb algorithm keyblob sig blob = .success) :
    ∃ sg, sig = some sg ∧ sigAlgoOf sg = stripCert algorithm ∧ sigAlgoOf sg ∈ defaults ∧
      sigAlgoOf sg ∉ disabled := by
  obtain ⟨sg, _, h1, h2, h3, _⟩ := server_accept P _ cb algorithm keyblob sig blob h
  rw [← h2] at h3
  exact ⟨sg, h1, h2, mem_filterAlgos.mp h3⟩

/-- no signature attached: never a success (only the PK_OK probe answer) -/
theorem server_no_sig_no_success (P : Prims) (pubkeys : List Name) (cb : Key → Bool) (algorithm : Name)
    (keyblob blob : Bytes) : authPublickey P pubkeys cb algorithm keyblob none blob ≠ .success := by
  intro h
  obtain ⟨_, _, h1, _⟩ := server_accept P pubkeys cb algorithm keyblob none blob h
  cases h1

/-! ## sequences of requests on one connection: earlier queries never widen what is accepted -/

private theorem mem_truncate (l : List AuthOut) (o : AuthOut) (h : o ∈ truncateSession l) : o ∈ l := by
  induction l with
  | nil => cases h
  | cons a r ih =>
    unfold truncateSession at h
    split at h
    · exact List.mem_cons.mpr (.inl (List.mem_singleton.mp h))
    · exact List.mem_cons.mpr ((List.mem_cons.mp h).imp_right ih)

/-- any sequence of publickey requests (queries answered with PK_OK, failed attempts, signed
    requests naming other algorithms, …): if the connection gets authenticated, then SOME request
    of the sequence carried a signature whose blob names that very request's declared algorithm
    (cert suffix stripped), and that algorithm is in `preferred_pubkeys` -/
theorem session_success (pubkeys : List Name) (cb : Key → Bool) (reqs : List Req)
    (h : AuthOut.success ∈ authSession pubkeys cb reqs) :
    ∃ r ∈ reqs, ∃ sg, r.sig = some sg ∧ sigAlgoOf sg = stripCert r.algorithm ∧
      stripCert r.algorithm ∈ pubkeys := by
  obtain ⟨r, hr, hout⟩ := List.mem_map.mp (mem_truncate _ _ h)
  obtain ⟨sg, _, h1, h3, h4, _⟩ := server_accept r.P pubkeys cb r.algorithm r.keyblob r.sig r.blob hout
  exact ⟨r, hr, sg, h1, h3, h4⟩

/-- in particular with `preferred_pubkeys` = defaults minus disabled: the algorithm of the request
    that authenticated is not a disabled one, whatever was queried before -/
theorem session_success_enabled (defaults disabled : List Name) (cb : Key → Bool) (reqs : List Req)
    (h : AuthOut.success ∈ authSession (filterAlgos defaults disabled) cb reqs) :
    ∃ r ∈ reqs, ∃ sg, r.sig = some sg ∧ sigAlgoOf sg = stripCert r.algorithm ∧
      stripCert r.algorithm ∈ defaults ∧ stripCert r.algorithm ∉ disabled := by
  obtain ⟨r, hr, sg, h1, h2, h3⟩ := session_success _ cb reqs h
  exact ⟨r, hr, sg, h1, h2, mem_filterAlgos.mp h3⟩

/-! ## the comparison is necessary: the code without it accepted a SHA-1 signature under rsa-sha2-512 -/

private instance {ε α : Type} [DecidableEq ε] [DecidableEq α] : DecidableEq (Except ε α)
  | .ok x, .ok y => if h : x = y then isTrue (congrArg _ h) else isFalse (fun e => h (Except.ok.inj e))
  | .error x, .error y => if h : x = y then isTrue (congrArg _ h) else isFalse (fun e => h (Except.error.inj e))
  | .ok _, .error _ => isFalse (fun e => nomatch e)
  | .error _, .ok _ => isFalse (fun e => nomatch e)

private def rsa512 : Name := [114, 115, 97, 45, 115, 104, 97, 50, 45, 53, 49, 50]
private def sshRsa : Name := [115, 115, 104, 45, 114, 115, 97]
private def someKey : Key := { cls := .rsa, ident := sshRsa, pub := [1] }
/-- a library that holds the signature valid under SHA-1 only (hash id 1) -/
private def sha1Only : Prims :=
  { keyInfo := realKeyInfo, rsaHashes := realRsaHashes, parseKey := fun _ _ => .ok someKey,
    rawVerify := fun _ h _ _ => h == 1 }
private def sha1Sig : Bytes := encStr sshRsa ++ encStr [9, 9]

/-- before the repair: negotiated rsa-sha2-512, blob says ssh-rsa, SHA-1 signature — accepted -/
theorem unchecked_accepts_downgrade_witness :
    verifyKeyUnchecked sha1Only rsa512 [7] [8] sha1Sig = .ok someKey ∧ sigAlgoOf sha1Sig ≠ stripCert rsa512 := by
  decide +kernel

/-- after the repair the same input is refused -/
theorem checked_rejects_downgrade : verifyKey sha1Only rsa512 [7] [8] sha1Sig = .error .ssh := by
  decide +kernel

/-! ## non-vacuity: honest signatures are accepted on both paths (also in cert form) -/

private def goodPrims : Prims :=
  { keyInfo := realKeyInfo, rsaHashes := realRsaHashes, parseKey := fun _ _ => .ok someKey,
    rawVerify := fun _ h _ _ => h == 4 }
private def sha512Sig : Bytes := encStr rsa512 ++ encStr [9, 9]

example : clientKex goodPrims defaultKeys [sshRsa] [rsa512, sshRsa] [7] [8] sha512Sig = .ok (rsa512, someKey) := by
  decide +kernel
example : verifyKey goodPrims (rsa512 ++ certSuffix) [7] [8] sha512Sig = .ok someKey := by decide +kernel
example : authPublickey goodPrims (filterAlgos defaultKeys [sshRsa]) (fun _ => true) rsa512 [8] (some sha512Sig) [7]
    = .success := by decide +kernel
/-- declared rsa-sha2-512, SHA-1 `ssh-rsa` blob, a library that would accept it: refused -/
example : authPublickey sha1Only (filterAlgos defaultKeys []) (fun _ => true) rsa512 [8] (some sha1Sig) [7]
    = .failure := by decide +kernel
/-- a disabled algorithm cannot even be declared -/
example : authPublickey sha1Only (filterAlgos defaultKeys [sshRsa]) (fun _ => true) sshRsa [8] (some sha1Sig) [7]
    = .disconnect := by decide +kernel

/-- query with an enabled algorithm (PK_OK), then a signed request declaring the DISABLED ssh-rsa for the
    same key: the connection is dropped, not authenticated -/
example : authSession (filterAlgos defaultKeys [sshRsa]) (fun _ => true)
    [{ P := sha1Only, algorithm := rsa512, keyblob := [8], sig := none, blob := [7] },
     { P := sha1Only, algorithm := sshRsa, keyblob := [8], sig := some sha1Sig, blob := [7] }]
    = [.pkOk, .disconnect] := by decide +kernel

end PV.Props.C07
