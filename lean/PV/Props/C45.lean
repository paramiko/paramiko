/-
  C45 — Agent signing requests ask for the hash the caller requested.
  Model: PV/Model/Agent.lean; flag table and message numbers: PV/Generated/C45.lean
  (regenerated from paramiko/agent.py on every run, so the theorems are re-proved against the current source).
-/
import PV.Model.Agent
import PV.Base.WireLemmas
namespace PV.Props.C45
open PV PV.Wire PV.Agent

/-! ## flags: SHA-256 / SHA-512 exactly when asked for, zero otherwise -/

/-- **Flag rule**, for every algorithm argument (any string, or `None`). -/
theorem flag_rule (alg : Option String) :
    flagFor alg =
      if alg = some "rsa-sha2-256" ∨ alg = some "rsa-sha2-256-cert-v01@openssh.com" then 2
      else if alg = some "rsa-sha2-512" ∨ alg = some "rsa-sha2-512-cert-v01@openssh.com" then 4
      else 0 := by
  cases alg with
  | none => rfl
  | some a =>
    -- the table is searched front to back: one branch per entry, then the default
    simp only [flagFor, PV.Generated.C45.algorithmFlagMap, List.lookup, Option.some.injEq]
    split
    next h => simp [beq_iff_eq.1 h]
    split
    next h => simp [beq_iff_eq.1 h]
    split
    next h => simp [beq_iff_eq.1 h]
    split
    next h => simp [beq_iff_eq.1 h]
    next h1 _ h2 _ h3 _ h4 =>
      simp [beq_eq_false_iff_ne.1 h1, beq_eq_false_iff_ne.1 h2, beq_eq_false_iff_ne.1 h3, beq_eq_false_iff_ne.1 h4]

/-- the SHA-256 flag is sent exactly for the two rsa-sha2-256 names -/
theorem flag_sha256_iff (alg : Option String) :
    flagFor alg = 2 ↔ (alg = some "rsa-sha2-256" ∨ alg = some "rsa-sha2-256-cert-v01@openssh.com") := by
  rw [flag_rule]; split
  · simp [*]
  · split <;> simp [*]

/-- the SHA-512 flag is sent exactly for the two rsa-sha2-512 names -/
theorem flag_sha512_iff (alg : Option String) :
    flagFor alg = 4 ↔ (alg = some "rsa-sha2-512" ∨ alg = some "rsa-sha2-512-cert-v01@openssh.com") := by
  rw [flag_rule]; split
  · rename_i h
    rcases h with rfl | rfl <;> simp
  · split <;> simp [*]

/-- never "either is fine" (6), never anything but 0, 2, 4 -/
theorem flag_values (alg : Option String) : flagFor alg = 0 ∨ flagFor alg = 2 ∨ flagFor alg = 4 := by
  rw [flag_rule]; split
  · simp
  · split <;> simp

/-! ## request layout -/

/-- **Layout**: what is written to the agent socket is
`uint32 length ++ byte 13 ++ string(key.asbytes()) ++ string(data) ++ uint32 flags`, for every agent. -/
theorem request_layout (agent : Bytes → Conn) (k : Key) (data : Bytes) (alg : Option String) :
    (signSshData agent k data alg).1 =
      be32 (1 + (4 + k.asbytes.length) + (4 + data.length) + 4) ++
        ([13] ++ (be32 k.asbytes.length ++ k.asbytes) ++ (be32 data.length ++ data) ++ be32 (flagFor alg)) := by
  simp [signSshData, sendMessage, frame, signRequest, encodeAll, encode, encStr,
    PV.Generated.C45.signRequestType, be32]
  congr 1
  omega

/-- The request read back field by field (as an agent would) yields type 13, the key's public blob, the data
and the flags, and nothing else. -/
theorem request_parses_back (agent : Bytes → Conn) (k : Key) (data : Bytes) (alg : Option String)
    (hk : k.asbytes.length < 4294967296) (hd : data.length < 4294967296) :
    ∃ msg, (signSshData agent k data alg).1 = be32 msg.length ++ msg ∧
      decodeAll { content := msg, pos := 0 } [.byte, .str, .str, .u32]
        = ([.byte 13, .str k.asbytes, .str data, .u32 (flagFor alg)], { content := msg, pos := msg.length }) := by
  refine ⟨signRequest k data alg, by simp [signSshData, sendMessage, frame], ?_⟩
  have hflag : flagFor alg < 4294967296 := by
    rcases flag_values alg with h | h | h <;> omega
  have hwf : ∀ f ∈ [Field.byte 13, .str k.asbytes, .str data, .u32 (flagFor alg)], f.WF := by
    intro f hf
    simp only [List.mem_cons, List.not_mem_nil, or_false] at hf
    rcases hf with h | h | h | h <;> subst h <;> simp [Field.WF, hk, hd, hflag]
  have := decodeAll_at _ hwf (r := ⟨[] ++ encodeAll _ ++ [], ([] : Bytes).length⟩) (rest := [])
    (by rw [List.append_assoc, remainder_at])
  simpa [signRequest, PV.Generated.C45.signRequestType, Field.kind, adv] using this

/-! ## `_read_all`: fragmentation does not matter -/

private theorem recv_spec (c : Conn) (n : Nat) (h : ∀ m ∈ c.caps, 0 < m) :
    ∃ k, k ≤ n ∧ (0 < n → 0 < k) ∧
      recv c n = (c.data.take k, { data := c.data.drop k, caps := c.caps.tail }) ∧ ∀ m ∈ c.caps.tail, 0 < m := by
  have ht : ∀ m ∈ c.caps.tail, 0 < m := fun m hm => h m (List.mem_of_mem_tail hm)
  unfold recv
  cases hc : c.caps with
  | nil => exact ⟨n, Nat.le_refl _, id, rfl, by rw [hc] at ht; exact ht⟩
  | cons cap cs =>
    have := h cap (by rw [hc]; exact List.mem_cons_self)
    exact ⟨min n cap, Nat.min_le_left .., fun hn => by omega, rfl, by rw [hc] at ht; exact ht⟩

/-- the one-shot loop is the session's loop with the connection forgotten when it raises (the session keeps it, to
say what a failed request leaves for the next one) -/
private theorem readLoop_of_St (fuel wanted : Nat) (result : Bytes) (c : Conn) :
    readLoop fuel wanted result c =
      match readLoopSt fuel wanted result c with
      | (.ok b, c') => .ok (b, c')
      | (.error e, _) => .error e := by
  induction fuel generalizing result c with
  | zero =>
    unfold readLoop readLoopSt
    by_cases h1 : result.length < wanted
    · rw [if_pos h1, if_pos h1]
      by_cases h2 : result.length = 0
      · rw [if_pos h2, if_pos h2]
      · rw [if_neg h2, if_neg h2]
    · rw [if_neg h1, if_neg h1]
  | succ fuel ih =>
    unfold readLoop readLoopSt
    by_cases h1 : result.length < wanted
    · rw [if_pos h1, if_pos h1]
      by_cases h2 : result.length = 0
      · rw [if_pos h2, if_pos h2]
      · rw [if_neg h2, if_neg h2]
        simp only
        by_cases h3 : (recv c (wanted - result.length)).1.length = 0
        · rw [if_pos h3, if_pos h3]
        · rw [if_neg h3, if_neg h3]; exact ih _ _
    · rw [if_neg h1, if_neg h1]

private theorem readAll_of_St (wanted : Nat) (c : Conn) :
    readAll wanted c =
      match readAllSt wanted c with
      | (.ok b, c') => .ok (b, c')
      | (.error e, _) => .error e := by
  simp only [readAll, readAllSt]; exact readLoop_of_St _ _ _ _

/-- `_read_all` on a stream delivered in non-zero chunks: the next `wanted` bytes if that many come, else
"lost ssh-agent" with everything consumed -/
private theorem readLoopSt_spec (fuel wanted : Nat) (result d : Bytes) (caps : List Nat) (hcaps : ∀ m ∈ caps, 0 < m)
    (hle : result.length ≤ wanted) (hfuel : wanted ≤ result.length + fuel)
    (hr : result.length = 0 → wanted = 0 ∨ d = []) :
    ∃ caps', (∀ m ∈ caps', 0 < m) ∧
      ((∃ a b, d = a ++ b ∧ result.length + a.length = wanted ∧
          readLoopSt fuel wanted result { data := d, caps := caps } = (.ok (result ++ a), { data := b, caps := caps' })) ∨
       (result.length + d.length < wanted ∧
          readLoopSt fuel wanted result { data := d, caps := caps } = (.error .lostAgent, { data := [], caps := caps' }))) := by
  induction fuel generalizing result d caps with
  | zero =>
    refine ⟨caps, hcaps, .inl ⟨[], d, rfl, by simp; omega, ?_⟩⟩
    rw [readLoopSt, if_neg (by omega), List.append_nil]
  | succ fuel ih =>
    unfold readLoopSt
    by_cases hlt : result.length < wanted
    · rw [if_pos hlt]
      by_cases h0 : result.length = 0
      · rw [if_pos h0]
        have hd : d = [] := (hr h0).resolve_left (by omega)
        exact ⟨caps, hcaps, .inr ⟨by rw [hd]; simpa using hlt, by rw [hd]⟩⟩
      · rw [if_neg h0]
        obtain ⟨k, hkn, hk0, hrecv, hct⟩ := recv_spec { data := d, caps := caps } (wanted - result.length) hcaps
        have hk : 0 < k := hk0 (by omega)
        rw [hrecv]
        dsimp only
        by_cases he : (d.take k).length = 0
        · rw [if_pos he]
          have hd : d = [] := by
            cases d with
            | nil => rfl
            | cons x xs => rw [List.length_take] at he; simp at he; omega
          exact ⟨caps.tail, hct, .inr ⟨by rw [hd]; simpa using hlt, by rw [hd, List.drop_nil]⟩⟩
        · rw [if_neg he]
          have hlen : (d.take k).length ≤ k := by rw [List.length_take]; omega
          obtain ⟨caps', hc', hres⟩ := ih (result ++ d.take k) (d.drop k) caps.tail hct
            (by rw [List.length_append]; omega) (by rw [List.length_append]; omega)
            (fun h => by rw [List.length_append] at h; omega)
          refine ⟨caps', hc', ?_⟩
          rw [List.length_append] at hres
          rcases hres with ⟨a, b, hab, hl, e⟩ | ⟨hl, e⟩
          · refine .inl ⟨d.take k ++ a, b, ?_, by rw [List.length_append]; omega, ?_⟩
            · rw [List.append_assoc, ← hab, List.take_append_drop]
            · rw [e, List.append_assoc]
          · refine .inr ⟨?_, e⟩
            have := congrArg List.length (List.take_append_drop k d)
            rw [List.length_append] at this
            omega
    · rw [if_neg hlt]
      exact ⟨caps, hcaps, .inl ⟨[], d, rfl, by simp; omega, by rw [List.append_nil]⟩⟩

private theorem readAllSt_spec (wanted : Nat) (c : Conn) (h : ∀ m ∈ c.caps, 0 < m) :
    ∃ caps', (∀ m ∈ caps', 0 < m) ∧
      ((∃ a b, c.data = a ++ b ∧ a.length = wanted ∧
          readAllSt wanted c = (.ok a, { data := b, caps := caps' })) ∨
       (c.data.length < wanted ∧ readAllSt wanted c = (.error .lostAgent, { data := [], caps := caps' }))) := by
  obtain ⟨k, hkn, hk0, hrecv, hct⟩ := recv_spec c wanted h
  have hsplit := congrArg List.length (List.take_append_drop k c.data)
  rw [List.length_append] at hsplit
  have hlen : (c.data.take k).length ≤ k := by rw [List.length_take]; omega
  unfold readAllSt
  rw [hrecv]
  dsimp only
  obtain ⟨caps', hc', hres⟩ := readLoopSt_spec wanted wanted (c.data.take k) (c.data.drop k) c.caps.tail hct
    (by omega) (by omega) (fun h0 => by
      rcases Nat.eq_zero_or_pos wanted with hw | hw
      · exact .inl hw
      · have := hk0 hw
        refine .inr ?_
        cases hd : c.data with
        | nil => exact List.drop_nil
        | cons x xs => rw [hd, List.length_take] at h0; simp at h0; omega)
  refine ⟨caps', hc', ?_⟩
  rcases hres with ⟨a, b, hab, hl, e⟩ | ⟨hl, e⟩
  · exact .inl ⟨c.data.take k ++ a, b, by rw [List.append_assoc, ← hab, List.take_append_drop],
      by rw [List.length_append]; exact hl, e⟩
  · exact .inr ⟨by omega, e⟩

private theorem readAllSt_complete (x rest : Bytes) (caps : List Nat) (hcaps : ∀ n ∈ caps, 0 < n) :
    ∃ caps', (∀ n ∈ caps', 0 < n) ∧
      readAllSt x.length { data := x ++ rest, caps := caps } = (.ok x, { data := rest, caps := caps' }) := by
  obtain ⟨caps', hc', ⟨a, b, hab, hl, e⟩ | ⟨hl, _⟩⟩ := readAllSt_spec x.length { data := x ++ rest, caps := caps } hcaps
  · obtain ⟨rfl, rfl⟩ := List.append_inj hab hl.symm
    exact ⟨caps', hc', e⟩
  · rw [List.length_append] at hl; omega

/-- `_read_all(wanted)` returns exactly the next `wanted` bytes of the stream, however `recv` fragments it
(every chunk size ≥ 1). -/
theorem readAll_complete (x rest : Bytes) (caps : List Nat) (hcaps : ∀ n ∈ caps, 0 < n) :
    ∃ caps', (∀ n ∈ caps', 0 < n) ∧
      readAll x.length { data := x ++ rest, caps := caps } = .ok (x, { data := rest, caps := caps' }) := by
  obtain ⟨caps', hc', e⟩ := readAllSt_complete x rest caps hcaps
  exact ⟨caps', hc', by rw [readAll_of_St, e]⟩

private theorem readLoop_no_fuel (fuel wanted : Nat) (result : Bytes) (c : Conn)
    (h : wanted ≤ result.length + fuel) (hr : 0 < result.length ∨ wanted = 0) :
    readLoop fuel wanted result c ≠ .error .fuel := by
  induction fuel generalizing result c with
  | zero =>
    unfold readLoop
    have : ¬ result.length < wanted := by omega
    simp [this]
  | succ fuel ih =>
    unfold readLoop
    by_cases hlt : result.length < wanted
    · simp only [hlt, if_true]
      by_cases h0 : result.length = 0
      · simp [h0]
      · simp only [h0, if_false]
        split
        · simp
        · rename_i hext
          apply ih
          · have : 0 < (recv c (wanted - result.length)).1.length := by omega
            simp [List.length_append]; omega
          · left; simp [List.length_append]; omega
    · simp [hlt]

/-- the fuel of the loop model always suffices (the model's `fuel` error is unreachable) -/
theorem readAll_no_fuel (wanted : Nat) (c : Conn) : readAll wanted c ≠ .error .fuel := by
  simp only [readAll]
  by_cases h0 : (recv c wanted).1.length = 0
  · unfold readLoop
    by_cases hw : wanted = 0
    · simp [hw]
    · have : (recv c wanted).1.length < wanted := by omega
      cases wanted <;> simp_all
  · exact readLoop_no_fuel _ _ _ _ (by omega) (by left; omega)

/-! ## the reply -/

/-- For **every** agent behaviour (any bytes, any fragmentation, truncated or not): a signature is returned
only if a complete reply of type 14 arrived, and it is that reply's string field, unchanged. Every other
reply raises `SSHException`. -/
theorem sign_ok_iff (agent : Bytes → Conn) (k : Key) (data : Bytes) (alg : Option String) (sig : Bytes) :
    (signSshData agent k data alg).2 = .ok sig ↔
      ∃ rd, (sendMessage agent (signRequest k data alg)).2 = .ok (14, rd) ∧ sig = rd.getString.1 := by
  simp only [signSshData, PV.Generated.C45.signResponseType]
  cases h : (sendMessage agent (signRequest k data alg)).2 with
  | error e => simp
  | ok p =>
    obtain ⟨ptype, rd⟩ := p
    by_cases hp : ptype = 14
    · subst hp
      simp only [ne_eq, not_true_eq_false, if_false, Except.ok.injEq, Prod.mk.injEq, true_and]
      constructor
      · intro h1; exact ⟨rd, rfl, h1.symm⟩
      · rintro ⟨rd', h1, h2⟩; rw [h2, ← h1]
    · simp only [ne_eq, hp, not_false_eq_true, if_true, Except.ok.injEq, Prod.mk.injEq]
      constructor
      · intro h1; cases h1
      · rintro ⟨rd', h1, _⟩; exact h1.1.elim

/-- the result is never the model's `fuel` artefact: it is a signature or one of the two `SSHException`s -/
theorem sign_result_cases (agent : Bytes → Conn) (k : Key) (data : Bytes) (alg : Option String) :
    (∃ sig, (signSshData agent k data alg).2 = .ok sig) ∨
    (signSshData agent k data alg).2 = .error .lostAgent ∨
    (signSshData agent k data alg).2 = .error .cannotSign := by
  simp only [signSshData, sendMessage]
  cases h1 : readAll 4 (agent (frame (signRequest k data alg))) with
  | error e =>
    cases e with
    | fuel => exact absurd h1 (readAll_no_fuel _ _)
    | lostAgent => simp
    | cannotSign => simp
  | ok p =>
    obtain ⟨hdr, c1⟩ := p
    simp only
    cases h2 : readAll (beVal hdr) c1 with
    | error e =>
      cases e with
      | fuel => exact absurd h2 (readAll_no_fuel _ _)
      | lostAgent => simp
      | cannotSign => simp
    | ok q =>
      obtain ⟨body, c2⟩ := q
      simp only
      split <;> simp

/-- A well-framed reply `uint32 len ++ body`, delivered under any fragmentation: type 14 returns the
signature string unchanged (trailing bytes ignored); any other type — including the empty body — raises. -/
theorem well_framed_reply (agent : Bytes → Conn) (k : Key) (data : Bytes) (alg : Option String)
    (body tail : Bytes) (caps : List Nat) (hb : body.length < 4294967296) (hcaps : ∀ n ∈ caps, 0 < n)
    (hagent : agent (signSshData agent k data alg).1 = { data := be32 body.length ++ body ++ tail, caps := caps }) :
    (signSshData agent k data alg).2 =
      if (body.headD 0).toNat = 14 then .ok (Rd.getString { content := body, pos := min 1 body.length }).1
      else .error .cannotSign := by
  have hsent : (signSshData agent k data alg).1 = frame (signRequest k data alg) := by
    simp [signSshData, sendMessage]
  rw [hsent] at hagent
  simp only [signSshData, sendMessage, hagent]
  have h4 : (be32 body.length).length = 4 := by simp [be32]
  obtain ⟨caps1, hc1, hr1⟩ := readAll_complete (be32 body.length) (body ++ tail) caps hcaps
  rw [h4, ← List.append_assoc] at hr1
  rw [hr1]
  simp only [beVal_be32 body.length hb]
  obtain ⟨caps2, hc2, hr2⟩ := readAll_complete body tail caps1 hc1
  rw [hr2]
  simp only [PV.Generated.C45.signResponseType]
  cases body with
  | nil => simp [Rd.getBytes, zeros]
  | cons b bs =>
    have hg : Rd.getBytes { content := b :: bs, pos := 0 } 1 = ([b], { content := b :: bs, pos := 1 }) := by
      simp [Rd.getBytes]
    rw [hg]
    simp only [List.headD_cons, List.length_cons]
    have : min 1 (bs.length + 1) = 1 := by omega
    rw [this]
    by_cases hp : b.toNat = 14
    · simp [hp]
    · simp [hp]

/-- **Signature returned unchanged**: reply `14 ++ string(sig) ++ anything`, any fragmentation. -/
theorem signature_unchanged (agent : Bytes → Conn) (k : Key) (data : Bytes) (alg : Option String)
    (sig extra tail : Bytes) (caps : List Nat) (hs : sig.length < 4294967296)
    (hb : ([14] ++ encStr sig ++ extra).length < 4294967296) (hcaps : ∀ n ∈ caps, 0 < n)
    (hagent : agent (signSshData agent k data alg).1 =
      { data := be32 ([14] ++ encStr sig ++ extra).length ++ ([14] ++ encStr sig ++ extra) ++ tail, caps := caps }) :
    (signSshData agent k data alg).2 = .ok sig := by
  rw [well_framed_reply agent k data alg _ tail caps hb hcaps hagent]
  have h14 : (([14] ++ encStr sig ++ extra : Bytes).headD 0).toNat = 14 := by simp
  simp only [h14, if_true]
  have hmin : min 1 ([14] ++ encStr sig ++ extra : Bytes).length = 1 := by simp
  -- the reader stands behind the type byte, at the string
  rw [hmin, show Rd.getString ⟨[14] ++ encStr sig ++ extra, 1⟩ = _ from getString_exact [14] sig extra hs]

/-! ## several requests on one connection: no reply is ever attributed to another request -/

/-- one step on a live connection is the one-shot `sign_ssh_data` against "what was left over ++ this reply" -/
theorem signStep_fst (k : Key) (data : Bytes) (alg : Option String) (reply : Bytes) (caps : List Nat) (c : Conn) :
    (signStep k data alg reply caps c).1 =
      signSshData (fun _ => { data := c.data ++ reply, caps := c.caps ++ caps }) k data alg := by
  simp only [signStep, signSshData, sendMessage]
  rw [readAll_of_St]
  rcases h1 : readAllSt 4 { data := c.data ++ reply, caps := c.caps ++ caps } with ⟨r1, c1⟩
  cases r1 with
  | error e => rfl
  | ok hdr =>
    simp only
    rw [readAll_of_St]
    rcases h2 : readAllSt (beVal hdr) c1 with ⟨r2, c2⟩
    cases r2 with
    | error e => rfl
    | ok body =>
      simp only
      split <;> rfl

/-- a connection on which nothing is pending and whose `recv` never signals EOF while data is there -/
def Clean (c : Conn) : Prop := c.data = [] ∧ ∀ m ∈ c.caps, 0 < m

/-- **A lost-agent error leaves nothing behind.**  Whatever the agent sent (e.g. a length prefix announcing more than
it delivers, however large): if the request ends in `SSHException("lost ssh-agent")`, every byte of that reply has
been consumed — the next request on the same connection starts at its own reply. -/
theorem lost_leaves_nothing (k : Key) (data : Bytes) (alg : Option String) (reply : Bytes) (caps : List Nat)
    (c : Conn) (hc : ∀ m ∈ c.caps, 0 < m) (hcaps : ∀ m ∈ caps, 0 < m)
    (hlost : (signStep k data alg reply caps c).1.2 = .error .lostAgent) :
    Clean (signStep k data alg reply caps c).2 := by
  have h0 : ∀ m ∈ ({ data := c.data ++ reply, caps := c.caps ++ caps } : Conn).caps, 0 < m := by
    intro m hm
    simp only [List.mem_append] at hm
    rcases hm with hm | hm
    · exact hc m hm
    · exact hcaps m hm
  unfold signStep at hlost ⊢
  dsimp only at hlost ⊢
  -- each of the two reads either succeeds or drains the connection
  obtain ⟨caps1, p1, ⟨hdr, b1, _, _, e1⟩ | ⟨_, e1⟩⟩ := readAllSt_spec 4 _ h0 <;> rw [e1] at hlost ⊢
  · dsimp only at hlost ⊢
    obtain ⟨caps2, p2, ⟨body, b2, _, _, e2⟩ | ⟨_, e2⟩⟩ := readAllSt_spec (beVal hdr) { data := b1, caps := caps1 } p1 <;>
      rw [e2] at hlost ⊢
    · dsimp only at hlost
      split at hlost <;> cases hlost
    · exact ⟨rfl, p2⟩
  · exact ⟨rfl, p1⟩

/-- **A well-framed reply is consumed exactly.**  On a clean connection, a reply `uint32 len ++ body` under any
fragmentation yields the one-shot result for that reply and leaves the connection clean again. -/
theorem well_framed_step (k : Key) (data : Bytes) (alg : Option String) (body : Bytes) (caps : List Nat)
    (c : Conn) (hc : Clean c) (hb : body.length < 4294967296) (hcaps : ∀ m ∈ caps, 0 < m) :
    (signStep k data alg (be32 body.length ++ body) caps c).1.2 =
      (if (body.headD 0).toNat = 14 then .ok (Rd.getString { content := body, pos := min 1 body.length }).1
       else .error .cannotSign) ∧
    Clean (signStep k data alg (be32 body.length ++ body) caps c).2 := by
  obtain ⟨hd, hp⟩ := hc
  have h0 : ∀ m ∈ c.caps ++ caps, 0 < m := by
    intro m hm
    simp only [List.mem_append] at hm
    rcases hm with hm | hm
    · exact hp m hm
    · exact hcaps m hm
  constructor
  · rw [signStep_fst]
    have := well_framed_reply (fun _ => { data := c.data ++ (be32 body.length ++ body), caps := c.caps ++ caps })
      k data alg body [] (c.caps ++ caps) hb h0 (by simp [hd])
    exact this
  · unfold signStep
    simp only [hd, List.nil_append]
    have h4 : (be32 body.length).length = 4 := by simp [be32]
    obtain ⟨caps1, hc1, hr1⟩ := readAllSt_complete (be32 body.length) body (c.caps ++ caps) h0
    rw [h4] at hr1
    rw [hr1]
    simp only [beVal_be32 body.length hb]
    obtain ⟨caps2, hc2, hr2⟩ := readAllSt_complete body [] caps1 hc1
    rw [List.append_nil] at hr2
    rw [hr2]
    simp only
    split <;> exact ⟨rfl, hc2⟩

deriving instance DecidableEq for Except

/-- two requests on one connection: an oversized announcement (300000 bytes, 9 delivered — a forged type-14 frame)
raises "lost ssh-agent" and is drained; the next request gets its own reply, not the forged frame's bytes -/
example : (signSession ⟨[], []⟩
    [⟨⟨[9], none⟩, [1], none, [0, 4, 147, 224, 0, 0, 0, 5, 14, 0, 0, 0, 0], []⟩,
     ⟨⟨[9], none⟩, [2], none, [0, 0, 0, 6, 14, 0, 0, 0, 1, 77], [3, 3]⟩]).1.map (·.2)
    = [.error .lostAgent, .ok [77]] := by decide +kernel

/-! ## non-vacuity -/

def demoAgent (reply : Bytes) (caps : List Nat) : Bytes → Conn := fun _ => { data := reply, caps := caps }

example : signSshData (demoAgent [0,0,0,8, 14, 0,0,0,3, 1,2,3] [1,2,1,3]) ⟨[9,9], none⟩ [7] (some "rsa-sha2-512")
    = ([0,0,0,16, 13, 0,0,0,2, 9,9, 0,0,0,1, 7, 0,0,0,4], .ok [1,2,3]) := by decide +kernel
example : (signSshData (demoAgent [0,0,0,1, 5] []) ⟨[9,9], some [8]⟩ [7] (some "ssh-rsa"))
    = ([0,0,0,15, 13, 0,0,0,1, 8, 0,0,0,1, 7, 0,0,0,0], .error .cannotSign) := by decide +kernel
example : (signSshData (demoAgent [0,0,0,9, 14] []) ⟨[9], none⟩ [] none).2 = .error .lostAgent := by decide +kernel
example : flagFor (some "rsa-sha2-256-cert-v01@openssh.com") = 2 ∧ flagFor (some "RSA-SHA2-256") = 0 := by decide +kernel

end PV.Props.C45
