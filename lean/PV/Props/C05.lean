/-
  C05 — Algorithm negotiation picks the client's first mutually supported algorithm.
  Property theorems only.  Model: PV/Model/Negotiate.lean (helpers: NegotiateLemmas.lean);
  tables regenerated from paramiko/transport.py on every run: PV/Generated/C05.lean.
-/
import PV.Model.NegotiateLemmas
import PV.Generated.C05
namespace PV.Props.C05
open PV PV.Wire PV.Negotiate

/-- the agreed algorithms in wire order (client→server before server→client), role independent -/
structure View where
  kex : Name
  hostKey : Name
  encC2S : Name
  encS2C : Name
  macC2S : Name
  macS2C : Name
  compC2S : Name
  compS2C : Name
  deriving DecidableEq, Repr

/-- a transport's `local_*` is client→server on a client and server→client on a server -/
def view (server : Bool) (a : Agreed) : View :=
  if server then
    { kex := a.kex, hostKey := a.hostKey, encC2S := a.remoteCipher, encS2C := a.localCipher,
      macC2S := a.remoteMac, macS2C := a.localMac, compC2S := a.remoteComp, compS2C := a.localComp }
  else
    { kex := a.kex, hostKey := a.hostKey, encC2S := a.localCipher, encS2C := a.remoteCipher,
      macC2S := a.localMac, macS2C := a.remoteMac, compC2S := a.localComp, compS2C := a.remoteComp }

/-- eight optional choices → a full agreement, or nothing if any category has no choice -/
def allSome (k hk e1 e2 m1 m2 z1 z2 : Option Name) : Option View :=
  match k, hk, e1, e2, m1, m2, z1, z2 with
  | some k, some hk, some e1, some e2, some m1, some m2, some z1, some z2 =>
    some { kex := k, hostKey := hk, encC2S := e1, encS2C := e2, macC2S := m1, macS2C := m2,
           compC2S := z1, compS2C := z2 }
  | _, _, _, _, _, _, _, _ => none

/-- **Specification (RFC 4253 §7.1)** on the two KEXINITs: in every category the first name of the
    client's list that the server's list contains; markers are not kex algorithms. -/
def spec (kc ks : KexInit) : Option View :=
  allSome (firstCommon (stripMarkers kc.kex) (stripMarkers ks.kex)) (firstCommon kc.keys ks.keys)
    (firstCommon kc.cEnc ks.cEnc) (firstCommon kc.sEnc ks.sEnc)
    (firstCommon kc.cMac ks.cMac) (firstCommon kc.sMac ks.sMac)
    (firstCommon kc.cComp ks.cComp) (firstCommon kc.sComp ks.sComp)

/-- negotiation succeeds with the specified tuple, or fails with `IncompatiblePeer` -/
def outcome : Option View → Except Err View
  | some v => .ok v
  | none => .error .incompatible

/-- the host key algorithms a side accepts: a server only those it holds a key for -/
def ownKeys (s : Side) : List Name :=
  if s.serverMode then s.availableServerKeys else s.preferredKeys

private theorem allSome_eq_some {k hk e1 e2 m1 m2 z1 z2 : Option Name} {v : View}
    (h : allSome k hk e1 e2 m1 m2 z1 z2 = some v) :
    k = some v.kex ∧ hk = some v.hostKey ∧ e1 = some v.encC2S ∧ e2 = some v.encS2C ∧
    m1 = some v.macC2S ∧ m2 = some v.macS2C ∧ z1 = some v.compC2S ∧ z2 = some v.compS2C := by
  unfold allSome at h
  split at h
  · cases h; exact ⟨rfl, rfl, rfl, rfl, rfl, rfl, rfl, rfl⟩
  · cases h

private theorem allSome_eq_none {k hk e1 e2 m1 m2 z1 z2 : Option Name} :
    allSome k hk e1 e2 m1 m2 z1 z2 = none ↔
      (k = none ∨ hk = none ∨ e1 = none ∨ e2 = none ∨ m1 = none ∨ m2 = none ∨ z1 = none ∨ z2 = none) := by
  cases k; · simp [allSome]
  cases hk; · simp [allSome]
  cases e1; · simp [allSome]
  cases e2; · simp [allSome]
  cases m1; · simp [allSome]
  cases m2; · simp [allSome]
  cases z1; · simp [allSome]
  cases z2 <;> simp [allSome]

private theorem outcome_eq_ok {o : Option View} {v : View} : outcome o = .ok v ↔ o = some v := by
  cases o <;> simp [outcome]

private theorem view_kex (sv : Bool) (a : Agreed) : (view sv a).kex = a.kex := by cases sv <;> rfl

private theorem mem_ownKeys {s : Side} {a : Name} (h : a ∈ ownKeys s) :
    a ∈ s.preferredKeys ∧ (s.serverMode = true → a ∈ s.serverKeys) := by
  unfold ownKeys at h
  split at h
  · have := List.mem_filter.mp h
    exact ⟨this.1, fun _ => by simpa using this.2⟩
  · next hsm => exact ⟨h, fun e => absurd e hsm⟩

/-- the RFC choice in every category, between the lists a side accepts itself and a peer's lists -/
def chosen (s : Side) (kl : List Name) (p : KexInit) : Option View :=
  allSome (fc s.serverMode s.preferredKex kl) (fc s.serverMode (ownKeys s) p.keys)
    (fc s.serverMode s.preferredCiphers p.cEnc) (fc s.serverMode s.preferredCiphers p.sEnc)
    (fc s.serverMode s.preferredMacs p.cMac) (fc s.serverMode s.preferredMacs p.sMac)
    (fc s.serverMode s.preferredComp p.cComp) (fc s.serverMode s.preferredComp p.sComp)

/-- `negotiate` in closed form, for any configuration: `KeyError` if the chosen kex method is not in
    the table, else the eight choices or `IncompatiblePeer`.  (The server's `get_server_key() is None`
    test never fires: the host key was chosen among the keys it holds.) -/
private theorem negotiate_view (info : Info) (s : Side) (kl : List Name) (p : KexInit) (ext : Option Name) :
    (negotiate info s kl p ext).map (view s.serverMode) =
      if (fc s.serverMode s.preferredKex kl).any (fun k => !info.kex.contains k) then .error .keyError
      else outcome (chosen s kl p) := by
  have hsk : ∀ x, fc s.serverMode (ownKeys s) p.keys = some x →
      (s.serverMode && !s.serverKeys.contains x) = false := by
    intro x hx
    cases hsm : s.serverMode
    · rfl
    · simpa using (mem_ownKeys (fc_some hx).1).2 hsm
  unfold negotiate chosen
  unfold ownKeys at hsk ⊢
  generalize s.serverMode = sv at hsk ⊢
  -- one category after the other; every leaf is a computation
  cases sv <;>
    simp only [firstOr_agree, agree_len0, agree_headD, Bool.false_eq_true, if_false, if_true] at hsk ⊢
  · cases fc false s.preferredKex kl; · rfl
    rename_i kex
    dsimp only
    change _ = if (!info.kex.contains kex) = true then _ else _
    cases info.kex.contains kex; · rfl
    cases fc false s.preferredKeys p.keys; · rfl
    cases fc false s.preferredCiphers p.cEnc; · rfl
    cases fc false s.preferredCiphers p.sEnc; · rfl
    cases fc false s.preferredMacs p.cMac; · rfl
    cases fc false s.preferredMacs p.sMac; · rfl
    cases fc false s.preferredComp p.cComp; · rfl
    cases fc false s.preferredComp p.sComp <;> rfl
  · cases fc true s.preferredKex kl; · rfl
    rename_i kex
    dsimp only
    change _ = if (!info.kex.contains kex) = true then _ else _
    cases info.kex.contains kex; · rfl
    cases hhk : fc true s.availableServerKeys p.keys; · rfl
    rename_i hostKey
    simp only [hsk hostKey hhk]
    -- a server's local lists are the server→client ones: `negotiate` looks at each pair in the other order
    cases fc true s.preferredCiphers p.cEnc <;> cases fc true s.preferredCiphers p.sEnc <;> try rfl
    cases fc true s.preferredMacs p.cMac <;> cases fc true s.preferredMacs p.sMac <;> try rfl
    cases fc true s.preferredComp p.cComp <;> cases fc true s.preferredComp p.sComp <;> rfl

private theorem map_lift (s1 : Side) (b : Bool) (x : Except Err Agreed) :
    (match x with | .error e => (.error e : Except Err (Side × Agreed)) | .ok a => .ok (s1, a)).map
      (fun (r : Side × Agreed) => view b r.2) = x.map (view b) := by
  cases x <;> rfl

/-- **`_parse_kex_init` in closed form**, for any configuration, peer KEXINIT and sequence number.
    `follows_rfc` and `incompatible_iff` are this for a well-formed side that has sent its own KEXINIT: the two
    hypotheses rule out `KeyError` and make the accepted lists the advertised ones. -/
theorem parseKexInit_view (info : Info) (s : Side) (p : KexInit) (seqno : Nat) :
    (parseKexInit info s p seqno).map (fun r => view s.serverMode r.2) =
      if (scanMarkers s p.kex none s.agreedStrict).2 && !s.initialKexDone && seqno != 0 then
        .error .messageOrder
      else if (fc s.serverMode s.preferredKex (stripMarkers p.kex)).any (fun k => !info.kex.contains k) then
        .error .keyError
      else outcome (chosen s (stripMarkers p.kex) p) := by
  unfold parseKexInit
  simp only []
  split
  · rfl
  · exact (map_lift _ _ _).trans (negotiate_view info { s with agreedStrict := _ } _ p _)

private theorem parse_chosen {info : Info} {s s' : Side} {p : KexInit} {seqno : Nat} {a : Agreed}
    (h : parseKexInit info s p seqno = .ok (s', a)) :
    chosen s (stripMarkers p.kex) p = some (view s.serverMode a) := by
  have hv := parseKexInit_view info s p seqno
  rw [h] at hv
  split at hv
  · cases hv
  · split at hv
    · cases hv
    · exact outcome_eq_ok.mp hv.symm

/-- the pseudo-algorithms that follow the kex methods on the wire -/
def sentMarkers (s : Side) : List Name :=
  (if s.serverMode then [] else [extInfoC]) ++ if s.advertiseStrict then [strictMarker s.serverMode] else []

/-- the KEXINIT of a transport whose `_preferred_kex` needs no adjustment (any more) -/
def advertised (s : Side) : KexInit :=
  { kex := s.preferredKex ++ sentMarkers s, keys := ownKeys s,
    cEnc := s.preferredCiphers, sEnc := s.preferredCiphers, cMac := s.preferredMacs, sMac := s.preferredMacs,
    cComp := s.preferredComp, sComp := s.preferredComp }

private theorem mem_sentMarkers {s : Side} {a : Name} (h : a ∈ sentMarkers s) :
    a = extInfoC ∨ a = strictMarker s.serverMode := by
  unfold sentMarkers at h
  rcases List.mem_append.mp h with h | h
  · split at h
    · cases h
    · exact .inl (List.mem_singleton.mp h)
  · split at h
    · exact .inr (List.mem_singleton.mp h)
    · cases h

private theorem isMarker_of_sent {s : Side} {a : Name} (h : a ∈ sentMarkers s) : isMarker a = true := by
  rcases mem_sentMarkers h with rfl | rfl
  · exact isMarker_extInfoC
  · exact isMarker_strictMarker _

private theorem send_of_not_drop (info : Info) {s : Side} (hm : s.mustDropGex = false) :
    sendKexInit info s = .ok (s, advertised s) := by
  unfold sendKexInit advertised sentMarkers ownKeys
  rw [hm]
  cases hsm : s.serverMode <;> cases hst : s.advertiseStrict <;> simp [hsm, hst]

/-- a moduli-less server first drops the group-exchange methods from `_preferred_kex`; the lists sent are those
    of the state it leaves -/
private theorem send_spec {info : Info} {s s1 : Side} {k : KexInit} (h : sendKexInit info s = .ok (s1, k)) :
    s1 = { s with prefKex := if s.mustDropGex then s.prefKex.filter (fun k => !isGex k) else s.prefKex } ∧
    k = advertised s1 := by
  cases hm : s.mustDropGex
  · rw [send_of_not_drop info hm] at h
    cases h
    exact ⟨rfl, rfl⟩
  · have hsm : s.serverMode = true := by
      simp only [Side.mustDropGex, Bool.and_eq_true] at hm; exact hm.1.1
    unfold sendKexInit setKex at h
    rw [hm] at h
    simp only [if_true] at h
    split at h
    · cases h
    · next heq =>
      split at heq
      · cases heq
      · cases heq
        cases h
        refine ⟨rfl, ?_⟩
        unfold advertised sentMarkers ownKeys
        cases s.advertiseStrict <;> simp [hsm]

/-- a name of category `c`'s table (host keys: or the cert variant of one) -/
def inTable (info : Info) (c : Cat) (a : Name) : Prop :=
  a ∈ info.table c ∨ (c = .keys ∧ ∃ b ∈ info.keys, a = cert b)

private theorem preferred_inTable {info : Info} {s : Side} (hw : s.wf info = true) {c : Cat} {a : Name}
    (h : a ∈ s.preferred c) : inTable info c a := by
  have hw := Side.wf_iff.mp hw
  by_cases hc : c = .keys
  · subst hc
    rcases preferredKeys_sub h with h | ⟨b, hb, rfl⟩
    · exact .inl (hw .keys a h)
    · exact .inr ⟨rfl, b, hw .keys b hb, rfl⟩
  · rw [s.preferred_of_ne_keys hc] at h
    exact .inl (hw c a (mem_filterAlg.mp h).1)

private theorem preferred_nameOK {info : Info} {s : Side} (hi : infoOK info = true) (hw : s.wf info = true)
    {c : Cat} {a : Name} (h : a ∈ s.preferred c) : nameOK a = true := by
  rcases preferred_inTable hw h with h | ⟨_, b, hb, rfl⟩
  · exact (infoOK_iff.mp hi).1 c a h
  · exact (infoOK_iff.mp hi).2 b hb

private theorem wf_send {info : Info} {s s1 : Side} {k : KexInit} (hw : s.wf info = true)
    (h : sendKexInit info s = .ok (s1, k)) : s1.wf info = true := by
  obtain ⟨rfl, _⟩ := send_spec h
  refine Side.wf_iff.mpr fun c x hx => Side.wf_iff.mp hw c x ?_
  cases c
  case kex =>
    change x ∈ if _ then _ else _ at hx
    split at hx
    · exact (List.mem_filter.mp hx).1
    · exact hx
  all_goals exact hx

/-! ## the advertised lists are the accepted lists -/

/-- After `_send_kex_init` (any role, with or without moduli) the KEXINIT carries exactly the lists
    `_parse_kex_init` will accept, plus marker pseudo-algorithms in the kex list only.
    (Before the repair the kex list of a moduli-less server still held the group-exchange methods.) -/
theorem advertised_eq_accepted {info : Info} {s s1 : Side} {k : KexInit}
    (hi : infoOK info = true) (hw : s.wf info = true) (h : sendKexInit info s = .ok (s1, k)) :
    stripMarkers k.kex = s1.preferredKex ∧ k.keys = ownKeys s1 ∧
    k.cEnc = s1.preferredCiphers ∧ k.sEnc = s1.preferredCiphers ∧
    k.cMac = s1.preferredMacs ∧ k.sMac = s1.preferredMacs ∧
    k.cComp = s1.preferredComp ∧ k.sComp = s1.preferredComp := by
  have hw1 := wf_send hw h
  obtain ⟨_, rfl⟩ := send_spec h
  refine ⟨?_, rfl, rfl, rfl, rfl, rfl, rfl, rfl⟩
  have hnm : ∀ a ∈ s1.preferredKex, isMarker a = false :=
    fun a ha => (nameOK_iff.mp (preferred_nameOK hi hw1 (c := .kex) ha)).2.2
  have hm : stripMarkers (sentMarkers s1) = [] :=
    List.filter_eq_nil_iff.mpr fun a ha => by simp [isMarker_of_sent ha]
  show stripMarkers (s1.preferredKex ++ sentMarkers s1) = s1.preferredKex
  rw [stripMarkers_append, stripMarkers_id hnm, hm, List.append_nil]

/-- the strict-kex sequence check cannot fire: KEXINIT is the first packet, or this is a rekey -/
def SeqOK (s : Side) (seqno : Nat) : Prop := seqno = 0 ∨ s.initialKexDone = true

/-- **Main theorem (one side against any peer).**  Let a well-formed transport of either role send
    its KEXINIT `k`, then receive *any* KEXINIT `p` (unknown names, empty lists, duplicates, markers
    anywhere).  Then `_parse_kex_init` ends in exactly one of two ways: it agrees, in every
    category, on the first name of the client's list that the server's list contains (client's
    list = `k` for a client, `p` for a server), or it raises `IncompatiblePeer` — the latter exactly
    when some category has no common name. -/
theorem follows_rfc {info : Info} {s s1 : Side} {k : KexInit}
    (hi : infoOK info = true) (hw : s.wf info = true) (hsend : sendKexInit info s = .ok (s1, k))
    (p : KexInit) (seqno : Nat) (hseq : SeqOK s1 seqno) :
    (parseKexInit info s1 p seqno).map (fun r => view s1.serverMode r.2)
      = outcome (if s1.serverMode then spec p k else spec k p) := by
  have hw1 := Side.wf_iff.mp (wf_send hw hsend)
  obtain ⟨a1, a2, a3, a4, a5, a6, a7, a8⟩ := advertised_eq_accepted hi hw hsend
  have hcond : ((scanMarkers s1 p.kex none s1.agreedStrict).2 && !s1.initialKexDone && seqno != 0) = false := by
    rcases hseq with h | h <;> simp [h]
  have hkey : (fc s1.serverMode s1.preferredKex (stripMarkers p.kex)).any (fun k => !info.kex.contains k)
      = false := by
    cases hk : fc s1.serverMode s1.preferredKex (stripMarkers p.kex) with
    | none => rfl
    | some x =>
      have : x ∈ info.kex := hw1 .kex x (mem_filterAlg.mp (fc_some hk).1).1
      simpa using this
  rw [parseKexInit_view, hcond, hkey]
  refine congrArg outcome ?_
  unfold chosen spec
  rw [a1, a2, a3, a4, a5, a6, a7, a8]
  cases s1.serverMode <;> rfl

/-- `spec` fails exactly when some category has no common algorithm. -/
theorem spec_none_iff (kc ks : KexInit) :
    spec kc ks = none ↔
      (firstCommon (stripMarkers kc.kex) (stripMarkers ks.kex) = none ∨ firstCommon kc.keys ks.keys = none ∨
       firstCommon kc.cEnc ks.cEnc = none ∨ firstCommon kc.sEnc ks.sEnc = none ∨
       firstCommon kc.cMac ks.cMac = none ∨ firstCommon kc.sMac ks.sMac = none ∨
       firstCommon kc.cComp ks.cComp = none ∨ firstCommon kc.sComp ks.sComp = none) :=
  allSome_eq_none

/-- **`IncompatiblePeer` exactly when some category has no common algorithm** (and no other error
    is possible once the strict-kex sequence check is out of the way). -/
theorem incompatible_iff {info : Info} {s s1 : Side} {k : KexInit}
    (hi : infoOK info = true) (hw : s.wf info = true) (hsend : sendKexInit info s = .ok (s1, k))
    (p : KexInit) (seqno : Nat) (hseq : SeqOK s1 seqno) :
    (parseKexInit info s1 p seqno = .error .incompatible ↔
      (if s1.serverMode then spec p k else spec k p) = none) ∧
    (∀ e, parseKexInit info s1 p seqno = .error e → e = .incompatible) := by
  have h := follows_rfc hi hw hsend p seqno hseq
  generalize (if s1.serverMode then spec p k else spec k p) = o at h ⊢
  -- `h` leaves two cases: an error and no choice, or a result and a choice
  cases hx : parseKexInit info s1 p seqno <;> cases o <;> rw [hx] at h <;> cases h
  · exact ⟨⟨fun _ => rfl, fun _ => rfl⟩, fun e he => by cases he; rfl⟩
  · exact ⟨⟨fun h' => (nomatch h'), fun h' => (nomatch h')⟩, fun e he => (nomatch he)⟩

/-! ## two paramiko peers -/

/-- names on a well-formed side's KEXINIT: real names, or (kex list only) the two markers -/
private theorem sent_names {info : Info} {s s1 : Side} {k : KexInit}
    (hi : infoOK info = true) (hw : s.wf info = true) (h : sendKexInit info s = .ok (s1, k)) :
    (∀ a ∈ k.kex, (44 : UInt8) ∉ a) ∧ (∀ a ∈ stripMarkers k.kex, nameOK a = true) ∧
    (∀ a ∈ k.keys, nameOK a = true) ∧
    (∀ a ∈ k.cEnc, nameOK a = true) ∧ (∀ a ∈ k.sEnc, nameOK a = true) ∧
    (∀ a ∈ k.cMac, nameOK a = true) ∧ (∀ a ∈ k.sMac, nameOK a = true) ∧
    (∀ a ∈ k.cComp, nameOK a = true) ∧ (∀ a ∈ k.sComp, nameOK a = true) := by
  have ok : ∀ c, ∀ a ∈ s1.preferred c, nameOK a = true := fun c a => preferred_nameOK hi (wf_send hw h)
  obtain ⟨a1, _⟩ := advertised_eq_accepted hi hw h
  obtain ⟨_, rfl⟩ := send_spec h
  refine ⟨fun a ha => ?_, a1 ▸ ok .kex, fun a ha => ok .keys a (mem_ownKeys ha).1,
    ok .ciphers, ok .ciphers, ok .macs, ok .macs, ok .compression, ok .compression⟩
  rcases List.mem_append.mp ha with ha | ha
  · exact (nameOK_iff.mp (ok .kex a ha)).2.1
  · rcases mem_sentMarkers ha with rfl | rfl
    · decide
    · cases s1.serverMode <;> decide

/-- **Both peers agree.**  A well-formed paramiko client and a well-formed paramiko server that
    exchange their KEXINITs over the wire compute the same tuple — the RFC choice on the two lists
    as sent — or both raise `IncompatiblePeer`. -/
theorem peers_agree {info : Info} {c c1 s s1 : Side} {kc ks : KexInit}
    (hi : infoOK info = true) (hwc : c.wf info = true) (hws : s.wf info = true)
    (hc : c.serverMode = false) (hs : s.serverMode = true)
    (hsc : sendKexInit info c = .ok (c1, kc)) (hss : sendKexInit info s = .ok (s1, ks))
    (nc ns : Nat) (hqc : SeqOK c1 nc) (hqs : SeqOK s1 ns) :
    (parseKexInit info c1 ks.viaWire nc).map (fun r => view false r.2) = outcome (spec kc ks) ∧
    (parseKexInit info s1 kc.viaWire ns).map (fun r => view true r.2) = outcome (spec kc ks) := by
  have hc1 : c1.serverMode = false := by rw [(send_spec hsc).1]; exact hc
  have hs1 : s1.serverMode = true := by rw [(send_spec hss).1]; exact hs
  have h1 := follows_rfc hi hwc hsc ks.viaWire nc hqc
  have h2 := follows_rfc hi hws hss kc.viaWire ns hqs
  rw [hc1, if_neg Bool.false_ne_true] at h1
  rw [hs1, if_pos rfl] at h2
  obtain ⟨c0, c1', c2, c3, c4, c5, c6, c7, c8⟩ := sent_names hi hwc hsc
  obtain ⟨s0, s1', s2, s3, s4, s5, s6, s7, s8⟩ := sent_names hi hws hss
  have w1 := firstCommon_strip_viaWire c1' c0 s1' s0
  have w2 := firstCommon_viaWire c2 s2
  have w3 := firstCommon_viaWire c3 s3
  have w4 := firstCommon_viaWire c4 s4
  have w5 := firstCommon_viaWire c5 s5
  have w6 := firstCommon_viaWire c6 s6
  have w7 := firstCommon_viaWire c7 s7
  have w8 := firstCommon_viaWire c8 s8
  refine ⟨h1.trans (congrArg outcome ?_), h2.trans (congrArg outcome ?_)⟩
  · simp only [spec, KexInit.viaWire, w1.1, w2.1, w3.1, w4.1, w5.1, w6.1, w7.1, w8.1]
  · simp only [spec, KexInit.viaWire, w1.2, w2.2, w3.2, w4.2, w5.2, w6.2, w7.2, w8.2]

/-! ## never a disabled algorithm, never a marker (no well-formedness needed) -/

/-- Whatever holds of every name a side accepts in a category holds of what it agrees on there:
    each agreed name is the first-common choice from the side's own accepted list. -/
private theorem agreed_all {info : Info} {s s' : Side} {p : KexInit} {seqno : Nat} {a : Agreed}
    {P : Cat → Name → Prop} (hP : ∀ c, ∀ x ∈ s.preferred c, P c x)
    (h : parseKexInit info s p seqno = .ok (s', a)) :
    P .kex a.kex ∧ P .keys a.hostKey ∧ P .ciphers a.localCipher ∧ P .ciphers a.remoteCipher ∧
    P .macs a.localMac ∧ P .macs a.remoteMac ∧ P .compression a.localComp ∧ P .compression a.remoteComp := by
  obtain ⟨h1, h2, h3, h4, h5, h6, h7, h8⟩ := allSome_eq_some (parse_chosen h)
  have q1 := hP .kex _ (fc_some h1).1
  have q2 := hP .keys _ (mem_ownKeys (fc_some h2).1).1
  have q3 := hP .ciphers _ (fc_some h3).1
  have q4 := hP .ciphers _ (fc_some h4).1
  have q5 := hP .macs _ (fc_some h5).1
  have q6 := hP .macs _ (fc_some h6).1
  have q7 := hP .compression _ (fc_some h7).1
  have q8 := hP .compression _ (fc_some h8).1
  -- `view` lists client→server first; that is `local` on a client and `remote` on a server
  cases hsv : s.serverMode <;> rw [hsv] at q1 q2 q3 q4 q5 q6 q7 q8
  · exact ⟨q1, q2, q3, q4, q5, q6, q7, q8⟩
  · exact ⟨q1, q2, q4, q3, q6, q5, q8, q7⟩

/-- **Never a disabled algorithm.**  Whatever the configuration (well-formed or not) and whatever
    the peer sent: no agreed name is listed in the local `disabled_algorithms` of its category —
    including the `-cert-v01@openssh.com` host key variants. -/
theorem never_disabled {info : Info} {s s' : Side} {p : KexInit} {seqno : Nat} {a : Agreed}
    (h : parseKexInit info s p seqno = .ok (s', a)) :
    a.kex ∉ s.disKex ∧ a.hostKey ∉ s.disKeys ∧
    a.localCipher ∉ s.disCiphers ∧ a.remoteCipher ∉ s.disCiphers ∧
    a.localMac ∉ s.disMacs ∧ a.remoteMac ∉ s.disMacs ∧
    a.localComp ∉ s.disComp ∧ a.remoteComp ∉ s.disComp :=
  agreed_all (P := fun c x => x ∉ s.dis c) (fun _ _ => Side.not_dis_of_mem_preferred) h

/-- **Markers are never selected (kex).**  For every configuration and every peer KEXINIT, with
    `ext-info-*` / `kex-strict-*` names in any position and any number: the agreed kex algorithm is
    not a marker, and it is a name the peer really listed. -/
theorem kex_never_marker {info : Info} {s s' : Side} {p : KexInit} {seqno : Nat} {a : Agreed}
    (h : parseKexInit info s p seqno = .ok (s', a)) :
    isMarker a.kex = false ∧ a.kex ∈ p.kex ∧ a.kex ∈ s.preferredKex := by
  have h1 := (allSome_eq_some (parse_chosen h)).1
  rw [view_kex] at h1
  obtain ⟨ho, hp⟩ := fc_some h1
  exact ⟨(stripMarkers_mem.mp hp).2, (stripMarkers_mem.mp hp).1, ho⟩

/-- **No marker in any category** for a well-formed side: every agreed name is a real algorithm
    name of the tables (non-empty, comma-free, not `ext-info-*` / `kex-strict-*`). -/
theorem no_marker_selected {info : Info} {s s' : Side} {p : KexInit} {seqno : Nat} {a : Agreed}
    (hi : infoOK info = true) (hw : s.wf info = true) (h : parseKexInit info s p seqno = .ok (s', a)) :
    nameOK a.kex = true ∧ nameOK a.hostKey = true ∧ nameOK a.localCipher = true ∧
    nameOK a.remoteCipher = true ∧ nameOK a.localMac = true ∧ nameOK a.remoteMac = true ∧
    nameOK a.localComp = true ∧ nameOK a.remoteComp = true :=
  agreed_all (P := fun _ x => nameOK x = true) (fun _ _ => preferred_nameOK hi hw) h

/-- **Nothing disabled is even offered.**  Every name on a KEXINIT paramiko sends is absent from the
    local `disabled_algorithms` of its category; the only exceptions are the two marker
    pseudo-algorithms of the kex list (governed by `strict_kex`, not by `disabled_algorithms`). -/
theorem advertised_never_disabled {info : Info} {s s1 : Side} {k : KexInit}
    (h : sendKexInit info s = .ok (s1, k)) :
    (∀ a ∈ k.kex, a ∈ s.disKex → a = extInfoC ∨ a = strictMarker s.serverMode) ∧
    (∀ a ∈ k.keys, a ∉ s.disKeys) ∧
    (∀ a ∈ k.cEnc, a ∉ s.disCiphers) ∧ (∀ a ∈ k.sEnc, a ∉ s.disCiphers) ∧
    (∀ a ∈ k.cMac, a ∉ s.disMacs) ∧ (∀ a ∈ k.sMac, a ∉ s.disMacs) ∧
    (∀ a ∈ k.cComp, a ∉ s.disComp) ∧ (∀ a ∈ k.sComp, a ∉ s.disComp) := by
  obtain ⟨hs1, rfl⟩ := send_spec h
  -- the adjustment of `_preferred_kex` leaves the disabled sets alone
  have nd : ∀ c, ∀ a ∈ s1.preferred c, a ∉ s.dis c := fun c => by
    subst hs1; cases c <;> exact fun a => Side.not_dis_of_mem_preferred
  refine ⟨fun a ha hd => ?_, fun a ha => nd .keys a (mem_ownKeys ha).1,
    nd .ciphers, nd .ciphers, nd .macs, nd .macs, nd .compression, nd .compression⟩
  rcases List.mem_append.mp ha with ha | ha
  · exact absurd hd (nd .kex a ha)
  · rw [show s.serverMode = s1.serverMode by rw [hs1]]
    exact mem_sentMarkers ha

/-- **The adjustment is stable**: a second `_send_kex_init` (rekey) from the state the first one
    left changes nothing and advertises the same lists. -/
theorem send_idempotent {info : Info} {s s1 : Side} {k : KexInit}
    (h : sendKexInit info s = .ok (s1, k)) : sendKexInit info s1 = .ok (s1, k) := by
  obtain ⟨hs1, rfl⟩ := send_spec h
  refine send_of_not_drop info ?_
  cases hm : s.mustDropGex
  · rw [hs1, hm]; exact hm
  · -- no group-exchange method is left in `_preferred_kex`
    have : s1.preferredKex.filter isGex = [] := by
      rw [hs1, hm, List.filter_eq_nil_iff]
      intro a ha
      simpa using (List.mem_filter.mp (mem_filterAlg.mp ha).1).2
    simp [Side.mustDropGex, this]

/-! ## SecurityOptions assignments, including the ones that raise -/

/-- `ValueError` is raised exactly when the tuple holds a name outside the category's table, and a
    raising assignment leaves the transport exactly as it was (no half-updated state). -/
theorem setPref_raise (info : Info) (s : Side) (c : Cat) (x : List Name) :
    ((setPref info s c x).2 = true ↔ ∃ n ∈ x, n ∉ info.table c) ∧
    ((setPref info s c x).2 = true → (setPref info s c x).1 = s) := by
  rcases setPref_cases info s c x with ⟨hb, e⟩ | ⟨hg, e⟩ <;> rw [e]
  · exact ⟨⟨fun _ => hb, fun _ => rfl⟩, fun _ => rfl⟩
  · exact ⟨⟨fun h => (nomatch h), fun ⟨n, hn, hnt⟩ => absurd (hg n hn) hnt⟩, fun h => (nomatch h)⟩

/-- A successful assignment stores the tuple in its category and nowhere else. -/
theorem setPref_ok (info : Info) (s : Side) (c : Cat) (x : List Name)
    (h : (setPref info s c x).2 = false) :
    (setPref info s c x).1 = s.withPref c x ∧ (∀ n ∈ x, n ∈ info.table c) := by
  rcases setPref_cases info s c x with ⟨_, e⟩ | ⟨hg, e⟩ <;> rw [e] at h ⊢
  · cases h
  · exact ⟨rfl, hg⟩

/-- Every assignment — accepted or refused — keeps the invariant "preference lists only hold names
    of the tables". -/
theorem setPref_wf {info : Info} {s : Side} (hw : s.wf info = true) (c : Cat) (x : List Name) :
    (setPref info s c x).1.wf info = true := by
  rcases setPref_cases info s c x with ⟨_, e⟩ | ⟨hg, e⟩ <;> rw [e]
  · exact hw
  · refine Side.wf_iff.mpr fun c' y hy => ?_
    rw [pref_withPref] at hy
    split at hy
    · next e => exact e ▸ hg y hy
    · exact Side.wf_iff.mp hw c' y hy

/-- the model's kex setter used inside `_send_kex_init` is the same `_set` -/
theorem setKex_eq_setPref (info : Info) (s : Side) (x : List Name) :
    setKex info s x = if (setPref info s .kex x).2 then .error .valueError else .ok (setPref info s .kex x).1 := by
  rcases setPref_cases info s .kex x with ⟨hb, e⟩ | ⟨hg, e⟩ <;> rw [e]
  · exact if_pos (length_filter_not_contains_pos.mpr hb)
  · exact if_neg fun h => let ⟨n, hn, hnt⟩ := length_filter_not_contains_pos.mp h; hnt (hg n hn)

/-- `SecurityOptions.kex = x` keeps the well-formedness invariant (and refuses foreign names). -/
theorem setKex_wf {info : Info} {s s' : Side} {x : List Name} (hw : s.wf info = true)
    (h : setKex info s x = .ok s') : s'.wf info = true ∧ s'.prefKex = x := by
  rw [setKex_eq_setPref] at h
  split at h
  · cases h
  · next hr =>
    cases h
    refine ⟨setPref_wf hw .kex x, ?_⟩
    rw [(setPref_ok info s .kex x (by simpa using hr)).1]
    rfl

/-- **Only table names are ever agreed on.**  For a well-formed transport and any peer KEXINIT,
    every agreed algorithm is a name of the corresponding `*_info` table — in particular never a
    name whose assignment `SecurityOptions` refused, whatever the peer advertises. -/
theorem agreed_in_tables {info : Info} {s s' : Side} {p : KexInit} {seqno : Nat} {a : Agreed}
    (hw : s.wf info = true) (h : parseKexInit info s p seqno = .ok (s', a)) :
    inTable info .kex a.kex ∧ inTable info .keys a.hostKey ∧
    inTable info .ciphers a.localCipher ∧ inTable info .ciphers a.remoteCipher ∧
    inTable info .macs a.localMac ∧ inTable info .macs a.remoteMac ∧
    inTable info .compression a.localComp ∧ inTable info .compression a.remoteComp :=
  agreed_all (fun _ _ => preferred_inTable hw) h

/-- **Only table names are ever advertised** (plus the two markers in the kex list). -/
theorem advertised_in_tables {info : Info} {s s1 : Side} {k : KexInit}
    (hi : infoOK info = true) (hw : s.wf info = true) (h : sendKexInit info s = .ok (s1, k)) :
    (∀ a ∈ stripMarkers k.kex, inTable info .kex a) ∧ (∀ a ∈ k.keys, inTable info .keys a) ∧
    (∀ a ∈ k.cEnc, inTable info .ciphers a) ∧ (∀ a ∈ k.sEnc, inTable info .ciphers a) ∧
    (∀ a ∈ k.cMac, inTable info .macs a) ∧ (∀ a ∈ k.sMac, inTable info .macs a) ∧
    (∀ a ∈ k.cComp, inTable info .compression a) ∧ (∀ a ∈ k.sComp, inTable info .compression a) := by
  have it : ∀ c, ∀ a ∈ s1.preferred c, inTable info c a := fun c a => preferred_inTable (wf_send hw h)
  obtain ⟨a1, a2, a3, a4, a5, a6, a7, a8⟩ := advertised_eq_accepted hi hw h
  rw [a1, a2, a3, a4, a5, a6, a7, a8]
  exact ⟨it .kex, fun a ha => it .keys a (mem_ownKeys ha).1, it .ciphers, it .ciphers, it .macs, it .macs,
    it .compression, it .compression⟩

/-! ## histories on one transport: reads, `disabled_algorithms` changes, assignments, (re)negotiation -/

/-- Reading `preferred_*` / `get_security_options()` never changes what the transport will do:
    a history with its reads removed ends in the same state. -/
theorem reads_are_noops (info : Info) (s : Side) (ops : List Op) :
    applyOps info s ops = applyOps info s (ops.filter fun o => !o.isRead) := by
  induction ops generalizing s with
  | nil => rfl
  | cons op rest ih =>
    cases op with
    | read c => exact ih s
    | setPref c x => exact ih _
    | setDisabled c x => exact ih _

/-- every history keeps the transport well-formed -/
theorem wf_after_ops {info : Info} (ops : List Op) {s : Side} (hw : s.wf info = true) :
    (applyOps info s ops).wf info = true := by
  refine applyOps_induction (P := fun t => t.wf info = true) (fun t op h => ?_) ops s hw
  cases op with
  | read c => exact h
  | setPref c x => exact setPref_wf h c x
  | setDisabled c x => cases c <;> exact h

/-- **All histories of assignments**: whatever sequence of `SecurityOptions` assignments an
    application performs (any categories, any tuples, any number refused and caught), the
    transport stays well-formed — so every theorem of this file applies to it. -/
theorem wf_after_setters {info : Info} (ops : List (Cat × List Name)) {s : Side} (hw : s.wf info = true) :
    (applySetters info s ops).wf info = true := by
  rw [applySetters_eq_applyOps]
  exact wf_after_ops _ hw

/-- The offered lists are a pure function of (preferences, disabled sets) *at that moment*:
    `preferred_<c>` = the current preference list minus the currently disabled names (host keys: plus
    the non-disabled cert variants) — whatever was read, assigned or disabled earlier. -/
theorem preferred_pure (s : Side) (c : Cat) :
    (∀ a ∈ s.preferred c, a ∉ s.dis c) ∧
    (c ≠ .keys → s.preferred c = filterAlg (s.pref c) (s.dis c)) ∧
    (∀ a, a ∈ s.pref c → a ∉ s.dis c → a ∈ s.preferred c) :=
  ⟨fun _ => Side.not_dis_of_mem_preferred, s.preferred_of_ne_keys, fun _ => Side.mem_preferred⟩

/-- **History independence.**  Two histories on a transport that end with the same preference lists
    and the same disabled sets advertise the same KEXINIT and negotiate identically with every peer
    (initial kex or rekey) — earlier reads, earlier `disabled_algorithms` values and refused
    assignments leave no trace. -/
theorem history_independent (info : Info) (s : Side) (h1 h2 : List Op)
    (hp : ∀ c, (applyOps info s h1).pref c = (applyOps info s h2).pref c)
    (hd : ∀ c, (applyOps info s h1).dis c = (applyOps info s h2).dis c) :
    applyOps info s h1 = applyOps info s h2 :=
  Side.ext_cat hp hd ((fixed_applyOps info s h1).trans (fixed_applyOps info s h2).symm)

/-- **Nothing disabled at the time of the negotiation is offered or agreed** — after any history of
    reads, `disabled_algorithms` changes and assignments, for the initial key exchange and for every
    re-negotiation (`s` may itself be the state a previous negotiation left), against any peer. -/
theorem history_never_disabled {info : Info} (s : Side) (ops : List Op) {s1 s2 : Side} {k p : KexInit}
    {seqno : Nat} {a : Agreed}
    (hsend : sendKexInit info (applyOps info s ops) = .ok (s1, k))
    (hparse : parseKexInit info s1 p seqno = .ok (s2, a)) :
    let now := applyOps info s ops
    (∀ x ∈ k.kex, x ∈ now.disKex → x = extInfoC ∨ x = strictMarker now.serverMode) ∧
    (∀ x ∈ k.keys, x ∉ now.disKeys) ∧
    (∀ x ∈ k.cEnc, x ∉ now.disCiphers) ∧ (∀ x ∈ k.sEnc, x ∉ now.disCiphers) ∧
    (∀ x ∈ k.cMac, x ∉ now.disMacs) ∧ (∀ x ∈ k.sMac, x ∉ now.disMacs) ∧
    (∀ x ∈ k.cComp, x ∉ now.disComp) ∧ (∀ x ∈ k.sComp, x ∉ now.disComp) ∧
    a.kex ∉ now.disKex ∧ a.hostKey ∉ now.disKeys ∧
    a.localCipher ∉ now.disCiphers ∧ a.remoteCipher ∉ now.disCiphers ∧
    a.localMac ∉ now.disMacs ∧ a.remoteMac ∉ now.disMacs ∧
    a.localComp ∉ now.disComp ∧ a.remoteComp ∉ now.disComp := by
  intro now
  obtain ⟨q1, q2, q3, q4, q5, q6, q7, q8⟩ := advertised_never_disabled hsend
  -- `s1` differs from `now` in `_preferred_kex` only
  obtain ⟨rfl, _⟩ := send_spec hsend
  have r := never_disabled hparse
  exact ⟨q1, q2, q3, q4, q5, q6, q7, q8, r⟩

/-! ## the tables of the source (regenerated on every run) -/

/-- every name of `_kex_info`, `_key_info` (and its cert variant), `_cipher_info`, `_mac_info`,
    `_compression_info` is non-empty, comma-free and not a marker pseudo-algorithm -/
theorem generated_info_ok : infoOK PV.Generated.C05.info = true := by decide +kernel

/-- a transport with the class-level preference tuples, no disabled algorithms -/
def defaultSide (server : Bool) (serverKeys : List Name) (hasModuli : Bool) : Side :=
  { serverMode := server, prefKex := PV.Generated.C05.preferredKex, prefKeys := PV.Generated.C05.preferredKeys,
    prefCiphers := PV.Generated.C05.preferredCiphers, prefMacs := PV.Generated.C05.preferredMacs,
    prefComp := PV.Generated.C05.preferredCompression,
    disKex := [], disKeys := [], disCiphers := [], disMacs := [], disComp := [],
    serverKeys := serverKeys, hasModuli := hasModuli, advertiseStrict := true, agreedStrict := false,
    initialKexDone := false }

/-- the class-level preference tuples (also with the GSS kex names prepended, `gss_kex=True`) only
    hold names of the tables: the default configuration is well-formed -/
theorem default_wf (server : Bool) (serverKeys : List Name) (hasModuli : Bool) :
    (defaultSide server serverKeys hasModuli).wf PV.Generated.C05.info = true ∧
    ({ defaultSide server serverKeys hasModuli with
        prefKex := PV.Generated.C05.preferredGssKex ++ PV.Generated.C05.preferredKex } : Side).wf
      PV.Generated.C05.info = true := by
  -- well-formedness only looks at the preference lists
  change (defaultSide false [] false).wf _ = true ∧
    ({ defaultSide false [] false with
        prefKex := PV.Generated.C05.preferredGssKex ++ PV.Generated.C05.preferredKex } : Side).wf _ = true
  decide +kernel

/-! ## the repaired defect, and non-vacuity -/

/-- `"diffie-hellman-group-exchange-sha256"` -/
def gex256 : Name := gexPrefix ++ [50, 53, 54]
/-- `"ssh-ed25519"` -/
def ed25519 : Name := [115, 115, 104, 45, 101, 100, 50, 53, 53, 49, 57]

/-- a client that prefers group exchange -/
def gexFirstClient : Side :=
  { defaultSide false [] false with
    prefKex := gex256 :: PV.Generated.C05.preferredKex.filter (fun n => n != gex256) }

/-- a server with one host key, default preferences and **no moduli file** -/
def modulilessServer : Side := defaultSide true [ed25519] false

/-- `_send_kex_init` as it was before commit 857cd48: the kex list is built *before* the
    group-exchange methods are dropped from `_preferred_kex` (kept only for the witness below). -/
def sendKexInitStale (info : Info) (s : Side) : Except Err (Side × KexInit) :=
  match sendKexInit info s with
  | .error e => .error e
  | .ok (s1, k) =>
    let kexAlgos := if s.serverMode then s.preferredKex else s.preferredKex ++ [extInfoC]
    .ok (s1, { k with kex := if s1.advertiseStrict then kexAlgos ++ [strictMarker s1.serverMode] else kexAlgos })

private def bothViews (send : Info → Side → Except Err (Side × KexInit)) : Option (Except Err View × Except Err View) :=
  match sendKexInit PV.Generated.C05.info gexFirstClient, send PV.Generated.C05.info modulilessServer with
  | .ok (c1, kc), .ok (s1, ks) =>
    some ((parseKexInit PV.Generated.C05.info c1 ks.viaWire 0).map (fun r => view false r.2),
          (parseKexInit PV.Generated.C05.info s1 kc.viaWire 0).map (fun r => view true r.2))
  | _, _ => none

/-- **Witness of the repaired defect**: with the old ordering the moduli-less server advertised
    group exchange, the client chose it, the server chose something else — the peers disagreed. -/
theorem stale_advertisement_witness :
    (match bothViews sendKexInitStale with
     | some (.ok vc, .ok vs) => vc.kex == gex256 && vs.kex != gex256
     | _ => false) = true := by decide +kernel

/-- non-vacuity of `peers_agree` on the same pair with the repaired `_send_kex_init`: both sides
    succeed, agree, and the agreed method is neither group exchange nor a marker -/
example :
    (match bothViews sendKexInit with
     | some (.ok vc, .ok vs) => vc == vs && vc.kex != gex256 && !isMarker vc.kex
     | _ => false) = true := by decide +kernel

example : gexFirstClient.wf PV.Generated.C05.info = true ∧ modulilessServer.wf PV.Generated.C05.info = true := by
  decide +kernel

private def noCipherClient : Side :=
  { defaultSide false [] false with disCiphers := PV.Generated.C05.preferredCiphers }

/-- non-vacuity of `incompatible_iff`: a client with every cipher disabled is refused by both peers -/
example :
    (match sendKexInit PV.Generated.C05.info noCipherClient,
           sendKexInit PV.Generated.C05.info modulilessServer with
     | .ok (c1, kc), .ok (s1, ks) =>
       (match parseKexInit PV.Generated.C05.info c1 ks.viaWire 0, parseKexInit PV.Generated.C05.info s1 kc.viaWire 0 with
        | .error .incompatible, .error .incompatible => true
        | _, _ => false)
     | _, _ => false) = true := by decide +kernel

private def markerPeer : KexInit :=
  { kex := [strictMarker true, extInfoC, strictMarker true, gex256, extInfoC],
    keys := [ed25519], cEnc := PV.Generated.C05.preferredCiphers,
    sEnc := PV.Generated.C05.preferredCiphers, cMac := PV.Generated.C05.preferredMacs,
    sMac := PV.Generated.C05.preferredMacs, cComp := PV.Generated.C05.preferredCompression,
    sComp := PV.Generated.C05.preferredCompression }

/-- non-vacuity of `kex_never_marker`: a peer that lists markers first, in the middle and twice -/
example :
    (match parseKexInit PV.Generated.C05.info gexFirstClient markerPeer 0 with
     | .ok (s', a) => a.kex == gex256 && s'.agreedStrict && a.remoteExtInfo == some extInfoC
     | .error _ => false) = true := by decide +kernel

end PV.Props.C05
