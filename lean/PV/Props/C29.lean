/-
  C29 — SFTP bulk transfers are exact or fail loudly.
  Models: PV/Model/SftpClient.lean (client request/response bookkeeping for write traffic, FIFO server answering
  every request once with a write-fault plan), PV/Model/SftpGet.lean (get/getfo without prefetch),
  PV/Model/Prefetch.lean (getfo with prefetch).  Proofs: PV/Model/SftpClientInv.lean (the bookkeeping invariant),
  SftpClientPut.lean (client's writes against the server's file), SftpGetLemmas.lean, PrefetchInv.lean and
  PrefetchSeq.lean (sequential reads chain up to the file).

  Ghost counter `badSince[f]`: number of *pipelined* writes of file `f` the server has rejected since the last
  exception an operation on `f` raised (incremented by the server step `serveSlot`, reset by `resetBad` when a
  write / close / set_pipelined on `f` raises).
-/
import PV.Model.SftpClientPut
import PV.Model.SftpGetLemmas
import PV.Model.PrefetchSeq
import PV.Generated.C28
namespace PV.Props.C29
open PV PV.SftpClient

/-- **A rejected pipelined write surfaces no later than close().**  After *any* program (pipelined and plain
    writes on any files, other requests, set_pipelined, closes, the server running at any time — `Op.serve`), any
    write-fault plan and any fault plan for the other requests: if `close()` of a still-open file returns normally,
    then no pipelined write of that file has been rejected since the last exception raised on it. -/
theorem rejected_pipelined_write_surfaces_by_close (maxReq nfiles : Nat) (wfaults sfaults : List Nat)
    (ops : List Op) (hops : ∀ op ∈ ops, OpOK nfiles op) (f : Nat) (hf : f < nfiles)
    (hopen : (getFile (runOps (init maxReq nfiles wfaults sfaults) ops).1 f).closed = false)
    (hok : (stepOp (runOps (init maxReq nfiles wfaults sfaults) ops).1 (.close f)).2 = .ok) :
    (stepOp (runOps (init maxReq nfiles wfaults sfaults) ops).1 (.close f)).1.badSince.getD f 0 = 0 := by
  obtain ⟨_, hg, hlen⟩ := runOps_init_good maxReq nfiles wfaults sfaults ops hops
  obtain ⟨_, hz⟩ := closeFile_good hg (hlen ▸ hf)
  simp only [stepOp] at hok ⊢
  rw [hok]
  exact (hz hopen hok).1

/-- **The client never waits for ever** (the client half of C30, proved on the same model): whatever mix of
    pipelined writes, plain writes, other requests, set_pipelined and closes the application issues, on any number
    of files, with the server answering whenever it likes — as long as it answers every request once, in order —
    no call ends in `hang` (= reading from the wire with nothing outstanding). -/
theorem client_never_hangs (maxReq nfiles : Nat) (wfaults sfaults : List Nat) (ops : List Op)
    (hops : ∀ op ∈ ops, OpOK nfiles op) :
    ∀ r ∈ (runOps (init maxReq nfiles wfaults sfaults) ops).2, r ≠ .hang :=
  (runOps_init_good maxReq nfiles wfaults sfaults ops hops).1

/-- the bookkeeping invariant holds after every program: every expected response is still on the wire, every
    request on the wire is expected by its owner, request numbers are unique, every outstanding pipelined write is
    listed in its file's `_reqs`, and a rejected pipelined write is either still unread or saved in its file. -/
theorem bookkeeping_invariant (maxReq nfiles : Nat) (wfaults sfaults : List Nat) (ops : List Op)
    (hops : ∀ op ∈ ops, OpOK nfiles op) : Good none none (runOps (init maxReq nfiles wfaults sfaults) ops).1 :=
  (runOps_init_good maxReq nfiles wfaults sfaults ops hops).2.1

/-! ## destination bytes (server side) -/

/-- what the server's file holds after a list of accepted positional writes -/
def applyWrites (c : Bytes) : List (Nat × Bytes) → Bytes
  | [] => c
  | (off, d) :: rest => applyWrites (writeAt c off d) rest

/-- the write requests `putfo` issues for the chunks it read: consecutive offsets -/
def contiguous (base : Nat) : List Bytes → List (Nat × Bytes)
  | [] => []
  | d :: rest => (base, d) :: contiguous (base + d.length) rest

/-- Accepted writes reproduce the source (server side, on its own): for every way of cutting the source into chunks
    (local short reads included), writing the chunks at consecutive offsets into the truncated file yields the
    chunks' concatenation. -/
theorem accepted_writes_reproduce_source (c : Bytes) (chunks : List Bytes) :
    applyWrites c (contiguous c.length chunks) = c ++ chunks.flatten := by
  induction chunks generalizing c with
  | nil => simp [applyWrites, contiguous]
  | cons d rest ih =>
    simp only [contiguous, applyWrites, List.flatten_cons]
    rw [writeAt_end]
    have := ih (c ++ d)
    rw [List.length_append] at this
    rw [this, List.append_assoc]

/-! ## the composition: put / putfo -/

/-- **put/putfo returned normally ⇒ destination bytes = source bytes.**
    `putfo` is: open for writing (empty file), `set_pipelined(True)`, one `write` per chunk read from the source (any
    chunking, empty chunks included), `close()`; the server answers whenever it likes (`Op.serve` anywhere in the
    body, and forced whenever the client waits).  Requests travel in FIFO order on the one channel and the server
    applies accepted writes in arrival order (`wire`).  For every write-fault plan, every plan for other requests,
    every request-size limit > 0, any number of other open files: if every call up to and including `close()`
    returned normally, the server's file holds exactly the concatenation of the chunks.
    The `file_size` argument of putfo does not occur in the model: in the code it is handed to the callback only, the
    loop ends when the source's read() returns nothing — so the theorem holds for every value of it (0, exact, too
    small, too large).
    (`put` is `putfo` over the local file; the optional `confirm` stat afterwards sends no write and can only raise.) -/
theorem putfo_normal_return_implies_destination_equals_source (maxReq nfiles : Nat) (hm : 0 < maxReq)
    (wfaults sfaults : List Nat) (f : Nat) (hf : f < nfiles) (body : List Op) (hbody : ∀ op ∈ body, PutOp f op)
    (hok : ∀ r ∈ (runOps (init maxReq nfiles wfaults sfaults) (.setPipelined f true :: (body ++ [.close f]))).2, r = .ok) :
    (runOps (init maxReq nfiles wfaults sfaults) (.setPipelined f true :: (body ++ [.close f]))).1.dest.getD f []
      = written body := by
  -- after set_pipelined(True)
  have hg0 := init_good maxReq nfiles wfaults sfaults
  have hlen0 : (init maxReq nfiles wfaults sfaults).files.length = nfiles := by simp [init]
  simp only [runOps] at hok ⊢
  obtain ⟨_, g1, g2, g3⟩ := stepOp_good (op := .setPipelined f true) hg0 (by rw [hlen0]; exact hf)
  have hs1 : (stepOp (init maxReq nfiles wfaults sfaults) (.setPipelined f true)).1 =
      setFile (init maxReq nfiles wfaults sfaults) f (fun x => { x with pipelined := true }) := by
    simp [stepOp]
  have hf1 : f < (stepOp (init maxReq nfiles wfaults sfaults) (.setPipelined f true)).1.files.length := by
    rw [g2, hlen0]; exact hf
  have hp1 : PutInv f [] ([] : Bytes).length false (stepOp (init maxReq nfiles wfaults sfaults) (.setPipelined f true)).1 := by
    rw [hs1]; exact putInv_start maxReq nfiles wfaults sfaults hf
  -- the body and the close
  rw [runOps_append] at hok ⊢
  simp only at hok ⊢
  have hres_body : ∀ r ∈ (runOps (stepOp (init maxReq nfiles wfaults sfaults) (.setPipelined f true)).1 body).2, r = .ok := by
    intro r hr
    exact hok r (List.mem_cons_of_mem _ (List.mem_append_left _ hr))
  obtain ⟨b1, b2, b3⟩ := body_run body _ [] g1 hf1 (by rw [g3]; exact hm) hp1 hbody hres_body
  simp only [List.nil_append] at b3
  generalize (runOps (stepOp (init maxReq nfiles wfaults sfaults) (.setPipelined f true)).1 body).1 = s2 at b1 b2 b3 hok ⊢
  have hclose : (stepOp s2 (.close f)).2 = .ok := by
    apply hok
    apply List.mem_cons_of_mem
    apply List.mem_append_right
    simp [runOps]
  simp only [runOps]
  simp only [stepOp] at hclose ⊢
  rw [hclose]
  obtain ⟨⟨_, hgood, _, _⟩, hz⟩ := closeFile_good b1 b2
  obtain ⟨hbad, hnone⟩ := hz b3.clo hclose
  simpa [resetBad] using putInv_dest (putInv_closeFile b3 b2) (hgood hclose) hbad hnone

/-- **Request ids are allocated atomically** (source fact, read from the AST of `SFTPClient._async_request` on every
    run): every use of `self.request_number` — the id written into the packet, the registration in `_expecting`, the
    increment — lies inside the `self._lock` region.  The models above (one `asyncRequest` step = fresh id + packet +
    registration; `tAlloc`/`allocSync` in the prefetch model) rest on it: without it the prefetch thread and the
    thread running get()/getfo() can send two READs under one id, and the reader takes another chunk's bytes as its
    own — a byte-wrong download that returns normally. -/
theorem request_ids_allocated_under_lock : PV.Generated.C28.idReadUnderLock = true := by decide

/-! ## get / getfo under read faults (no prefetch; the prefetching path is C28's model) -/

/-- **getfo returned normally ⇒ local bytes = remote bytes**, for every plan of per-request server behaviour (each
    READ either fails with an error status or returns 1..n true bytes, EOF exactly at the end of the file), every
    request-size limit and chunk size > 0, every outcome of the initial stat and open, and **whatever size the
    server's STAT answer reports** (`reported`: smaller, exact or larger than the real content — it is only a
    progress hint): short reads are re-requested by `BufferedFile.read`, the loop ends only at a true end of file. -/
theorem getfo_normal_return_implies_local_equals_remote (remote : Bytes) (maxReq chunk statCode openCode : Nat)
    (plan : List SftpGet.RdOut) (fuel reported : Nat) (b : Bytes) (hm : 0 < maxReq) (hc : 0 < chunk)
    (h : SftpGet.getfo remote maxReq chunk statCode openCode plan fuel reported = .ok b) : b = remote :=
  SftpGet.getfo_ok_exact hm hc h

/-- the same for `get` (which additionally compares the local file's size with the byte count, raising
    IOError("size mismatch in get!") on a difference) -/
theorem get_normal_return_implies_local_equals_remote (remote : Bytes) (maxReq chunk statCode openCode : Nat)
    (plan : List SftpGet.RdOut) (fuel reported : Nat) (b : Bytes) (hm : 0 < maxReq) (hc : 0 < chunk)
    (h : SftpGet.get remote maxReq chunk statCode openCode plan fuel reported = .ok b) : b = remote := by
  unfold SftpGet.get at h
  cases hg : SftpGet.getfo remote maxReq chunk statCode openCode plan fuel reported with
  | ok b' =>
    simp only [hg] at h
    split at h
    · cases h
    · cases h
      exact SftpGet.getfo_ok_exact hm hc hg
  | raised c => simp [hg] at h
  | fuel => simp [hg] at h

/-- **A failed read raises**: whenever the transfer loop issues a read request and the server fails it with code
    `c`, the transfer raises `c` — whatever has been transferred before and whatever would follow. -/
theorem failed_read_raises (remote : Bytes) (maxReq chunk fuel c : Nat) (loc : Bytes) (rest : List SftpGet.RdOut)
    (hc : 0 < chunk) : SftpGet.transfer remote maxReq chunk (fuel + 1) loc (.fail c :: rest) = .raised c :=
  SftpGet.transfer_error (fun _ _ => rfl) hc

/-- **A dropped session raises**: when the server hangs up instead of answering a read (channel closed, transport
    gone: the client reads EOF from the socket), the transfer raises (SSHException "Server connection dropped", code
    3000 in the model) — it does not end as if the file were over. -/
theorem dropped_session_raises (remote : Bytes) (maxReq chunk fuel : Nat) (loc : Bytes) (rest : List SftpGet.RdOut)
    (hc : 0 < chunk) : SftpGet.transfer remote maxReq chunk (fuel + 1) loc (.drop :: rest) = .raised 3000 :=
  SftpGet.transfer_error (fun _ _ => rfl) hc

/-- a failing stat or open raises before anything is transferred -/
theorem failed_stat_or_open_raises (remote : Bytes) (maxReq chunk statCode openCode : Nat) (plan : List SftpGet.RdOut)
    (fuel reported : Nat) (h : statCode ≠ 0 ∨ openCode ≠ 0) :
    ∃ c, SftpGet.getfo remote maxReq chunk statCode openCode plan fuel reported = .raised c := by
  unfold SftpGet.getfo
  by_cases hs : statCode ≠ 0
  · exact ⟨statCode, by simp [hs]⟩
  · have ho : openCode ≠ 0 := by rcases h with h | h; exact absurd h hs; exact h
    exact ⟨openCode, by simp [hs, ho]⟩

/-- **getfo with prefetching returned normally ⇒ local bytes = remote bytes.**  On the concurrent model of C28
    (reader, prefetch threads, server; any schedule) extended with failing reads (`Act.serveFail c`: the server
    answers a request with error status `c`; a prefetch answer of that kind is saved and raised by the next
    `_check_exception`, a synchronous one raises at once): for every program that only prefetches and reads
    sequentially (what `getfo` does: `prefetch(size, cap)`, then `read(32768)` until a read comes back empty), any
    cap, any short reads, any failing requests — if no read raised and the last read (of positive size) returned
    nothing, the concatenation of everything read is exactly the remote file. -/
theorem getfo_with_prefetch_normal_return_implies_local_equals_remote (file : Bytes) (maxReq : Nat) (hm : 0 < maxReq)
    (bufsize : Nat) (acts : List Prefetch.Act) (hseq : ∀ a ∈ acts, Prefetch.seqAct a)
    (hnoraise : (Prefetch.run (Prefetch.init file maxReq bufsize) acts).raised = [])
    (pre : List Prefetch.Entry) (e : Prefetch.Entry) (w : Nat)
    (hout : (Prefetch.run (Prefetch.init file maxReq bufsize) acts).out = pre ++ [e])
    (hw : e.2.1 = some w) (hpos : 0 < w) (hempty : e.2.2 = []) :
    ((Prefetch.run (Prefetch.init file maxReq bufsize) acts).out.map (·.2.2)).flatten = file := by
  have hchain := (Prefetch.run_seq (Prefetch.init_seq file maxReq bufsize) acts hseq hnoraise).1
  have hout' := (Prefetch.run_ok (Prefetch.init_ok file maxReq hm bufsize) acts).1.base.out
  rw [Prefetch.run_file] at hout'
  exact Prefetch.sequential_reads_complete hchain hout' hout hw hpos hempty

/-- a failing synchronous read raises; a failing prefetch read is saved and raised by the read that waits for it
    (concrete schedule: the only chunk's request is failed with code 4, the waiting reader raises 4 and nothing is
    delivered). -/
example :
    let s := Prefetch.run (Prefetch.init [1, 2, 3, 4, 5, 6, 7, 8] 4)
      [.rOp (.prefetch 4 none), .tCheck 0, .tAlloc 0, .tSend 0, .tReg 0, .rOp (.read (some 4)), .serveFail 4, .rStep, .rStep]
    s.raised = [(0, 4)] ∧ s.out = [] := by decide

/-- non-vacuity: short reads are re-requested and the result is the whole file; a failing third request raises -/
example : SftpGet.getfo [0, 1, 2, 3, 4, 5, 6, 7, 8, 9, 10, 11] 4 5 0 0 [.data 2, .data 9, .data 1] 1000
    = .ok [0, 1, 2, 3, 4, 5, 6, 7, 8, 9, 10, 11] := by decide
example : SftpGet.getfo [0, 1, 2, 3, 4, 5, 6, 7, 8, 9, 10, 11] 4 5 0 0 [.data 2, .data 9, .fail 3] 1000
    = .raised 3 := by decide

/-- non-vacuity 1: a pipelined write is rejected (plan `[0, 3, 0]`), the ghost counter registers it, close raises the
    saved error and resets the counter. -/
example :
    let s := (runOps (init 4 1 [0, 3, 0] []) [.setPipelined 0 true, .write 0 [0, 1, 2, 3, 4, 5, 6, 7, 8, 9], .serve 3]).1
    s.badSince = [1] ∧ (stepOp s (.close 0)).2 = .raised 3 ∧ (stepOp s (.close 0)).1.badSince = [0] := by decide

/-- non-vacuity 2: the error is collected by another request's wait (stat) and still raised by close. -/
example :
    (runOps (init 4 1 [0, 4, 0] [0]) [.setPipelined 0 true, .write 0 [0, 1, 2, 3, 4, 5, 6, 7, 8, 9], .sync, .close 0]).2
      = [.ok, .ok, .ok, .raised 4] := by decide

/-- non-vacuity 3: nothing rejected ⇒ everything ok and the destination equals the source. -/
example :
    (runOps (init 4 1 [] []) [.setPipelined 0 true, .write 0 [0, 1, 2, 3, 4, 5, 6, 7, 8, 9], .close 0]).2 = [.ok, .ok, .ok] ∧
    (runOps (init 4 1 [] []) [.setPipelined 0 true, .write 0 [0, 1, 2, 3, 4, 5, 6, 7, 8, 9], .close 0]).1.dest
      = [[0, 1, 2, 3, 4, 5, 6, 7, 8, 9]] := by decide

end PV.Props.C29
