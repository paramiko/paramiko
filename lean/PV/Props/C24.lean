/-
  C24 — A channel's pollable descriptor is readable exactly when recv would not block.
  Property theorems only.  Models: PV/Model/Pipe.lean (statement granularity, pipe.py as generated data),
  PV/Model/PipeAtomic.lean (atomic pipe calls); helpers: PV/Model/PipeAtomicLemmas.lean.

  Shape of the argument
   1. `model_eq_generated`: the instruction lists the proofs are about are the ones regenerated from pipe.py.
   2. `call_*`: what a pipe.py call does when it runs alone, obtained by *running the statement-level interpreter* on
      those lists for every consistent pipe state (no hand-written summary of pipe.py enters the proof).
   3. `readable_iff_at_quiescence`: with pipe calls atomic (what the locks of pipe.py provide: one lock around each
      PosixPipe method, one lock shared by both OrPipe halves) every schedule of feeds, reads, empties, EOF, close
      and fileno() by any number of threads ends, whenever it is quiescent, in a state where select() says
      "readable" iff stdout or stderr holds data or the channel saw EOF or was closed.
   4. `race_witness_unlocked`: at statement granularity the same operations on pipe.py *without* the locks reach a
      quiescent state with stdout data buffered and the descriptor not readable (the defect that was fixed);
      `empty_feed_witness`: before `BufferedPipe.feed` ignored empty data, a zero-length feed left the descriptor
      readable with nothing to read.
-/
import PV.Model.PipeAtomicLemmas
import PV.Generated.C24
namespace PV.Props.C24
open PV.Pipe PV.PipeAtomic

/-- the hand-written instruction lists are exactly what the generator extracts from paramiko/pipe.py -/
theorem model_eq_generated : fixedCode = PV.Generated.C24.code := by decide

/-! ## pipe.py calls, executed alone by the interpreter, on every consistent pipe state -/

theorem or_set_alone (i : Bool) (p : PSt) (h : PInv p) :
    callAtomic PV.Generated.C24.code p (orObj i) .set
      = canon (if i then p.s1 else true) (if i then true else p.s2) p.pForever := by
  rw [← model_eq_generated]; exact call_set_spec p h i

theorem or_clear_alone (i : Bool) (p : PSt) (h : PInv p) :
    callAtomic PV.Generated.C24.code p (orObj i) .clear
      = canon (if i then p.s1 else false) (if i then false else p.s2) p.pForever := by
  rw [← model_eq_generated]; exact call_clear_spec p h i

theorem set_forever_alone (p : PSt) (h : PInv p) :
    callAtomic PV.Generated.C24.code p .pipe .setForever = canon p.s1 p.s2 true := by
  rw [← model_eq_generated]; exact call_forever_spec p h

/-! ## the property, for every schedule -/

/-- the pipe objects are consistent after every schedule: flag = s1 ∨ s2 ∨ forever, one byte in the OS pipe iff
the flag is up, every pipe.py lock free -/
theorem pipe_consistent (acts : List PipeAtomic.Act) : PInv (PipeAtomic.run true {} acts).p :=
  (inv_run {} acts inv_init).pipe

/-- From any state satisfying the invariant (the initial one, or any state reached earlier), at every quiescent point
of every schedule: `select()` reports the descriptor readable ⇔ stdout or stderr holds unread data, or EOF was
received, or the channel is closed. -/
theorem readable_iff_from (a0 : ASt) (h0 : Inv a0) (acts : List PipeAtomic.Act) :
    let a := PipeAtomic.run true a0 acts
    PipeAtomic.quiescent a = true → a.hasPipe = true →
      PipeAtomic.readable a = PipeAtomic.shouldBeReadable a := by
  intro a hq hp
  exact inv_quiescent a (inv_run a0 acts h0) hq hp

/-- **C24.** After `fileno()`, at every quiescent point of every schedule:
`select()` reports the descriptor readable ⇔ stdout or stderr holds unread data, or EOF was received, or the
channel is closed. -/
theorem readable_iff_at_quiescence (acts : List PipeAtomic.Act) :
    let a := PipeAtomic.run true {} acts
    PipeAtomic.quiescent a = true → a.hasPipe = true →
      PipeAtomic.readable a = PipeAtomic.shouldBeReadable a :=
  readable_iff_from {} inv_init acts

/-! ## non-vacuity: schedules that reach quiescent states of every kind -/

-- fileno, then stdout data, EOF while a stderr feed is in flight, everything drained: readable because of EOF
example :
    let a := PipeAtomic.run true {} [.cstart .fileno, .bstep false, .bstep true, .bstart false .feed, .bstep false,
      .bstart true .feed, .cstart .eof, .bstep false, .bstep true, .cstep, .bstep true, .cstep, .bstart false .drain, .bstep false]
    PipeAtomic.quiescent a = true ∧ a.hasPipe = true ∧ a.eof = true ∧ a.b1.ne = false ∧ a.b2.ne = true ∧
      PipeAtomic.readable a = true := by decide

-- data arrives and is drained again: not readable
example :
    let a := PipeAtomic.run true {} [.cstart .fileno, .bstep false, .bstep true, .bstart true .feed, .bstep true,
      .bstart true .drain, .bstep true]
    PipeAtomic.quiescent a = true ∧ a.hasPipe = true ∧ PipeAtomic.readable a = false ∧
      PipeAtomic.shouldBeReadable a = false := by decide

-- combining switched on before fileno(), off afterwards, then stderr data through `_feed_extended`: it lands in the
-- stderr buffer, whose event fileno() attached regardless of the combine flag — readable
example :
    let a := PipeAtomic.run true {} [.cstart .combineOn, .bstep true, .cstart .fileno, .bstep false, .bstep true,
      .cstart .combineOff, .cstart .feedErr, .bstep true]
    PipeAtomic.quiescent a = true ∧ a.hasPipe = true ∧ a.combine = false ∧ a.b2.ne = true ∧ a.b1.ne = false ∧
      PipeAtomic.readable a = true := by decide

-- stderr data buffered, then combining switched on: the data moves to stdout, the descriptor stays readable
example :
    let a := PipeAtomic.run true {} [.cstart .fileno, .bstep false, .bstep true, .cstart .feedErr, .bstep true,
      .cstart .combineOn, .bstep true, .bstep false]
    PipeAtomic.quiescent a = true ∧ a.b2.ne = false ∧ a.b1.ne = true ∧ PipeAtomic.readable a = true := by decide

/-! ## witnesses: the defects that were fixed -/

/-- pipe.py without locks: stdout data is buffered, nothing is running, and the descriptor is NOT readable -/
theorem race_witness_unlocked :
    let s := Pipe.run unlockedCode true (Pipe.init 3) raceSchedule
    Pipe.quiescent s = true ∧ s.hasPipe = true ∧ s.ne1 = true ∧ Pipe.readable s = false := by decide +kernel

/-- the same schedule on the current pipe.py (thread 2 simply waits at the shared OrPipe lock): consistent -/
theorem race_schedule_fixed :
    let s := Pipe.run fixedCode true (Pipe.init 3) (raceSchedule ++ List.replicate 12 (.step 2))
    Pipe.quiescent s = true ∧ s.ne1 = true ∧ Pipe.readable s = true := by decide +kernel

/-- before `fix: BufferedPipe.feed …`: a zero-length feed raises the event although nothing can be read -/
theorem empty_feed_witness :
    let a := PipeAtomic.run false {} [.cstart .fileno, .bstep false, .bstep true, .bstart false .feedEmpty, .bstep false]
    PipeAtomic.quiescent a = true ∧ a.hasPipe = true ∧ PipeAtomic.readable a = true ∧
      PipeAtomic.shouldBeReadable a = false := by decide

end PV.Props.C24
