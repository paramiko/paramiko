/-
  C13 — Blocking calls return once the connection ends.  (partial: wake-up latency, OS signalling and
  the socket layer are outside the model; see DESIGN.md §8 C13.)

  Full statement: for every blocking API, every way the connection ends and every interleaving of the
  caller with the shutdown path (call made before, during or after the loss), the call returns or raises
  promptly.  Proved here for the model of PV/Model/Blocking.lean: every row of `apiTable`, both shutdown
  paths, every schedule of any length.
-/
import PV.Model.Blocking
import PV.Generated.C13
namespace PV.Props.C13
open PV.Blocking

/-- all states reachable from `init` in at most `n` steps (breadth first, duplicates removed) -/
def reach (api : Api) (l : Loss) : Nat → List St
  | 0 => [init]
  | n + 1 =>
    let r := reach api l n
    (r ++ r.flatMap fun s => [step api l s .caller, step api l s .loss]).eraseDups

/-- the rounds stop adding states well before the fourteenth: for every generated row the eighth adds nothing (`saturated`),
so this is the seventh round (`R_eq`) and is closed under `step` (`closed`) -/
def R (api : Api) (l : Loss) : List St := reach api l 14

private theorem mem_reach_succ {api : Api} {l : Loss} {n : Nat} {s : St} :
    s ∈ reach api l (n + 1) ↔
      s ∈ reach api l n ∨ ∃ s' ∈ reach api l n, s = step api l s' .caller ∨ s = step api l s' .loss := by
  simp [reach, List.mem_eraseDups, List.mem_flatMap]

private theorem init_mem_reach (api : Api) (l : Loss) : ∀ n, init ∈ reach api l n
  | 0 => List.mem_singleton.2 rfl
  | n + 1 => mem_reach_succ.2 (.inl (init_mem_reach api l n))

private theorem reach_stable {api : Api} {l : Loss} {n : Nat} (h : reach api l (n + 1) = reach api l n) :
    ∀ k, reach api l (n + k) = reach api l n
  | 0 => rfl
  | k + 1 => by
    rw [← Nat.add_assoc, reach, reach_stable h k]
    exact h

private theorem reach_closed {api : Api} {l : Loss} {n : Nat} (h : reach api l (n + 1) = reach api l n)
    {s : St} (hs : s ∈ reach api l n) (t : Tid) : step api l s t ∈ reach api l n := by
  rw [← h, mem_reach_succ]
  cases t
  · exact .inr ⟨s, hs, .inl rfl⟩
  · exact .inr ⟨s, hs, .inr rfl⟩

/-- The one evaluation over the generated rows.  Seven rounds find every reachable state of every row (the eighth
adds none), and wherever the shutdown path is through among them the caller is two steps from `done`. -/
private theorem saturated : ∀ api ∈ apiTable, ∀ l ∈ [Loss.remote, Loss.localClose],
    reach api l 8 = reach api l 7 ∧
      ∀ s ∈ reach api l 7, lossFinished api l s = true → returnsPromptly api l s = true := by
  decide +kernel

private theorem R_eq {api : Api} {l : Loss} (h : reach api l 8 = reach api l 7) : R api l = reach api l 7 :=
  reach_stable h 7

private theorem closed : ∀ api ∈ apiTable, ∀ l ∈ [Loss.remote, Loss.localClose],
    ∀ s ∈ R api l, ∀ t ∈ [Tid.caller, Tid.loss], step api l s t ∈ R api l := by
  intro api hapi l hl s hs t _
  have h := (saturated api hapi l hl).1
  rw [R_eq h] at hs ⊢
  exact reach_closed h hs t

private theorem loss_mem (l : Loss) : l ∈ [Loss.remote, Loss.localClose] := by
  cases l <;> simp

private theorem tid_mem (t : Tid) : t ∈ [Tid.caller, Tid.loss] := by
  cases t <;> simp

private theorem run_mem (api : Api) (hapi : api ∈ apiTable) (l : Loss) (s : St) (hs : s ∈ R api l)
    (sch : List Tid) : run api l s sch ∈ R api l := by
  induction sch generalizing s with
  | nil => exact hs
  | cons t ts ih =>
    exact ih _ (closed api hapi l (loss_mem l) s hs t (tid_mem t))

/-- **Every blocking call returns once the connection has ended** — for every API row, both shutdown
paths and every interleaving of the caller with the shutdown (so: calls made before, during and after
the loss): as soon as the shutdown path has run to its end, two more steps of the caller complete the
call. -/
theorem returns_after_loss (api : Api) (hapi : api ∈ apiTable) (l : Loss) (sch : List Tid)
    (hfin : lossFinished api l (run api l init sch) = true) :
    returnsPromptly api l (run api l init sch) = true := by
  obtain ⟨hfix, hprompt⟩ := saturated api hapi l (loss_mem l)
  exact hprompt _ (R_eq hfix ▸ run_mem api hapi l init (init_mem_reach api l 14) sch) hfin

private theorem stepLoss_pc (api : Api) (l : Loss) (s : St) : (stepLoss api l s).pc = s.pc := by
  fun_cases stepLoss api l s <;> rfl

/-- …and it stays returned: `done` is absorbing under any further schedule -/
theorem done_is_final (api : Api) (l : Loss) (s : St) (h : s.pc = .done) (sch : List Tid) :
    (run api l s sch).pc = .done := by
  induction sch generalizing s with
  | nil => exact h
  | cons t ts ih =>
    apply ih
    cases t with
    | caller => simp [step, stepCaller, h]
    | loss => exact (stepLoss_pc api l s).trans h

-- non-vacuity: a call blocked before a local close() — the shutdown finishes, the premise holds.  (`pollRow n` is, up
-- to the name, the `start_client` / `auth_wait_for_response` row of `apiTable`: a poll on `event` without pre-check; the
-- table's own `open_channel` row pre-checks `active`.)
example : lossFinished (pollRow "open_channel") .localClose
    (run (pollRow "open_channel") .localClose init [.caller, .loss]) = true := by decide +kernel
example : (run (pollRow "open_channel") .localClose init [.caller, .loss]).pc = .waiting := by decide +kernel

/-! ### the defects that were repaired: witnesses about the old rows -/

private theorem run_append (api : Api) (l : Loss) (s : St) (a b : List Tid) :
    run api l s (a ++ b) = run api l (run api l s a) b :=
  List.foldl_append ..

private theorem run_fixed (api : Api) (l : Loss) (s : St) (sch : List Tid) (h : ∀ t ∈ sch, step api l s t = s) :
    run api l s sch = s := by
  induction sch with
  | nil => rfl
  | cons t ts ih =>
    rw [run, List.foldl_cons, h t (by simp)]
    exact ih fun t' ht' => h t' (by simp [ht'])

private theorem hangs (api : Api) (l : Loss) (pre : List Tid) (hpc : (run api l init pre).pc = .waiting)
    (hw : wakeable api (run api l init pre) = false) (hfin : lossFinished api l (run api l init pre) = true)
    (sch : List Tid) : (run api l init (pre ++ sch)).pc = .waiting := by
  rw [run_append, run_fixed _ _ _ sch, hpc]
  intro t _
  cases t with
  | caller => simp [step, stepCaller, hpc, hw]
  | loss =>
    have : (api.prog l)[(run api l init pre).lossPc]? = none :=
      List.getElem?_eq_none (by simpa [lossFinished] using hfin)
    simp [step, stepLoss, this]

/-- old `accept()`: blocked when the application calls `close()` — never woken, under any later schedule -/
theorem accept_old_hangs_on_local_close_witness (sch : List Tid) :
    (run acceptOld .localClose init ([.caller, .loss] ++ sch)).pc = .waiting :=
  hangs acceptOld .localClose [.caller, .loss] (by decide) (by decide) (by decide) sch

/-- old `accept()` called after the connection was lost (remote path): waits for a notify that already happened -/
theorem accept_old_hangs_after_loss_witness (sch : List Tid) :
    (run acceptOld .remote init ([.loss, .loss, .caller] ++ sch)).pc = .waiting :=
  hangs acceptOld .remote [.loss, .loss, .caller] (by decide) (by decide) (by decide) sch

/-- old `ensure_session()`: polls for SERVICE_ACCEPT without looking at `active` — spins for ever -/
theorem ensure_session_old_spins_witness (n : Nat) :
    (run ensureSessionOld .remote init ([.caller, .loss] ++ List.replicate n .caller)).pc = .waiting := by
  rw [run_append, run_fixed]
  · decide
  · intro t ht
    rw [List.eq_of_mem_replicate ht]
    decide

/-- a channel request as it was, racing the loss: the openness check passes, the connection is lost (the event is
set for the last time), then `_event_pending()` clears it — the call waits for ever, under any later schedule -/
theorem channel_request_old_hangs_when_loss_races_the_call_witness (sch : List Tid) :
    (run channelRequestOld .remote init ([.caller, .loss, .loss, .loss, .caller] ++ sch)).pc = .waiting :=
  hangs channelRequestOld .remote [.caller, .loss, .loss, .loss, .caller] (by decide) (by decide) (by decide) sch

/-- `accept()` with the wake-up issued before `active = False`: a call entered between the two parks for ever -/
theorem accept_notify_before_inactive_hangs_witness (sch : List Tid) :
    (run acceptNotifyFirst .remote init ([.loss, .caller, .loss] ++ sch)).pc = .waiting :=
  hangs acceptNotifyFirst .remote [.loss, .caller, .loss] (by decide) (by decide) (by decide) sch

/-! ### the rows take their wait shapes and wake-ups from the source: sanity of the generated tables -/

/-- every API the property names has a row, and no wait site was left unclassified -/
theorem every_api_has_a_row :
    ∀ n ∈ ["open_channel", "global_request", "renegotiate_keys", "start_client", "auth_wait_for_response",
           "send_user_message", "channel_request", "recv_exit_status", "recv", "send", "accept", "ensure_session"],
      ∃ api ∈ apiTable, api.name = n := by decide +kernel

theorem no_unclassified_wait_site :
    ∀ w ∈ PV.Generated.C13.waitShapes, w.kind ∈ ["poll", "event", "cvLoop", "cvOnce"] := by decide +kernel


/-- on both paths the transport is marked inactive, and on both `accept` waiters are notified after that -/
theorem accept_is_notified_after_inactive :
    srcProg "self.server_accept_cv" .remote = [.setInactive, .notify] ∧
    srcProg "self.server_accept_cv" .localClose = [.setInactive, .notify] := by
  decide +kernel

/-- both paths close every channel (flag + notify_all reach channel waiters) -/
theorem both_paths_close_channels :
    ∀ obj ∈ ["self._cv", "self.out_buffer_cv"],
      LAct.setFlag ∈ srcProg obj .remote ∧ LAct.notify ∈ srcProg obj .remote ∧
      LAct.setFlag ∈ srcProg obj .localClose ∧ LAct.notify ∈ srcProg obj .localClose := by decide +kernel

/-- closing a channel wakes every kind of channel waiter unconditionally (statements of `_set_closed` and
    `BufferedPipe.close` outside any condition, regenerated from the source) -/
theorem closing_a_channel_wakes_every_waiter :
    chanEffect "self.event" = [.setFlag] ∧ chanEffect "self.status_event" = [.setFlag] ∧
    chanEffect "self._cv" = [.setFlag, .notify] ∧ chanEffect "self.out_buffer_cv" = [.setFlag, .notify] := by decide +kernel

/-! ### any number of callers blocked on the same object (notify_all reaches every one) -/

private theorem table_clear_guarded : ∀ api ∈ apiTable, api.clear ≠ .unguarded := by decide +kernel

private theorem stepCaller_frame (api : Api) (hcl : api.clear ≠ .unguarded) (s : St) :
    stepCaller api s = { s with pc := (stepCaller api s).pc, notified := (stepCaller api s).notified } := by
  fun_cases stepCaller api s <;> try rfl
  -- the one branch that is not `rfl` is the unguarded re-arm
  next h => exact absurd (beq_iff_eq.1 h) hcl

private theorem notifyAll_eq_map (cs : List (Pc × Bool)) :
    notifyCallers true cs = cs.map fun c => (c.1, c.2 || (c.1 == .waiting)) := by
  induction cs with
  | nil => rfl
  | cons c rest ih =>
    obtain ⟨pc, nt⟩ := c
    cases pc <;> simp [notifyCallers, ih]

/-- a step of the shutdown path, as caller `i` sees it: `notify_all` reaches it like the single caller's `notify` -/
private theorem view_mstepLoss (api : Api) (l : Loss) (i : Nat) (m : MSt) (c : Pc × Bool) (h : m.cs[i]? = some c) :
    ∃ c', (mstepLoss api l true m).cs[i]? = some c' ∧
      (mstepLoss api l true m).view c' = stepLoss api l (m.view c) := by
  unfold mstepLoss stepLoss
  simp only [MSt.view]
  cases (api.prog l)[m.lossPc]? with
  | none => exact ⟨c, h, rfl⟩
  | some a =>
    cases a with
    | setInactive => exact ⟨c, h, rfl⟩
    | setFlag => exact ⟨c, h, rfl⟩
    | notify => exact ⟨(c.1, c.2 || (c.1 == .waiting)), by simp [notifyAll_eq_map, h], rfl⟩

private theorem view_mstep_self (api : Api) (hcl : api.clear ≠ .unguarded) (l : Loss) (i : Nat) (m : MSt)
    (c : Pc × Bool) (h : m.cs[i]? = some c) :
    ∃ c', (mstep api l true m (.caller i)).cs[i]? = some c' ∧
      (mstep api l true m (.caller i)).view c' = stepCaller api (m.view c) := by
  have hlt : i < m.cs.length := (List.getElem?_eq_some_iff.1 h).1
  simp only [mstep, h]
  exact ⟨((stepCaller api (m.view c)).pc, (stepCaller api (m.view c)).notified), by simp [hlt],
    (stepCaller_frame api hcl (m.view c)).symm⟩

private theorem view_mstep_other (api : Api) (l : Loss) (i j : Nat) (hj : j ≠ i) (m : MSt) (c : Pc × Bool) :
    (mstep api l true m (.caller j)).cs[i]? = m.cs[i]? ∧ (mstep api l true m (.caller j)).view c = m.view c := by
  simp only [mstep]
  cases m.cs[j]? with
  | none => exact ⟨rfl, rfl⟩
  | some cj => exact ⟨List.getElem?_set_ne hj, rfl⟩

/-- caller `i` of the many-caller system evolves exactly like the single caller of `run` under the
    projected schedule: with `notify_all`, callers do not interact -/
private theorem proj_run (api : Api) (hcl : api.clear ≠ .unguarded) (l : Loss) (i : Nat) (sch : List MTid) :
    ∀ (m : MSt) (c : Pc × Bool), m.cs[i]? = some c →
    ∃ c', (mrun api l true m sch).cs[i]? = some c' ∧
      (mrun api l true m sch).view c' = run api l (m.view c) (projSched i sch) := by
  induction sch with
  | nil => intro m c h; exact ⟨c, h, rfl⟩
  | cons t ts ih =>
    intro m c h
    cases t with
    | loss =>
      obtain ⟨c1, h1, hv⟩ := view_mstepLoss api l i m c h
      obtain ⟨c2, h2, hv2⟩ := ih _ c1 h1
      exact ⟨c2, h2, by rw [hv] at hv2; exact hv2⟩
    | caller j =>
      by_cases hj : j = i
      · subst hj
        obtain ⟨c1, h1, hv⟩ := view_mstep_self api hcl l j m c h
        obtain ⟨c2, h2, hv2⟩ := ih _ c1 h1
        refine ⟨c2, h2, ?_⟩
        rw [hv] at hv2
        rw [show projSched j (.caller j :: ts) = .caller :: projSched j ts from if_pos rfl]
        exact hv2
      · obtain ⟨h1, hv⟩ := view_mstep_other api l i j hj m c
        obtain ⟨c2, h2, hv2⟩ := ih _ c (h1.trans h)
        refine ⟨c2, h2, ?_⟩
        rw [hv] at hv2
        rw [show projSched i (.caller j :: ts) = projSched i ts from if_neg hj]
        exact hv2

/-- **Every one of any number of callers** blocked on the same channel/transport object returns once the
shutdown path has finished, under every interleaving of all callers with the shutdown. -/
theorem all_callers_return (api : Api) (hapi : api ∈ apiTable) (l : Loss) (n i : Nat) (hi : i < n)
    (sch : List MTid)
    (hfin : (api.prog l).length ≤ (mrun api l true (minit n) sch).lossPc) :
    ∃ c, (mrun api l true (minit n) sch).cs[i]? = some c ∧
      returnsPromptly api l ((mrun api l true (minit n) sch).view c) = true := by
  have h0 : (minit n).cs[i]? = some (.start, false) := by
    simp [minit, hi]
  obtain ⟨c, hc, hv⟩ := proj_run api (table_clear_guarded api hapi) l i sch (minit n) (.start, false) h0
  replace hv : (mrun api l true (minit n) sch).view c = run api l init (projSched i sch) := hv
  refine ⟨c, hc, ?_⟩
  rw [hv]
  refine returns_after_loss api hapi l _ ?_
  rw [← hv]
  exact decide_eq_true hfin

/-- the `send` row as it would be with `notify()` instead of `notify_all()` in `_set_closed` -/
def sendRow : Api :=
  { name := "send", wait := .cvLoop, precheck := false, loopChecksActive := false,
    prog := fun _ => [.setInactive, .setFlag, .notify] }

/-- with `notify()` (one waiter woken) the second of two blocked senders is never woken -/
theorem notify_one_strands_second_sender_witness :
    let m := mrun sendRow .remote false (minit 2) [.caller 0, .caller 1, .loss, .loss, .loss, .caller 0, .caller 1, .caller 1]
    m.lossPc = 3 ∧ m.cs[0]? = some (.done, true) ∧ m.cs[1]? = some (.waiting, false) := by
  decide

/-! ### no lock is left held by a call that has ended

The rows above treat the locks a call takes on its way (Channel.lock, Transport.lock, clear_to_send_lock, the
BufferedPipe lock, the SFTP client lock) as free once their holder has returned or raised.  That is a fact about
the code: every explicit `acquire()` in the files behind the blocking APIs is released on every path, exceptions
included (table regenerated from the AST on every run by pv/lib_lockdisc.py). -/

theorem locks_released_on_every_path : ∀ s ∈ PV.Generated.C13.lockSites, s.safe = true := by decide

/-- the shutdown paths take the channel lock, the transport lock and the pipe locks (`_unlink`, the accept
notify, `BufferedPipe.close`): the model lets the loss thread always make its next step, which needs that no caller
waits for the send gate (or sleeps, or joins) with one of those locks held — only `Condition.wait` on a condition
built over the very lock held, which releases it (table regenerated from the AST, helpers followed two levels) -/
theorem no_caller_waits_with_a_teardown_lock_held :
    ∀ s ∈ PV.Generated.C13.blockingUnderLock, s.safe = true := by decide

/-- both shutdown paths close the channels they find in the transport's channel map (`unlink_channels`), so the rows
above need every open channel to be in it: the only removals are a channel unlinking itself as it closes and the
refusal of an open that is still pending (table regenerated from the AST) -/
theorem open_channels_stay_in_the_map :
    ∀ s ∈ PV.Generated.C13.channelMapDeletes, s.safe = true := by decide

theorem channel_map_has_its_two_removals : PV.Generated.C13.channelMapDeletes.length ≥ 2 := by decide

/-- the transport thread's reads time out on the transport's own short period whatever timeout the application had
    put on the socket: a local `close()` is noticed within that period (the thread is not woken by it) -/
theorem transport_polls_its_own_socket_period : PV.Generated.C13.socketPollForced = true := by decide

theorem lock_table_covers_the_send_gate :
    (PV.Generated.C13.lockSites.filter fun s => s.lock == "self.clear_to_send_lock").length ≥ 4 := by decide +kernel

/-! ### ProxyCommand.recv at end of file -/

/-- repaired loop: whatever the child wrote before exiting, `recv` returns (possibly short / empty) -/
theorem proxy_recv_fixed_returns (size have_ : Nat) (reads : List Nat) :
    ∃ r, proxyRecv true size have_ reads (reads.length + 1) = some r := by
  induction reads generalizing have_ with
  | nil =>
    simp only [List.length_nil, proxyRecv, proxyIter]
    split <;> simp
  | cons g gs ih =>
    simp only [List.length_cons, proxyRecv]
    split
    · exact ⟨_, rfl⟩
    · split
      · exact ⟨_, rfl⟩
      · exact ih _

/-- old loop: once the child is at EOF with the request unsatisfied, no number of iterations ends it -/
theorem proxy_recv_old_spins_witness (size have_ fuel : Nat) (h : have_ < size) :
    proxyRecv false size have_ [] fuel = none := by
  have : ¬ size ≤ have_ := by omega
  induction fuel with
  | zero => simp [proxyRecv, this]
  | succ k ih => simp [proxyRecv, this, proxyIter, ih]

end PV.Props.C13
