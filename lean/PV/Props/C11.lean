/-
  C11 — Key re-exchange is transparent to whatever traffic is in flight.   PARTIAL.
  Models: PV/Model/RekeyFlight.lean (which messages cross a re-exchange), RekeyLock.lean (Channel.lock as a resource),
  SendGate.lean (the send gate at step granularity); facts about the last two that need no invariant of this file are in
  RekeyLockLemmas.lean and SendGateLemmas.lean.

  Full statement (false of today's code — see the witnesses):
    for every schedule of in-flight peer messages and user sends around a re-exchange,
      (a) between our KEXINIT and our NEWKEYS only message types < 50 go out,
      (b) the session is not lost,
      (c) every parked user message goes out after NEWKEYS, in order.
  Proved: the witnesses for both defect mechanisms, and (a)+(b)+(c) for every schedule whose in-flight
  messages are answered by neither mechanism (`C11_partial`).
-/
import PV.Model.RekeyFlight
import PV.Model.RekeyLockLemmas
import PV.Model.SendGateLemmas
import PV.Generated.C11
namespace PV.Props.C11
open PV.RekeyFlight

/-- a complete re-exchange with one message `k` of the peer in flight when our KEXINIT goes out -/
def crossing (k : Kind) : List Ev := [.startRekey, .inflight k, .peerKexinit, .kexReply, .peerNewkeys]

/-- **Defect (a), mechanism `_send_message`.** A GLOBAL_REQUEST with want_reply or a CHANNEL_OPEN that was in
flight is answered between our KEXINIT and our NEWKEYS: a connection-layer type (≥ 80) inside the window. -/
theorem C11_witness_reply :
    ∀ k ∈ [Kind.globalRequestWantReply, Kind.channelOpen],
      (kexWindow (run {} (crossing k)).wire).any (fun t => !transportLayer t) = true := by decide

/-- **Defect (b), mechanism `_send_user_message` on the transport thread.** An in-flight CHANNEL_CLOSE, channel
request with want_reply, CHANNEL_FAILURE (→ `_request_failed` closes the channel) or enough discarded extended data
(→ `_feed_extended` sends a window adjustment) makes the transport thread wait for an event only it can set: the
session is lost. -/
theorem C11_witness_selfblock :
    ∀ k ∈ [Kind.channelClose, Kind.channelRequestWantReply, Kind.channelFailure, Kind.extendedDataDiscarded],
      (run {} (crossing k)).dead = true := by decide

/-- events that use neither defective mechanism: in-flight messages whose handler sends nothing, user-thread
sends, and the exchange's own steps -/
def Quiet : Ev → Prop
  | .inflight k => mech k = .none
  | _ => True

/-- invariant of a run of quiet events: alive; while an exchange is open the gate is closed and everything since
our KEXINIT is kex traffic; user messages are parked, never written -/
structure Inv (s : St) : Prop where
  alive : s.dead = false
  gate : s.clearToSend = true ↔ (s.phase = .idle ∨ s.phase = .done)
  window : (s.phase = .sentKexinit ∨ s.phase = .kexRunning) →
    ∃ pre kex, s.wire = pre ++ 20 :: kex ∧ ∀ t ∈ kex, t = 30
  closed : s.phase = .sentNewkeys →
    ∃ pre kex, s.wire = pre ++ 20 :: kex ++ [21] ∧ ∀ t ∈ kex, t = 30
  noneParked : s.clearToSend = true → s.parked = []

private theorem inv_step (s : St) (ev : Ev) (hq : Quiet ev) (hi : Inv s) : Inv (step s ev) := by
  have ⟨ha, hg, hw, hc, hp⟩ := hi
  have shut : s.phase ≠ .idle → s.phase ≠ .done → ¬ s.clearToSend = true := fun h1 h2 h =>
    (hg.mp h).elim h1 h2
  have hnd : ¬ s.dead = true := by simp [ha]
  cases ev with
  | startRekey =>
    simp only [step, if_neg hnd]
    split
    · exact ⟨ha, by simp, fun _ => ⟨s.wire, [], by simp, nofun⟩, nofun, nofun⟩
    · exact hi
  | inflight k =>
    have hk : mech k = .none := hq
    simp only [step, if_neg hnd, hk]
    exact hi
  | userSend t =>
    simp only [step, if_neg hnd]
    split
    · rename_i hcs
      have hph := hg.mp hcs
      exact ⟨ha, hg, fun h => by rcases hph with h' | h' <;> simp [h'] at h,
        fun h => by rcases hph with h' | h' <;> simp [h'] at h, hp⟩
    · rename_i hcs
      exact ⟨ha, hg, hw, hc, fun h => absurd h hcs⟩
  | peerKexinit =>
    simp only [step, if_neg hnd]
    split
    · rename_i hph
      obtain ⟨pre, kex, hwire, hk⟩ := hw (.inl hph)
      have hcs := shut (by simp [hph]) (by simp [hph])
      exact ⟨ha, ⟨fun h => absurd h hcs, by simp⟩,
        fun _ => ⟨pre, kex ++ [30], by simp [hwire], List.forall_mem_append.2 ⟨hk, by simp⟩⟩, nofun,
        fun h => absurd h hcs⟩
    · exact hi
  | kexReply =>
    simp only [step, if_neg hnd]
    split
    · rename_i hph
      obtain ⟨pre, kex, hwire, hk⟩ := hw (.inr hph)
      have hcs := shut (by simp [hph]) (by simp [hph])
      exact ⟨ha, ⟨fun h => absurd h hcs, by simp⟩, by simp, fun _ => ⟨pre, kex, by simp [hwire], hk⟩,
        fun h => absurd h hcs⟩
    · exact hi
  | peerNewkeys =>
    simp only [step, if_neg hnd]
    split
    · exact ⟨ha, by simp, by simp, nofun, fun _ => rfl⟩
    · exact hi

private theorem inv_run (evs : List Ev) (hq : ∀ ev ∈ evs, Quiet ev) (s : St) (hi : Inv s) : Inv (run s evs) := by
  induction evs generalizing s with
  | nil => exact hi
  | cons ev evs ih =>
    exact ih (fun e he => hq e (List.mem_cons_of_mem _ he)) _ (inv_step s ev (hq ev List.mem_cons_self) hi)

/-- **C11_partial.**  For every schedule — any number of in-flight DATA / EXTENDED_DATA / WINDOW_ADJUST / EOF /
no-reply requests / replies to our own requests, any user-thread sends, in any order around the steps of the
exchange — the session is never lost, while an exchange is open everything written since our KEXINIT is
key-exchange traffic, and user messages are parked instead of written. -/
theorem C11_partial (evs : List Ev) (hq : ∀ ev ∈ evs, Quiet ev) : Inv (run {} evs) :=
  inv_run evs hq {} ⟨rfl, by simp, nofun, nofun, fun _ => rfl⟩

/-- … and what was parked during the exchange goes out right after it, in order, nothing else in between -/
theorem C11_partial_delivery (s : St) (hd : s.dead = false) (hph : s.phase = .sentNewkeys) :
    (step s .peerNewkeys).wire = s.wire ++ s.parked ∧ (step s .peerNewkeys).parked = [] ∧
      (step s .peerNewkeys).clearToSend = true := by
  simp [step, hd, hph]

/-! ## non-vacuity -/

/-- a quiet crossing with a parked user message: delivered after NEWKEYS, window clean -/
example : let s := run {} [.startRekey, .inflight .data, .userSend 94, .inflight .windowAdjust, .peerKexinit,
      .inflight .eof, .kexReply, .userSend 94, .peerNewkeys]
    s.wire = [20, 30, 21, 94, 94] ∧ s.dead = false ∧ kexWindow s.wire = [30] := by decide +kernel
example : ∀ ev ∈ [Ev.startRekey, .inflight .data, .userSend 94, .peerKexinit], Quiet ev := by
  intro ev h; simp at h; rcases h with rfl | rfl | rfl | rfl <;> simp [Quiet, mech]
/-- the witnesses are not quiet -/
example : ¬ Quiet (.inflight .channelClose) := by simp [Quiet, mech]

/-! ## Channel.lock as a resource: user threads never wait for the exchange while holding it -/

section Lock
open PV.RekeyLock

/-- what must be on the wire after our KEXINIT and the kex messages, given the progress of both threads -/
def expectedTail (s : RekeyLock.St) : List Nat :=
  match s.phase with
  | .sentKexinit | .kexRunning => []
  | .sentNewkeys => [21]
  | .done => if s.upc = .done then [21, s.userType] else [21]

structure LInv (s : RekeyLock.St) : Prop where
  lockPc : s.lockUser = true ↔ (s.upc = .crit ∨ s.upc = .waitHolding)
  noHold : s.underLock = false → s.upc ≠ .waitHolding
  kex : s.inbox.filter isKex = remaining s.phase
  ctsPhase : s.cts = true ↔ s.phase = .done
  doneCts : s.upc = .done → s.cts = true
  wire : ∃ kex, s.wire = 20 :: kex ++ expectedTail s ∧ ∀ t ∈ kex, t = 30

/-- the situation the theorems start from: our KEXINIT is out, the user thread is about to make its call, and the
transport thread will find any channel messages (lock-taking or not) interleaved in any way with the peer's three
kex packets -/
theorem linv_init (underLock : Bool) (userType : Nat) (inbox : List TMsg)
    (h : inbox.filter isKex = [.peerKexinit, .kexReply, .peerNewkeys]) :
    LInv { underLock, userType, inbox } :=
  ⟨by simp, by simp, h, by simp, by simp, ⟨[], by simp [expectedTail], by simp⟩⟩

private theorem linv_move {s : RekeyLock.St} (hi : LInv s) (b : UPc) (l : Bool) (hs : s.upc ≠ .done)
    (hb : b ≠ .done) (hl : l = true ↔ (b = .crit ∨ b = .waitHolding))
    (hh : s.underLock = false → b ≠ .waitHolding) : LInv { s with upc := b, lockUser := l } := by
  obtain ⟨kex, hw, hk⟩ := hi.wire
  refine ⟨hl, hh, hi.kex, hi.ctsPhase, fun h => absurd h hb, kex, ?_, hk⟩
  simpa only [expectedTail, hs, hb] using hw

/-- the user thread's call ends: the gate is open, so the exchange is over and the message goes out behind NEWKEYS -/
private theorem linv_finish {s : RekeyLock.St} (hi : LInv s) (l : Bool) (hl : l = false) (hs : s.upc ≠ .done)
    (hc : s.cts = true) : LInv { s with upc := .done, lockUser := l, wire := s.wire ++ [s.userType] } := by
  obtain ⟨kex, hw, hk⟩ := hi.wire
  have hp := hi.ctsPhase.mp hc
  refine ⟨by simp [hl], by simp, hi.kex, hi.ctsPhase, fun _ => hc, kex, ?_, hk⟩
  simp only [expectedTail, hp, hs, if_false] at hw
  simp [expectedTail, hp, hw]

private theorem linv_user (s : RekeyLock.St) (hi : LInv s) : LInv (stepUser s) := by
  unfold stepUser
  cases hu : s.upc with
  | start => exact linv_move hi .crit true (by simp [hu]) (by simp) (by simp) (by simp)
  | crit =>
    simp only
    split
    · rename_i hul
      split
      · rename_i hc; exact linv_finish hi false rfl (by simp [hu]) hc
      · exact linv_move hi .waitHolding s.lockUser (by simp [hu]) (by simp) (by simp [hi.lockPc, hu]) (by simp [hul])
    · split
      · rename_i hc; exact linv_finish hi false rfl (by simp [hu]) hc
      · exact linv_move hi .waitFree false (by simp [hu]) (by simp) (by simp) (by simp)
  | waitFree =>
    -- the lock is not held here (`lockPc`)
    simp only
    split
    · rename_i hc; exact linv_finish hi s.lockUser (by simpa [hu] using hi.lockPc) (by simp [hu]) hc
    · exact hi
  | waitHolding =>
    simp only
    split
    · rename_i hc; exact linv_finish hi false rfl (by simp [hu]) hc
    · exact hi
  | done => exact hi

private theorem kex_head {s : RekeyLock.St} (hi : LInv s) {m : TMsg} {rest : List TMsg} (hb : s.inbox = m :: rest)
    (hm : isKex m = true) : remaining s.phase = m :: rest.filter isKex := by
  rw [← hi.kex, hb, List.filter_cons_of_pos hm]

private theorem linv_transport (s : RekeyLock.St) (hi : LInv s) : LInv (stepTransport s) := by
  have ⟨h1, h2, h3, h4, h5, kex, hw, hk⟩ := hi
  have hopen : s.phase ≠ .done → s.cts = false ∧ s.upc ≠ .done := fun hne =>
    have hc : s.cts = false := Bool.eq_false_iff.2 fun hc => hne (h4.mp hc)
    ⟨hc, fun hu => by simp [h5 hu] at hc⟩
  unfold stepTransport
  cases hb : s.inbox with
  | nil => exact hi
  | cons m rest =>
    cases m with
    | handler tl =>
      simp only
      split
      · exact hi
      · exact ⟨h1, h2, by rw [← h3, hb]; rfl, h4, h5, kex, hw, hk⟩
    | peerKexinit =>
      -- by `kex_head` the phase is the one that expects this packet
      obtain ⟨hp, hr⟩ := remaining_head (kex_head hi hb rfl)
      obtain ⟨hc, hu⟩ := hopen (by simp [hp])
      simp only [hp, if_true]
      refine ⟨h1, h2, hr, by simp [hc], fun h => absurd h hu, kex ++ [30], ?_,
        List.forall_mem_append.2 ⟨hk, by simp⟩⟩
      simp [expectedTail, hp] at hw ⊢
      simp [hw]
    | kexReply =>
      obtain ⟨hp, hr⟩ := remaining_head (kex_head hi hb rfl)
      obtain ⟨hc, hu⟩ := hopen (by simp [hp])
      simp only [hp, if_true]
      refine ⟨h1, h2, hr, by simp [hc], fun h => absurd h hu, kex, ?_, hk⟩
      simp [expectedTail, hp] at hw ⊢
      simp [hw]
    | peerNewkeys =>
      obtain ⟨hp, hr⟩ := remaining_head (kex_head hi hb rfl)
      obtain ⟨_, hu⟩ := hopen (by simp [hp])
      simp only [hp, if_true]
      refine ⟨h1, h2, hr, by simp, fun _ => rfl, kex, ?_, hk⟩
      simp [expectedTail, hp, hu] at hw ⊢
      exact hw

theorem linv_step (s : RekeyLock.St) (t : Tid) (hi : LInv s) : LInv (RekeyLock.step s t) := by
  cases t
  · exact linv_user s hi
  · exact linv_transport s hi

/-- the invariant holds after every schedule of the two threads -/
theorem linv_run (s : RekeyLock.St) (sched : List Tid) (hi : LInv s) : LInv (RekeyLock.run s sched) := by
  induction sched generalizing s with
  | nil => exact hi
  | cons t ts ih => exact ih _ (linv_step s t hi)

/-- **No deadlock (current code).**  If the user thread's call does not hand its message to
`_send_user_message` while holding `Channel.lock`, then in every reachable state that is not finished at least one
of the two threads can move: the transport thread is never stuck behind a lock whose holder waits for the
exchange. -/
theorem rekey_lock_progress (s : RekeyLock.St) (hi : LInv s) (hul : s.underLock = false)
    (hnf : ¬ finished s) : stepUser s ≠ s ∨ stepTransport s ≠ s := by
  cases hb : s.inbox with
  | nil =>
    -- nothing left to read: the exchange is over (cts set), the user thread finishes its call
    have h3 := hi.kex
    rw [hb] at h3
    have hph : s.phase = .done := by
      cases hp : s.phase <;> simp [hp, remaining] at h3; rfl
    exact .inl (user_moves (.inr ⟨fun h => hnf ⟨h, hb⟩, hi.ctsPhase.mpr hph⟩))
  | cons m rest =>
    -- the transport thread moves unless a lock-taking handler finds the lock held — then the holder is in
    -- its critical section and releases
    by_cases hfree : m = .handler true ∧ s.lockUser = true
    · rcases hi.lockPc.mp hfree.2 with h | h
      · exact .inl (user_moves (.inl h))
      · exact absurd h (hi.noHold hul)
    · exact .inr (transport_moves hb hfree)

/-- every step that changes anything uses up the bound: at most `measure s` effective steps, so with
`rekey_lock_progress` every schedule that keeps running enabled threads ends in `finished` -/
theorem rekey_lock_measure (s : RekeyLock.St) (t : Tid) (h : RekeyLock.step s t ≠ s) :
    RekeyLock.measure (RekeyLock.step s t) < RekeyLock.measure s := by
  revert h
  cases t with
  | user =>
    show stepUser s ≠ s → RekeyLock.measure (stepUser s) < RekeyLock.measure s
    fun_cases stepUser s <;> simp [RekeyLock.measure, rank, *]
  | transport =>
    show stepTransport s ≠ s → RekeyLock.measure (stepTransport s) < RekeyLock.measure s
    fun_cases stepTransport s <;> simp [RekeyLock.measure, *]

/-- **What a finished run looks like** (any schedule, with or without the lock held): our KEXINIT, kex messages,
our NEWKEYS, and only then the user thread's message — nothing of the connection layer inside the window -/
theorem rekey_lock_finished_wire (s : RekeyLock.St) (hi : LInv s) (hf : finished s) :
    ∃ kex, s.wire = 20 :: kex ++ [21, s.userType] ∧ ∀ t ∈ kex, t = 30 := by
  obtain ⟨_, _, _, h4, h5, kex, hw, hk⟩ := hi
  have hp := h4.mp (h5 hf.1)
  exact ⟨kex, by simpa [expectedTail, hp, hf.1] using hw, hk⟩

/-- **Witness for the lock-holding variant** (what the mutated `shutdown()` does): an in-flight WINDOW_ADJUST ahead
of the peer's kex packets, the user thread waits for the exchange while holding the lock — neither thread can
move, nothing is finished. -/
theorem rekey_lock_held_deadlock_witness :
    let s := RekeyLock.run
      { underLock := true, inbox := [.handler true, .peerKexinit, .kexReply, .peerNewkeys] } [Tid.user, Tid.user]
    stepUser s = s ∧ stepTransport s = s ∧ ¬ finished s := by decide

/-- the same schedule with today's code runs to completion -/
example : finished (RekeyLock.run
      { underLock := false, inbox := [.handler true, .peerKexinit, .kexReply, .peerNewkeys] }
      [Tid.user, .user, .transport, .transport, .transport, .transport, .user]) ∧
    (RekeyLock.run { underLock := false, inbox := [.handler true, .peerKexinit, .kexReply, .peerNewkeys] }
      [Tid.user, .user, .transport, .transport, .transport, .transport, .user]).wire = [20, 30, 21, 96] := by
  decide +kernel

/-- **The tree under test.**  No call site of `_send_user_message` in a user-thread method of `Channel` is inside a
`Channel.lock` region (read from the AST on every run) — the hypothesis `underLock = false` of
`rekey_lock_progress` for every channel API call. -/
theorem user_sites_release_lock_first :
    ∀ site ∈ Generated.C11.sites, site.onTransportThread = false → site.underLock = false := by decide

/-- the transport-thread call sites of `_send_user_message` are exactly the handlers behind the self-block
findings (`_handle_request`, `_handle_close`; `_request_failed` and the discard branch of `_feed_extended` use the
same mechanism): a new one would be a new finding -/
theorem transport_thread_sites :
    ((Generated.C11.sites.filter (·.onTransportThread)).map (·.func)).eraseDups
      = ["_request_failed", "_feed_extended", "_handle_request", "_handle_close"] := by decide +kernel

/-- the handlers that can be blocked by a held lock -/
example : Generated.C11.handlers.lookup "_window_adjust" = some true := by decide +kernel

end Lock

/-! ## the send gate at step granularity: `_send_user_message` against `_send_kex_init` / `_parse_newkeys` -/

section Gate
open PV.SendGate

/-- the wire is: user data, then the exchange's messages so far, then — only once the exchange is over — user
data again -/
def WInv (s : SendGate.St) : Prop :=
  ∃ pre post, s.wire = pre ++ kexPart s.c.kpc ++ post ∧ (∀ t ∈ pre, t = 94) ∧ (∀ t ∈ post, t = 94) ∧
    (post ≠ [] → s.c.kpc = .done)

private theorem post_nil {post : List Nat} {k : KPc} (hdone : post ≠ [] → k = .done) (hk : k ≠ .done) :
    post = [] := by
  cases post with
  | nil => rfl
  | cons a as => exact absurd (hdone (List.cons_ne_nil a as)) hk

private theorem all94_snoc {l : List Nat} (h : ∀ t ∈ l, t = 94) : ∀ t ∈ l ++ [94], t = 94 :=
  List.forall_mem_append.2 ⟨h, by simp⟩

/-- a user step: a message is written only at `sending`, when (by `ginv`) no exchange is open — before it has begun
the message joins `pre`, after it has ended `post` -/
private theorem winv_user (s : SendGate.St) (safe : s.c.upc = .sending → s.c.kpc = .idle ∨ s.c.kpc = .done)
    (hw : WInv s) : WInv (SendGate.step s .user) := by
  obtain ⟨pre, post, hwire, hpre, hpost, hdone⟩ := hw
  show ∃ pre' post', s.wire ++ written s .user = pre' ++ kexPart (cuser _ _ s.c).kpc ++ post' ∧ _ ∧ _ ∧
    (post' ≠ [] → (cuser _ _ s.c).kpc = .done)
  rw [cuser_kpc, hwire]
  by_cases hs : s.c.upc = .sending
  · rw [show written s .user = [94] from if_pos hs]
    rcases safe hs with hi | hd
    · have hp := post_nil hdone (by simp [hi])
      exact ⟨pre ++ [94], [], by simp [hp, hi, kexPart], all94_snoc hpre, by simp, by simp⟩
    · exact ⟨pre, post ++ [94], by simp, hpre, all94_snoc hpost, fun _ => hd⟩
  · rw [show written s .user = [] from if_neg hs]
    exact ⟨pre, post, by simp, hpre, hpost, hdone⟩

/-- a step of the exchange: until it is over nothing follows its messages, so what it writes extends `kexPart` -/
private theorem winv_kex (s : SendGate.St) (hw : WInv s) : WInv (SendGate.step s .kex) := by
  obtain ⟨pre, post, hwire, hpre, hpost, hdone⟩ := hw
  obtain ⟨hpart, hfin⟩ := kexPart_step s
  show ∃ pre' post', s.wire ++ written s .kex = pre' ++ kexPart (ckex s.klock s.c).kpc ++ post' ∧ _ ∧ _ ∧
    (post' ≠ [] → (ckex s.klock s.c).kpc = .done)
  rw [hwire]
  by_cases hd : s.c.kpc = .done
  · have hwn : written s .kex = [] := by simp [written, hd]
    exact ⟨pre, post, by simp [hwn, hfin hd, hd], hpre, hpost, fun _ => hfin hd⟩
  · have hp := post_nil hdone hd
    exact ⟨pre, [], by simp [hpart, hp], hpre, by simp, by simp⟩

private theorem gate_run (sched : List SendGate.Tid) (s : SendGate.St) (hr : s.recheck = true) (hkl : s.klock = true)
    (hg : GInv s.c = true) (hw : WInv s) : WInv (SendGate.run s sched) := by
  induction sched generalizing s with
  | nil => exact hw
  | cons t ts ih =>
    obtain ⟨huser, hkex, safe⟩ := ginv s.c hg
    cases t with
    | user =>
      have hg' : GInv (cuser s.recheck (decide (s.todo > 1)) s.c) = true := by rw [hr]; exact huser _
      exact ih _ hr hkl hg' (winv_user s safe hw)
    | kex =>
      have hg' : GInv (ckex s.klock s.c) = true := by rw [hkl]; exact hkex
      exact ih _ hr hkl hg' (winv_kex s hw)

/-- **The send gate, every interleaving.**  With the re-check of the event under `clear_to_send_lock`, for any number
of user messages and any schedule of the user thread's and the exchange's steps: every user message is on the wire
either before our KEXINIT or after our NEWKEYS — between them only the exchange's own messages. -/
theorem send_gate_window_clean (n : Nat) (sched : List SendGate.Tid) :
    WInv (SendGate.run (SendGate.init true n) sched) := by
  refine gate_run sched _ rfl rfl ?_ ⟨[], [], rfl, nofun, nofun, fun h => absurd rfl h⟩
  cases n <;> rfl

/-- **Witness for the variant without the re-check** (trusting the result of `wait()`): the user thread returns
from `wait()`, the exchange starts and KEXINIT goes out, then the user thread takes the lock and writes — a
CHANNEL_DATA between our KEXINIT and our NEWKEYS. -/
theorem send_gate_no_recheck_witness :
    (SendGate.run (SendGate.init false 1)
      [.user, .kex, .kex, .kex, .kex, .user, .user, .kex, .kex]).wire = [20, 94, 30, 21] := by decide

/-- **Witness for the variant whose `_send_kex_init` clears the event without the lock** (the sender's re-check
under the lock is intact): a sender parked between its `is_set()` test and its write is overtaken — the event is
cleared and KEXINIT written while it still holds the lock, then its CHANNEL_DATA goes out inside the window. -/
theorem send_gate_unlocked_clear_witness :
    (SendGate.run (SendGate.init true 1 false)
      [.user, .user, .user, .kex, .kex, .kex, .kex, .user, .user, .kex, .kex]).wire = [20, 94, 30, 21] := by decide

/-- the same schedule with the re-check: the message waits for the end of the exchange -/
example : (SendGate.run (SendGate.init true 1)
    [.user, .kex, .kex, .kex, .kex, .user, .user, .kex, .kex, .kex, .kex, .kex, .user, .user, .user, .user, .user]).wire
      = [20, 30, 21, 94] := by decide +kernel

/-- **The tree under test** (AST of `Transport._send_user_message` / `_send_kex_init`, read on every run): the
`_send_message` call of `_send_user_message` is reached only through an `is_set()` test made while
`clear_to_send_lock` is held, `_send_kex_init` clears the event under that lock before it writes KEXINIT, and every
`clear_to_send.clear()` in transport.py is inside a `clear_to_send_lock` region. -/
theorem send_gate_facts :
    Generated.C11.sendRechecksUnderLock = true ∧ Generated.C11.kexInitClearsBeforeWrite = true ∧
      Generated.C11.allClearsUnderLock = true := by decide

/-- **What the "peer ignores our request" test counts** (AST of `Packetizer.read_message`, read on every run): the
packets and bytes received *since the request* (`received_*_overflow`), against the overflow allowances — not the
epoch totals that raised the request in the first place.  With the shipped 1:1 ratio of REKEY_BYTES and
REKEY_BYTES_OVERFLOW_MAX a test on the epoch total would drop every peer at the first packet after a
received-bytes-triggered request, in-flight data and the peer's own KEXINIT included. -/
theorem overflow_tests_count_from_the_request :
    Generated.C11.overflowTests =
      [("received_packets_overflow", "REKEY_PACKETS_OVERFLOW_MAX"),
       ("received_bytes_overflow", "REKEY_BYTES_OVERFLOW_MAX")] := by decide +kernel

/-- **Keepalives stay quiet while a re-exchange is pending** (AST of `Packetizer._check_keepalive`, read on every run):
the early return on `need_rekey` comes before the callback.  The callback is `Transport.global_request(…,
wait=False)`, i.e. `_send_user_message` *on the transport thread* — the self-block mechanism of
`C11_witness_selfblock` — and an idle time-out in the middle of an in-flight packet does reach `_check_keepalive`
with the request pending. -/
theorem keepalive_silent_while_rekey_pending : Generated.C11.keepaliveSilentWhileRekeyPending = true := by decide

/-- **A window credit that cannot be sent yet is parked, not dropped** (AST of `Channel.recv` / `recv_stderr`, read on
every run): once `_check_add_window` has handed out a credit (and zeroed `in_window_sofar`) the WINDOW_ADJUST is
sent under the plain test `ack > 0` — through `_send_user_message`, i.e. a user-thread message that the model parks
while an exchange is open and writes right after NEWKEYS (`C11_partial_delivery`).  Skipping the send while
`clear_to_send` is cleared would lose the credit for good: the peer's window shrinks with every re-exchange. -/
theorem window_credit_parked_not_dropped : Generated.C11.recvSendsEveryComputedAck = true := by decide

/-- **Who writes past the send gate** (AST of transport.py, read on every run): `_send_message` is called directly only
by the gate itself (`_send_user_message`), by code that runs on the transport thread as part of the exchange or as a
handler (`run`, `_send_kex_init`, `_activate_outbound`, `_parse_global_request`, `_parse_channel_open` — the last two
are the `reply-during-kex` findings) and by `ServiceRequestingTransport.ensure_session` (before authentication).  No
user-facing sender — `global_request` in either form, `open_channel`, `send_ignore`, … — is on the list: user threads
reach the wire through `_send_user_message` only, which is what `send_gate_window_clean` and `C11_partial` rely on. -/
theorem only_exchange_code_bypasses_the_gate :
    Generated.C11.sendMessageCallers =
      ["Transport._send_user_message", "Transport.run", "Transport._send_kex_init", "Transport._activate_outbound",
       "Transport._parse_global_request", "Transport._parse_channel_open",
       "ServiceRequestingTransport.ensure_session"] := by decide +kernel

/-- Every KEXINIT this side sends — from the run loop, from `renegotiate_keys`, or from `_negotiate_keys` answering the
peer's — is sent by `_send_kex_init`, which raises `in_kex` before it writes the packet (read from the AST every run).
So while an exchange is open the run loop's `need_rekey() and not in_kex` test cannot send a second KEXINIT into it. -/
theorem every_kexinit_marks_the_exchange_open : Generated.C11.kexInitMarksExchangeOpen = true := by decide

end Gate

end PV.Props.C11
