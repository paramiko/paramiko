/-
  C20 — Channel flow control never deadlocks while the receiver keeps reading.
  Model: PV/Model/ChanPair.lean (two Channel objects and the two links between them) over
  PV/Model/ChanWindow.lean; lemmas: PV/Model/ChanPairLemmas.lean, PV/Model/ChanFlowLemmas.lean.
  `fixedCfg` = the tree after the repair (discarded extended data is credited); `oldCfg` = before.
-/
import PV.Model.ChanPairLemmas
import PV.Model.ChanDrainLemmas
import PV.Model.ChanNotifyLemmas
import PV.Generated.ChanLock
import PV.Generated.C20
namespace PV.Props.C20
open PV.Chan PV.ChanPair

private theorem pairInv_init (winA maxA winB maxB nthr : Nat) :
    PairInv winB (initPair winA maxA winB maxB nthr) := by
  have hd := sumBy_init TSt.heldData rfl winA winB maxB nthr false
  have ha := sumBy_init TSt.heldAdj rfl winB winA maxA nthr false
  refine ⟨?_, ?_, ?_, ?_, ?_, ?_, rfl⟩
  · simp [WInv, initPair, heldDataAll, hd]; simp [init, dataSum]
  · simp [SofarInv, initPair, init]
  · intro _; simp [EqCore, initPair, heldAdjAll, ha]; simp [init, adjSum]
  · simp [AInv, initPair, heldAdjAll, ha]; simp [init, adjSum]
  · intro _; simp [initPair, init, dataSum]
  · intro _; simp [initPair, init, adjSum]

/-- **Conservation, every schedule.**  Whatever both applications, both transport threads and the network do
    (any list of local lock regions on either side and deliveries on either link), as long as both channels are
    still registered and the receiver has not closed / seen EOF: the window b advertised is, byte for byte,
    somewhere — a's remaining window, reserved by a's writers, in flight, buffered at b, read but not yet
    accounted, in `in_window_sofar`, in an ack b has computed, or in an ack in flight. -/
theorem conservation (winA maxA winB maxB nthr : Nat) (sched : List PAct) (y : Sys)
    (hy : y = prun fixedCfg (initPair winA maxA winB maxB nthr) sched) :
    y.a.linked = true → y.b.linked = true → acct y.b = true → credits y = winB := by
  subst hy
  intro ha hb hacc
  exact credits_of_pairInv winB _ (prun_pairInv fixedCfg rfl winB _ sched (pairInv_init winA maxA winB maxB nthr)) ha hb hacc

/-- the same for the b→a direction (the model is symmetric) -/
theorem conservation_reverse (winA maxA winB maxB nthr : Nat) (sched : List PAct) (y : Sys)
    (hy : y = prun fixedCfg (initPair winA maxA winB maxB nthr) sched) :
    y.a.linked = true → y.b.linked = true → acct y.a = true → credits (swap y) = winA := by
  intro ha hb hacc
  have hs : swap y = prun fixedCfg (initPair winB maxB winA maxA nthr) (sched.map PAct.swap) := by
    rw [hy, ← prun_swap]; rfl
  exact conservation winB maxB winA maxA nthr _ (swap y) hs hb ha hacc

/-- Every byte the peer delivered — data, stderr data, and extended data of types paramiko throws away — is
    buffered for the reader, or pending in `in_window_sofar` / an ack being written, or has been acked. -/
theorem every_byte_counts_back (winA maxA winB maxB nthr : Nat) (sched : List PAct) (y : Sys)
    (hy : y = prun fixedCfg (initPair winA maxA winB maxB nthr) sched) :
    acct y.b = true →
      y.b.recvd = y.b.inBuf + y.b.errBuf + heldAdjAll y.b.thr + y.b.inSofar + adjSum y.b.wire ∧
      y.b.inSofar ≤ winB / 10 := by
  subst hy
  intro hacc
  have hi := prun_pairInv fixedCfg rfl winB _ sched (pairInv_init winA maxA winB maxB nthr)
  have h1 := hi.acksExact hacc
  have h2 := hi.acks.2
  have h3 := hi.sofar
  have h4 : (prun fixedCfg (initPair winA maxA winB maxB nthr) sched).b.inThreshold = winB / 10 :=
    (prun_sides (P := fun _ => True) (Q := fun s => s.inThreshold = winB / 10) fixedCfg (fun _ _ h => h)
      (fun s a h => (step_sound fixedCfg s a).fixed.2.1.trans h) _ sched ⟨trivial, rfl⟩).2
  simp only [EqCore, SofarInv] at *
  refine ⟨by omega, by omega⟩

/-- a state in which nothing is in flight and nobody is in the middle of anything: the reader has read
    everything that arrived, every ack has been written and delivered, no writer of a holds reserved bytes -/
def Quiescent (y : Sys) : Prop :=
  dataSum y.ab = 0 ∧ adjSum y.ba = 0 ∧ heldDataAll y.a.thr = 0 ∧ heldAdjAll y.b.thr = 0 ∧
  y.b.inBuf = 0 ∧ y.b.errBuf = 0

instance (y : Sys) : Decidable (Quiescent y) := by unfold Quiescent; infer_instance

/-- **No flow-control deadlock.**  In every reachable quiescent state of an open channel the sender's window is
    at least 90 % of what the receiver advertised (the rest sits in `in_window_sofar`, below the 10 %
    threshold) — in particular it is positive: "writer blocked on a zero window, reader has read everything,
    nothing in flight" cannot occur. -/
theorem stuck_impossible (winA maxA winB maxB nthr : Nat) (sched : List PAct) (y : Sys)
    (hy : y = prun fixedCfg (initPair winA maxA winB maxB nthr) sched) :
    y.a.linked = true → y.b.linked = true → acct y.b = true → Quiescent y →
      y.a.outWin + y.b.inSofar = winB ∧ y.b.inSofar ≤ winB / 10 ∧ (0 < winB → 0 < y.a.outWin) := by
  intro ha hb hacc hq
  have hc := conservation winA maxA winB maxB nthr sched y hy ha hb hacc
  have he := (every_byte_counts_back winA maxA winB maxB nthr sched y hy hacc).2
  obtain ⟨q1, q2, q3, q4, q5, q6⟩ := hq
  simp only [credits] at hc
  refine ⟨by omega, he, ?_⟩
  intro hw
  have : winB / 10 < winB := Nat.div_lt_self hw (by decide)
  omega

/-- … and then a writer that was waiting does get window: woken in such a state (its timeout not yet expired,
    channel not shut down for writing) it leaves `_wait_for_send_window` with a non-empty reservation. -/
theorem quiescent_sender_proceeds (s : St) (t want : Nat) (ext : Bool) (lp : Option Loop)
    (hw : 0 < want) (ho : 0 < s.outWin) (hp : 64 < s.maxPkt) (hc : s.closed = false) (he : s.eofSent = false)
    (hr : s.thr[t]? = some (.waiting want ext none lp)) :
    ∃ n k, 0 < n ∧ (step fixedCfg s (.wake t 0)).thr[t]? = some (.hold [mkData ext n] k) := by
  have hne : s.outWin ≠ 0 := by omega
  have hpos := allocate_pos s want hw ho hp
  have hane : allocate s want ≠ 0 := by omega
  refine ⟨allocate s want, match (generalizing := false) lp with
    | none => .retN (allocate s want) | some l => .loop l ext (allocate s want),
    hpos, ?_⟩
  simp only [step, hr, wakeRegion, hne, if_false, hc, he, Bool.or_self, Bool.false_eq_true, grant, hane]
  exact setThr_get _ hr

/-! ## liveness skeleton: draining terminates, and a drained system is quiescent -/

private theorem sofar_reach (winA maxA winB maxB nthr : Nat) (sched : List PAct) :
    SofarInv (prun fixedCfg (initPair winA maxA winB maxB nthr) sched).a ∧
    SofarInv (prun fixedCfg (initPair winA maxA winB maxB nthr) sched).b :=
  prun_sides fixedCfg (step_sofar fixedCfg) (step_sofar fixedCfg) _ sched
    ⟨by simp [SofarInv, initPair, init], by simp [SofarInv, initPair, init]⟩

/-- **Draining terminates.**  From any reachable state, a run that consists only of enabled drain actions —
    a thread writing a message it holds, a link delivering its next message, a reader taking buffered bytes, a
    reader's `_check_add_window` — has at most `mu y` steps (`mu` = weighted count of messages held or in flight,
    buffered bytes and still-open channels).  So if the network, the reader and the writers' pending wire writes
    keep being scheduled (fairness), the system reaches a state in which none of them is enabled. -/
theorem draining_terminates (winA maxA winB maxB nthr : Nat) (sched : List PAct) (y : Sys)
    (hy : y = prun fixedCfg (initPair winA maxA winB maxB nthr) sched) (ps : List PAct) (h : DrainRun y ps) :
    ps.length ≤ mu y := by
  subst hy
  have hs := sofar_reach winA maxA winB maxB nthr sched
  have := drainRun_bounded _ ps h hs.1 hs.2
  omega

/-- **A drained system is quiescent.**  If no drain action is enabled and each side has an idle thread (b's
    reader is between two `recv` calls, a's transport thread is idle), then nothing is in flight, nobody holds a
    message or unaccounted bytes, and b's buffers are empty. -/
theorem drained_is_quiescent (y : Sys) (ta tb : Nat) (hia : idleOf y.a ta = true) (hib : idleOf y.b tb = true)
    (hnone : ∀ p, ¬ Drain y p) : Quiescent y := by
  have hab : y.ab = [] := by
    cases h : y.ab with
    | nil => rfl
    | cons m rest => exact absurd (Drain.deliverAB tb 0 m rest h hib) (hnone _)
  have hba : y.ba = [] := by
    cases h : y.ba with
    | nil => rfl
    | cons m rest => exact absurd (Drain.deliverBA ta 0 m rest h hia) (hnone _)
  have hA : ∀ x ∈ y.a.thr, x.heldData = 0 := by
    intro x hx
    obtain ⟨t, ht⟩ := List.mem_iff_getElem?.1 hx
    cases x with
    | hold ms k =>
      cases ms with
      | nil => rfl
      | cons m ms => exact absurd (Drain.left _ (SideDrain.emit t m ms k ht)) (hnone _)
    | _ => rfl
  have hB : ∀ x ∈ y.b.thr, x.heldAdj = 0 := by
    intro x hx
    obtain ⟨t, ht⟩ := List.mem_iff_getElem?.1 hx
    cases x with
    | hold ms k =>
      cases ms with
      | nil => rfl
      | cons m ms => exact absurd (Drain.right _ (SideDrain.emit t m ms k ht)) (hnone _)
    | gotBytes n => exact absurd (Drain.right _ (SideDrain.check t n ht)) (hnone _)
    | _ => rfl
  have hin : y.b.inBuf = 0 := by
    cases h : y.b.inBuf with
    | zero => rfl
    | succ n =>
      exact absurd (Drain.right _ (SideDrain.recv tb 1 false hib (by decide) (by simp [h]))) (hnone _)
  have herr : y.b.errBuf = 0 := by
    cases h : y.b.errBuf with
    | zero => rfl
    | succ n =>
      exact absurd (Drain.right _ (SideDrain.recv tb 1 true hib (by decide) (by simp [h]))) (hnone _)
  refine ⟨by rw [hab]; rfl, by rw [hba]; rfl, sumBy_zero _ _ hA, sumBy_zero _ _ hB, hin, herr⟩

/-- **Putting it together.**  Whenever draining has run its course on an open channel, the sender's window is at
    least 90 % of the advertised one: a writer with pending data is then served (`quiescent_sender_proceeds`).
    Fairness (the drain actions and the writer's wake-up do get scheduled) is the only hypothesis left. -/
theorem drained_sender_window_open (winA maxA winB maxB nthr : Nat) (sched : List PAct) (y : Sys)
    (hy : y = prun fixedCfg (initPair winA maxA winB maxB nthr) sched) (ta tb : Nat)
    (hia : idleOf y.a ta = true) (hib : idleOf y.b tb = true) (hnone : ∀ p, ¬ Drain y p)
    (ha : y.a.linked = true) (hb : y.b.linked = true) (hacc : acct y.b = true) (hw : 0 < winB) :
    0 < y.a.outWin ∧ winB ≤ y.a.outWin + winB / 10 := by
  have hq := drained_is_quiescent y ta tb hia hib hnone
  obtain ⟨h1, h2, h3⟩ := stuck_impossible winA maxA winB maxB nthr sched y hy ha hb hacc hq
  exact ⟨h3 hw, by omega⟩

/-- non-vacuity: a state with data in flight, buffered and an ack pending has a positive measure and a drain
    run of 6 steps that ends drained -/
example :
    let y := prun fixedCfg (initPair 32768 32768 32768 4096 2) [.left (.send 0 4032 false), .left (.emit 0)]
    mu y = 16149 ∧
    mu (prun fixedCfg y [.deliverAB 1 1, .right (.recv 0 5000 false), .right (.check 0), .right (.emit 0),
                         .deliverBA 1 0]) = 20 := by
  decide +kernel

/-- **Channel messages name the peer's id.**  Nowhere in class Channel is a message addressed with our own
    `chanid` (`add_int(self.chanid)`), only with `remote_chanid` (counts from the AST of channel.py on this run).
    The model's links deliver to "the other side", which presupposes this: an acknowledgement addressed to our
    own id never reaches the sender and its window is not replenished. -/
theorem messages_name_the_peers_id :
    PV.Generated.ChanLock.ownIdInMessages = 0 ∧ 0 < PV.Generated.ChanLock.remoteIdInMessages := by
  decide

/-- **No wire write under the channel lock.**  No method of class Channel calls `transport._send_user_message` /
    `_send_message` inside a `self.lock` region — neither lexically nor through a helper that may be called with
    the lock held (AST of channel.py on this run).  `_send_user_message` blocks for the whole of a key
    re-negotiation; the transport thread needs `Channel.lock` to take in stderr data, window adjustments, EOF and
    CLOSE — so a write under the lock stalls the very thread that has to finish the re-key.  In the model this is
    the separation of every lock region from the `emit` actions that follow it. -/
theorem no_send_under_channel_lock : PV.Generated.ChanLock.sendsUnderLock = [] := by
  decide

/-- **Each end configures its receive side with exactly the sizes it advertises**: the arguments of
    `chan._set_window(…)` and the window / max-packet fields written into CHANNEL_OPEN_CONFIRMATION
    (`_parse_channel_open`, the acceptor) and CHANNEL_OPEN (`open_channel`, the initiator) are the same expressions
    (AST of transport.py on this run).  This is what `initPair` assumes: the receiver's adjust threshold is a tenth
    of the window the SENDER was given, whatever the other end announced for its own receive side. -/
theorem receive_side_uses_the_advertised_sizes :
    PV.Generated.C20.acceptorSetWindow.length = 2 ∧
    PV.Generated.C20.acceptorSetWindow = PV.Generated.C20.acceptorAdvertised ∧
    PV.Generated.C20.initiatorSetWindow.length = 2 ∧
    PV.Generated.C20.initiatorSetWindow = PV.Generated.C20.initiatorAdvertised := by
  decide

/-- … and with that the threshold never exceeds what the sender may send, for ANY pair of independently chosen
    windows: after any schedule `in_window_threshold` of side b is `winB / 10 ≤ winB` = the initial window of side a
    (so the credit of `every_byte_counts_back` always becomes an adjust before the sender's window can run dry
    for good: `stuck_impossible`). -/
theorem threshold_within_the_advertised_window (winA maxA winB maxB nthr : Nat) :
    (initPair winA maxA winB maxB nthr).b.inThreshold = winB / 10 ∧
    (initPair winA maxA winB maxB nthr).b.inThreshold ≤ (initPair winA maxA winB maxB nthr).a.outWin ∧
    (initPair winA maxA winB maxB nthr).a.inThreshold ≤ (initPair winA maxA winB maxB nthr).b.outWin := by
  refine ⟨rfl, ?_, ?_⟩
  · show winB / 10 ≤ winB
    exact Nat.div_le_self _ _
  · show winA / 10 ≤ winA
    exact Nat.div_le_self _ _

/-- **`in_window_sofar` is only read and written under the channel lock**: every mention of it inside
    `_check_add_window` is lexically inside the `self.lock` region, and nothing else touches it but the constructor
    and `_set_window` (before the channel is active) — table generated from the AST of channel.py on this run.
    `_check_add_window` is entered by up to three threads (a `recv` reader, a `recv_stderr` reader, the transport
    thread discarding extended data); this fact is what makes it ONE atomic action of the model (`check`, `feedExt`),
    which `conservation` / `every_byte_counts_back` rely on: an unlocked load … store of the counter loses one
    caller's bytes, and lost credit takes the sender's window to zero for good. -/
theorem sofar_accounting_is_under_the_lock :
    (∀ a ∈ PV.Generated.ChanLock.sofarAccesses,
      a.1 = "_check_add_window" ∨ (a.2.1 = true ∧ (a.1 = "__init__" ∨ a.1 = "_set_window"))) ∧
    (∀ a ∈ PV.Generated.ChanLock.sofarAccesses, a.1 = "_check_add_window" → a.2.2 = true) ∧
    (PV.Generated.ChanLock.sofarAccesses.any fun a => a.1 == "_check_add_window" && a.2.1) = true := by
  decide

/-! ## several parked senders: nobody is left asleep (notify_all vs notify) -/

/-- how the code wakes sleepers, read from the table generated from the AST of channel.py on this run: a call
    site counts as "all" only if EVERY `out_buffer_cv.notify…` call in that method is `notify_all` -/
def codeNCfg : NCfg :=
  { adjustAll := (PV.Generated.ChanLock.notifies.filter (·.caller == "_window_adjust")).all (·.all) &&
                 !(PV.Generated.ChanLock.notifies.filter (·.caller == "_window_adjust")).isEmpty,
    closeAll := (PV.Generated.ChanLock.notifies.filter (·.caller == "_set_closed")).all (·.all) &&
                !(PV.Generated.ChanLock.notifies.filter (·.caller == "_set_closed")).isEmpty }

/-- **`_window_adjust` and `_set_closed` wake ALL sleepers, under the channel lock** (every
    `out_buffer_cv.notify…` call site of channel.py, regenerated from the source on every run). -/
theorem wakeups_notify_all :
    codeNCfg.adjustAll = true ∧ codeNCfg.closeAll = true ∧
    ∀ n ∈ PV.Generated.ChanLock.notifies, n.effLocked = true := by
  decide

/-- **No lost wake-up, any number of parked senders, every schedule** (strict scheduling: a sleeper runs again
    only when notified or timed out): a sender asleep in `_wait_for_send_window` that has no notification pending
    sees `out_window_size = 0`.  Hence whenever the window is open — in particular in every drained state of an
    open channel (`drained_sender_window_open`) — EVERY parked sender has been notified, will run
    (`notified_sleeper_is_enabled`) and, on an open channel, leaves with a reservation
    (`quiescent_sender_proceeds`, which is per thread). -/
theorem no_lost_wakeup (cfg : Cfg) (inWin peerWin peerMax nthr : Nat) (c : Bool) (sched : List Act) (t : Nat) :
    let z := nrun codeNCfg cfg (ninit (init inWin peerWin peerMax nthr c)) sched
    isWaitingAt z.base t = true → 0 < z.base.outWin → t ∈ z.sig :=
  parked_sender_notified codeNCfg wakeups_notify_all.1 cfg inWin peerWin peerMax nthr c sched t

/-- a notified sleeper is not held back by the strict scheduler: its wake-up executes the base model's region -/
theorem notified_sleeper_is_enabled (n : NCfg) (cfg : Cfg) (z : NSt) (t dt : Nat) (h : t ∈ z.sig) :
    (nstep n cfg z (.wake t dt)).base = step cfg z.base (.wake t dt) := by
  simp [nstep, h]

/-- **What `notify()` instead of `notify_all()` in `_window_adjust` does** (the configuration the code does NOT
    have): two senders parked on a zero window, one adjustment of 1000 bytes wakes only the first; it sends its
    100 bytes and returns; the second stays asleep, un-notified, with 900 bytes of window open — and its wake-up
    is not enabled. -/
theorem notify_one_strands_second_sender_witness :
    let n : NCfg := { adjustAll := false, closeAll := true }
    let z := nrun n fixedCfg (ninit (init 32768 0 32768 2 false))
      [.send 0 100 false, .send 1 100 true, .adjust 1000, .wake 0 0, .emit 0, .wake 1 0]
    z.base.outWin = 900 ∧ z.base.thr = [.idle (.ret 100), .waiting 100 true none none] ∧ z.sig = [] ∧
    (nstep n fixedCfg z (.wake 1 0)).base.thr = z.base.thr := by
  decide +kernel

/-- the same schedule with the code's `notify_all`: both get through -/
example :
    let z := nrun codeNCfg fixedCfg (ninit (init 32768 0 32768 2 false))
      [.send 0 100 false, .send 1 100 true, .adjust 1000, .wake 0 0, .emit 0, .wake 1 0, .emit 1]
    z.base.outWin = 800 ∧ z.base.thr = [.idle (.ret 100), .idle (.ret 100)] ∧ z.base.wire = [.data 100, .ext 100] := by
  decide +kernel

/-- **The defect (code before the repair).**  One stderr-type message of 100 bytes that the receiver handles
    as extended data of type 2: the bytes are thrown away and never credited — the credits of the direction
    drop from 32768 to 32668 for good, although both channels are open and everything is drained. -/
theorem C20_witness :
    let y := prun oldCfg (initPair 32768 32768 32768 32768 2)
      [.left (.send 0 100 true), .left (.emit 0), .deliverAB 1 2]
    y.a.linked = true ∧ y.b.linked = true ∧ acct y.b = true ∧ Quiescent y ∧ credits y = 32668 ∧
    y.b.discarded = 100 := by
  decide +kernel

/-- the same schedule on the repaired code: the discarded bytes sit in `in_window_sofar` -/
example :
    let y := prun fixedCfg (initPair 32768 32768 32768 32768 2)
      [.left (.send 0 100 true), .left (.emit 0), .deliverAB 1 2]
    credits y = 32768 ∧ y.b.inSofar = 100 ∧ Quiescent y := by
  decide +kernel

/-- non-vacuity of `stuck_impossible`: a schedule that exhausts the window with discarded data, drains, and is
    quiescent with everything credited back -/
example :
    let y := prun fixedCfg (initPair 32768 32768 32768 4096 2)
      [.left (.send 0 4032 true), .left (.emit 0), .deliverAB 1 3, .right (.emit 1), .deliverBA 1 0,
       .left (.send 0 4032 false), .left (.emit 0), .deliverAB 1 1, .right (.recv 0 5000 false),
       .right (.check 0), .right (.emit 0), .deliverBA 1 0]
    Quiescent y ∧ y.a.outWin = 32768 ∧ y.b.discarded = 4032 ∧ y.b.consumed = 4032 ∧ acct y.b = true := by
  decide +kernel

end PV.Props.C20
