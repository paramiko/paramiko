/-
  C03 — Outgoing packets are framed and padded as RFC 4253 §6 requires.
  Model: PV/Model/Packet.lean (`buildPacket`, `sendMessage`).  The padding / length-field / zero-padding /
  sequence-number / read-size kernels and the cipher × MAC table come from PV/Generated/C03.lean, which the
  check regenerates from paramiko's source on every run.
-/
import PV.Model.PacketLemmas
import PV.Model.PacketWrite
import PV.Generated.C03
namespace PV.Props.C03
open PV PV.Packet
namespace Gen
export PV.Generated.C03 (Row outRows inRows build_packet_padding build_packet_length_field build_packet_zero_pad
  send_next_seq read_next_seq read_remaining_etm read_remaining_aead read_bad_blocking read_classic_size
  write_all_retry_n write_all_zero_limit send_lock_acquire_unconditional send_lock_released_in_finally
  send_shared_state_outside_lock send_shared_state_inside_lock)
end Gen

/-! ## the model's kernels are the ones in the source (translated from the AST) -/

private theorem addlen_flags (etm aead : Bool) :
    ((if (etm || aead) then (4 : Int) else (8 : Int)) = ((if (etm || aead) then 4 else 8 : Nat) : Int)) := by
  cases etm <;> cases aead <;> rfl

/-- `padLen` (model) = `padding` of `Packetizer._build_packet` (generated), for every positive block size,
every payload length and both framings -/
theorem padding_eq_generated (b l : Nat) (etm aead : Bool) (hb : 0 < b) :
    ((padLen b (if (etm || aead) then 4 else 8) l : Nat) : Int) = Gen.build_packet_padding b l etm aead := by
  unfold Gen.build_packet_padding padLen
  simp only
  rw [addlen_flags]
  have h := Nat.mod_lt (l + (if (etm || aead) then 4 else 8)) hb
  have hc : (((l + (if (etm || aead) = true then 4 else 8 : Nat)) % b : Nat) : Int)
      = ((l : Int) + ((if (etm || aead) = true then 4 else 8 : Nat) : Int)) % (b : Int) := by
    rw [Int.natCast_emod, Int.natCast_add]
  rw [← hc]
  omega

/-- the length field written by the model is the one `struct.pack(">IB", …)` gets in the source -/
theorem length_field_eq_generated (b l : Nat) (etm aead : Bool) (hb : 0 < b) :
    ((l + padLen b (if (etm || aead) then 4 else 8) l + 1 : Nat) : Int)
      = Gen.build_packet_length_field b l etm aead := by
  have h := padding_eq_generated b l etm aead hb
  unfold Gen.build_packet_length_field
  unfold Gen.build_packet_padding at h
  simp only at h ⊢
  rw [← h]
  omega

theorem zero_pad_eq_generated (sdctr engineNone : Bool) :
    zeroPadCond sdctr engineNone = Gen.build_packet_zero_pad sdctr engineNone := rfl

theorem next_seq_eq_generated (n : Nat) :
    ((nextSeq n : Nat) : Int) = Gen.send_next_seq n ∧ ((nextSeq n : Nat) : Int) = Gen.read_next_seq n := by
  unfold nextSeq Gen.send_next_seq Gen.read_next_seq
  omega

theorem read_sizes_eq_generated (psize block macLen leftover : Nat) :
    remainingEtm psize block = Gen.read_remaining_etm psize block ∧
    remainingAead psize block macLen = Gen.read_remaining_aead psize block macLen ∧
    classicSize psize macLen leftover = Gen.read_classic_size psize macLen leftover ∧
    badBlocking psize leftover block = Gen.read_bad_blocking psize leftover block := by
  refine ⟨rfl, rfl, rfl, rfl⟩

/-- the two constants of the `write_all` loop the model uses are the ones in the source: after a timed-out /
EAGAIN `send` the loop continues with `n = 0` (assigned on every retried iteration), and the zero-return limit -/
theorem write_all_consts_eq_generated :
    ((retryN : Nat) : Int) = Gen.write_all_retry_n ∧ ((zeroLimit : Nat) : Int) = Gen.write_all_zero_limit := by
  decide

/-- packets of concurrent senders cannot interleave on the wire: `send_message` builds, encrypts, MACs and writes
each packet inside ONE `__write_lock` region entered by an unconditional blocking `acquire()` and left in a
`finally`, with no shared-state access outside it (facts read from the AST on every run) — so the wire is a
concatenation of whole packets, each framed as `send_framing` says -/
theorem one_write_lock_region_generated :
    Gen.send_lock_acquire_unconditional = true ∧ Gen.send_lock_released_in_finally = true ∧
    Gen.send_shared_state_outside_lock = 0 ∧ 0 < Gen.send_shared_state_inside_lock := by
  decide

/-! ## padding bounds and alignment: all payload lengths, all block sizes -/

/-- RFC 4253 §6: between 4 and 255 bytes of padding, for every payload length, every block size 8…252 and
either framing (`addlen`) -/
theorem pad_bounds (b a l : Nat) (hb8 : 8 ≤ b) (hb : b ≤ 252) :
    4 ≤ padLen b a l ∧ padLen b a l ≤ 255 := by
  have h1 := padLen_ge b a l (by omega)
  have h2 := padLen_le b a l
  omega

/-- classic framing: length field + body is a whole number of blocks -/
theorem classic_aligned (b l : Nat) (hb : 0 < b) : (4 + (l + padLen b 8 l + 1)) % b = 0 :=
  padLen8_total_mod b l hb

/-- encrypt-then-MAC and AES-GCM framing: the body without the length field is a whole number of blocks -/
theorem etm_aead_aligned (b l : Nat) (hb : 0 < b) : (l + padLen b 4 l + 1) % b = 0 :=
  padLen4_body_mod b l hb

example : padLen 16 8 1 = 10 ∧ padLen 16 4 11 = 4 ∧ padLen 8 8 0 = 11 ∧ padLen 252 4 248 = 255 := by decide

/-- `_build_packet` succeeds for every payload below 2^32 − 300 bytes and every block size 8…252, and the
packet is `length ‖ padlen ‖ payload ‖ padding` with `length = 1 + |payload| + padlen`, 4 ≤ padlen ≤ 255 -/
theorem build_packet_frame (b a : Nat) (z : Bool) (payload rnd : Bytes) (hb8 : 8 ≤ b) (hb : b ≤ 252)
    (hl : payload.length + 300 < 4294967296) :
    ∃ P padding, buildPacket b a z payload rnd = .ok P ∧
      4 ≤ padding.length ∧ padding.length ≤ 255 ∧
      P = be32 (payload.length + padding.length + 1) ++ [UInt8.ofNat padding.length] ++ payload ++ padding ∧
      beVal (P.take 4) = payload.length + padding.length + 1 ∧
      padding.length = padLen b a payload.length := by
  obtain ⟨P, hP⟩ := buildPacket_total b a z payload rnd hb8 hb hl
  obtain ⟨hb0, padding, hpl, hpad, hps, rfl⟩ := buildPacket_ok hP
  refine ⟨_, padding, hP, hpl ▸ padLen_ge b a _ hb0, hpad, by simp, ?_, hpl⟩
  rw [take4_be32_append]
  exact beVal_be32 _ hps

/-! ## what `send_message` puts on the wire -/

/-- the frame of RFC 4253 §6 for the payload `payload` (after compression) with padding `padding` -/
def body (payload padding : Bytes) : Bytes := [UInt8.ofNat padding.length] ++ payload ++ padding

/-- Every packet `send_message` writes: a padding of 4…255 bytes exists such that, with
`psize = 1 + |payload| + |padding|` (< 2^32),
* no cipher: wire = `psize ‖ body`, and 4 + psize is a multiple of the block size;
* classic: wire = `Enc(psize ‖ body) ‖ mac[:macLen]`, 4 + psize is a multiple of the block size, total length
  4 + psize + macLen;
* etm: wire = `psize ‖ Enc(body) ‖ mac[:macLen]`, psize is a multiple of the block size, total 4 + psize + macLen;
* aead: wire = `psize ‖ Seal(body, aad = psize)`, psize is a multiple of the block size, total 4 + psize + tagLen. -/
theorem send_framing {p : Prims} {blk : p.CSt → Nat} {Paired : p.CSt → p.CSt → Prop} {tagLen : Nat}
    (L : CipherLaws p blk Paired) (A : AeadLaws p tagLen)
    (s : Sender p) (data rnd : Bytes) (o : SendOut p) (h : sendMessage s data rnd = .ok o) :
    ∃ padding : Bytes, 4 ≤ padding.length ∧ padding.length ≤ 255 ∧
      let payload := (compOut s.comp data).2
      let psize := payload.length + padding.length + 1
      psize < 4294967296 ∧
      match s.ciph with
      | .plain => o.wire = be32 psize ++ body payload padding ∧ (4 + psize) % s.block = 0
      | .classic st mk => blk st = s.block → MacOk p mk s.macLen →
          o.wire = (p.enc st (be32 psize ++ body payload padding)).2
                    ++ (p.mac mk (be32 s.seq ++ (be32 psize ++ body payload padding))).take s.macLen ∧
          (4 + psize) % s.block = 0 ∧ o.wire.length = 4 + psize + s.macLen
      | .etm st mk => blk st = s.block → MacOk p mk s.macLen →
          o.wire = be32 psize ++ (p.enc st (body payload padding)).2
                    ++ (p.mac mk (be32 s.seq ++ (be32 psize ++ (p.enc st (body payload padding)).2))).take s.macLen ∧
          psize % s.block = 0 ∧ o.wire.length = 4 + psize + s.macLen
      | .aead k iv =>
          o.wire = be32 psize ++ p.aenc k iv (body payload padding) (be32 psize) ∧
          psize % s.block = 0 ∧ o.wire.length = 4 + psize + tagLen := by
  obtain ⟨B, padding, c, hS⟩ := sendMessage_ok h
  obtain ⟨st, wire, auth⟩ := o
  have hB : B = body (compOut s.comp data).2 padding := hS.body
  have hl : (body (compOut s.comp data).2 padding).length = (compOut s.comp data).2.length + padding.length + 1 := by
    simp only [body, List.length_append, List.length_singleton]; omega
  have hen := hS.enc
  have hps := hS.size
  have hal8 := hS.aligned8
  have hal4 := hS.aligned4
  rw [hB, hl] at hen hps hal8 hal4
  refine ⟨padding, hS.pad_ge, hS.pad_le, hps, ?_⟩
  cases hc : s.ciph with
  | plain =>
    rw [encrypt_plain hc, Except.ok.injEq, Prod.mk.injEq, Prod.mk.injEq] at hen
    obtain ⟨-, rfl, -⟩ := hen
    exact ⟨rfl, hal8 (by rw [hc]; rfl)⟩
  | classic st mk =>
    intro hblk hmac
    rw [encrypt_classic hc, Except.ok.injEq, Prod.mk.injEq, Prod.mk.injEq] at hen
    obtain ⟨-, rfl, -⟩ := hen
    have hal := hal8 (by rw [hc]; rfl)
    refine ⟨rfl, hal, ?_⟩
    simp only
    rw [List.length_append, L.enc_len st _ (by rw [hblk, List.length_append, be32_length, hl]; exact hal),
      List.length_append, be32_length, hl, List.length_take, Nat.min_eq_left (hmac _)]
  | etm st mk =>
    intro hblk hmac
    rw [encrypt_etm hc, Except.ok.injEq, Prod.mk.injEq, Prod.mk.injEq] at hen
    obtain ⟨-, rfl, -⟩ := hen
    have hal := hal4 (by rw [hc]; rfl)
    refine ⟨rfl, hal, ?_⟩
    simp only
    rw [List.length_append, List.length_append, be32_length, L.enc_len st _ (by rw [hblk, hl]; exact hal), hl,
      List.length_take, Nat.min_eq_left (hmac _)]
  | aead k iv =>
    obtain ⟨iv', -, -, rfl, -⟩ := encrypt_aead_ok hc hen
    refine ⟨rfl, hal4 (by rw [hc]; rfl), ?_⟩
    simp only
    rw [List.length_append, be32_length, A.aenc_len, hl]
    omega

/-- **What reaches the socket is the framed packet.** `write_all` under ANY schedule of `send` outcomes (short
writes of any size incl. 0, `socket.timeout`, `EAGAIN`, in any order): when it returns, the bytes the socket accepted
are exactly the packet handed to it — so `send_framing` describes the wire; when it raises `EOFError` they are a
proper prefix.  Nothing is skipped, repeated or reordered. -/
theorem wire_is_the_framed_packet (sched : List SendEv) (packet : Bytes) :
    (∀ wr, writeAll sched packet 0 [] = .ok wr → wr = packet) ∧
    (∀ wr, writeAll sched packet 0 [] = .eof wr → ∃ k, wr = packet.take k ∧ k < packet.length) := by
  obtain ⟨h1, h2⟩ := writeAll_spec sched packet 0 []
  exact ⟨fun wr h => by simpa using h1 wr h, fun wr h => by simpa using h2 wr h⟩

/-- a short write followed by a timeout and an EAGAIN (the schedule on which a stale `n` would skip bytes): the
model delivers the whole packet; a broken pipe after 3 bytes leaves a 3-byte prefix -/
example : writeAll [.accept 3, .timeout, .eagain, .accept 2, .accept 0, .accept 100] [1, 2, 3, 4, 5, 6, 7, 8] 0 []
      = .ok [1, 2, 3, 4, 5, 6, 7, 8] ∧
    writeAll [.accept 3, .timeout, .fail] [1, 2, 3, 4, 5, 6, 7, 8] 0 [] = .eof [1, 2, 3] := by decide

/-- the hypotheses of `send_framing` are satisfiable: the toy primitives obey the laws and a toy etm sender
with block size 16 and a 12-byte MAC sends a 4-byte message -/
example : (∃ o, sendMessage (p := toyPrims)
      { block := 16, macLen := 12, ciph := .etm (3, 0) [1, 2, 3], seq := 7, kexDone := true }
      [94, 1, 2, 3] [9, 9] = .ok o) ∧
    CipherLaws toyPrims (fun _ => 16) toyPaired ∧ AeadLaws toyPrims 16 ∧ MacOk toyPrims [1, 2, 3] 12 :=
  ⟨⟨_, rfl⟩, toyCipherLaws _ (fun _ _ => rfl), toyAeadLaws, toyMacOk _ _ (by decide)⟩

/-! ## every suite paramiko can negotiate (table regenerated from transport.py through the real
`_activate_outbound` / `_activate_inbound`) -/

def rowOk (r : Gen.Row) : Bool :=
  8 ≤ r.block && r.block ≤ 252 && r.block % 8 == 0 && 0 < r.macLen && !(r.etm && r.aead)
    && (!r.aead || (r.macLen == 16 && !r.hasMacEngine)) && (r.aead || r.hasMacEngine)

/-- block size 8…252 and a multiple of 8, a non-empty MAC/tag, never etm and aead at once, GCM ⇒ 16-byte tag
and no separate MAC -/
theorem suites_wellformed : (∀ r ∈ Gen.outRows, rowOk r = true) ∧ (∀ r ∈ Gen.inRows, rowOk r = true) := by
  decide +kernel

/-- both directions of one suite use the same framing parameters -/
theorem suites_directions_agree :
    Gen.outRows.map (fun r => (r.cipher, r.mac, r.block, r.macLen, r.etm, r.aead))
      = Gen.inRows.map (fun r => (r.cipher, r.mac, r.block, r.macLen, r.etm, r.aead)) := by
  decide +kernel

/-- For every negotiable suite and every payload length: padding 4…255 and the alignment the suite's framing
requires (length field included for classic, excluded for etm / GCM). -/
theorem every_suite_every_length :
    ∀ r ∈ Gen.outRows, ∀ l : Nat,
      let a := if (r.etm || r.aead) then 4 else 8
      4 ≤ padLen r.block a l ∧ padLen r.block a l ≤ 255 ∧
      (if (r.etm || r.aead) then (l + padLen r.block a l + 1) % r.block = 0
       else (4 + (l + padLen r.block a l + 1)) % r.block = 0) := by
  intro r hr l
  have hw := suites_wellformed.1 r hr
  simp only [rowOk, Bool.and_eq_true, decide_eq_true_eq] at hw
  obtain ⟨⟨⟨⟨⟨⟨h8, h252⟩, _⟩, _⟩, _⟩, _⟩, _⟩ := hw
  simp only
  have hb := pad_bounds r.block (if (r.etm || r.aead) then 4 else 8) l h8 h252
  refine ⟨hb.1, hb.2, ?_⟩
  by_cases hf : (r.etm || r.aead) = true
  · simp only [hf, if_true]; exact padLen4_body_mod _ _ (by omega)
  · simp only [hf]; exact padLen8_total_mod _ _ (by omega)

example : Gen.outRows.length = 72 ∧ Gen.inRows.length = 72 := by decide +kernel

end PV.Props.C03
