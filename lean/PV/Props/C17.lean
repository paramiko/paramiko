/-
  C17 — Client credentials are only sent to a verified, accepted server.
  Property theorems only.  Model: PV/Model/ClientGuard.lean.
-/
import PV.Model.ClientGuard
import PV.Model.CtEq
namespace PV.Props.C17
open PV PV.ClientGuard PV.CtEq

/-- the lifecycle invariant: a credential is only ever pending after the initial key exchange; the initial
key exchange is only ever marked done after the host-key signature verified; from that moment the outbound
cipher is on; and everything already on the wire that carries a secret went out encrypted -/
def Inv (s : St) : Prop :=
  (s.pending ≠ none → s.kexDone = true) ∧
  (s.interactive = true → s.kexDone = true) ∧
  (s.kexDone = true → s.hostKeyVerified = true) ∧
  (s.hostKeyVerified = true → s.outCipher = true) ∧
  (∀ w ∈ s.wire, w.secret = true → w.encrypted = true) ∧
  (∀ w ∈ s.wire, (∃ c e, w = .userauth c e) ∨ (∃ a e, w = .infoResponse a e) ∨ (∃ e, w = .serviceRequest e) →
      w.encrypted = true)

private theorem inv_init : Inv init := by
  simp [Inv, init]

private def IsAuth (w : Wire) : Prop :=
  (∃ c e, w = .userauth c e) ∨ (∃ a e, w = .infoResponse a e) ∨ (∃ e, w = .serviceRequest e)

/-- the last two conjuncts of `Inv`, for a wire log -/
private def WireOk (l : List Wire) : Prop :=
  (∀ w ∈ l, w.secret = true → w.encrypted = true) ∧ (∀ w ∈ l, IsAuth w → w.encrypted = true)

private theorem wireOk_send_encrypted {s : St} (h : WireOk s.wire) (hc : s.outCipher = true) (w : Bool → Wire)
    (hw : ∀ e, (w e).encrypted = e) : WireOk (send s w).wire := by
  have new : ∀ x ∈ (send s w).wire, x ∈ s.wire ∨ x.encrypted = true := by
    intro x hx
    simp only [send, List.mem_append, List.mem_singleton] at hx
    exact hx.imp id fun e => by rw [e, hw, hc]
  exact ⟨fun x hx hs => (new x hx).elim (fun hx => h.1 x hx hs) id,
    fun x hx hk => (new x hx).elim (fun hx => h.2 x hx hk) id⟩

private theorem wireOk_send_newkeys {s : St} (h : WireOk s.wire) : WireOk (send s .newkeys).wire := by
  have new : ∀ x ∈ (send s .newkeys).wire, x ∈ s.wire ∨ x = .newkeys s.outCipher := by
    intro x hx
    simpa only [send, List.mem_append, List.mem_singleton] using hx
  refine ⟨fun x hx hs => (new x hx).elim (fun hx => h.1 x hx hs) fun e => ?_,
    fun x hx hk => (new x hx).elim (fun hx => h.2 x hx hk) fun e => ?_⟩
  · subst e; cases hs
  · subst e; simp [IsAuth] at hk

private theorem inv_step (s : St) (ev : Event) (h : Inv s) : Inv (step s ev).1 := by
  have ⟨h1, h2, h3, h4, _⟩ := h
  have hw : WireOk s.wire := h.2.2.2.2
  cases ev with
  | startClient => simp only [step]; split <;> exact h
  | kexReply ok =>
    simp only [step]
    split
    · exact h
    · split
      · exact h
      · exact ⟨h1, h2, fun _ => rfl, fun _ => rfl, wireOk_send_newkeys (s := { s with hostKeyVerified := true }) hw⟩
  | newkeys =>
    simp only [step]
    split
    · exact h
    · split
      · exact h
      · next hv => exact ⟨fun _ => rfl, fun _ => rfl, fun _ => by simpa using hv, h4, hw⟩
  | authCall c =>
    simp only [step]
    split
    · exact h
    · next hg =>
      have hk : s.kexDone = true := by
        have : s.active = true ∧ s.kexDone = true := by simpa using hg
        exact this.2
      exact ⟨fun _ => hk, fun _ => hk, h3, h4, wireOk_send_encrypted hw (h4 (h3 hk)) _ fun _ => rfl⟩
  | serviceAccept =>
    simp only [step]
    split
    · exact h
    · split
      · exact h
      · next c hp =>
        have hk := h1 (by rw [hp]; simp)
        exact ⟨h1, h2, h3, h4, wireOk_send_encrypted hw (h4 (h3 hk)) _ fun _ => rfl⟩
  | infoRequest a =>
    simp only [step]
    split
    · exact h
    · split
      · exact h
      · next hi =>
        have hi' : s.interactive = true := by simpa using hi
        exact ⟨h1, h2, h3, h4, wireOk_send_encrypted hw (h4 (h3 (h2 hi'))) _ fun _ => rfl⟩
  | die => exact h

/-- the invariant holds after every history of API calls and handled messages, in any order -/
theorem inv_run (evs : List Event) : Inv (run init evs) := by
  suffices h : ∀ s, Inv s → Inv (run s evs) from h init inv_init
  induction evs with
  | nil => intro s h; exact h
  | cons e es ih => intro s h; exact ih _ (inv_step s e h)

/-- **Never in plaintext.** Whatever the application calls and whatever arrives, in any order and at any point of
the connection's life: every message on the wire that carries a secret (a credential in a USERAUTH_REQUEST, an
answer in an info response) went out with the outbound cipher on. -/
theorem credentials_never_in_plaintext (evs : List Event) :
    ∀ w ∈ (run init evs).wire, w.secret = true → w.encrypted = true := (inv_run evs).2.2.2.2.1

/-- … and so did every USERAUTH_REQUEST, every info response and every service request, whether or not it carries
a secret (`none` authentication, an empty answer list) -/
theorem auth_messages_always_encrypted (evs : List Event) (w : Wire) (hw : w ∈ (run init evs).wire)
    (h : (∃ c e, w = .userauth c e) ∨ (∃ a e, w = .infoResponse a e) ∨ (∃ e, w = .serviceRequest e)) :
    w.encrypted = true := (inv_run evs).2.2.2.2.2 w hw h

/-- **Guard.** An `auth_*` call made before the initial key exchange has completed (or on a dead transport)
raises and puts nothing on the wire. -/
theorem auth_before_kex_raises (s : St) (c : Cred) (h : s.active = false ∨ s.kexDone = false) :
    step s (.authCall c) = (s, .raisedNoSession) := by
  rcases h with h | h <;> simp [step, h]

/-- the initial key exchange is only ever marked done after the host-key signature verified -/
theorem kex_done_needs_verified_host_key (evs : List Event) :
    (run init evs).kexDone = true → (run init evs).hostKeyVerified = true := (inv_run evs).2.2.1

/-- a host-key signature that does not verify ends the transport; afterwards every auth call raises -/
theorem bad_signature_ends_the_session (s : St) (ha : s.active = true) (hv : s.hostKeyVerified = false) (c : Cred) :
    (step s (.kexReply false)).1.active = false ∧
    step (step s (.kexReply false)).1 (.authCall c) = ((step s (.kexReply false)).1, .raisedNoSession) := by
  have h1 : (step s (.kexReply false)).1.active = false := by simp [step, ha, hv]
  exact ⟨h1, auth_before_kex_raises _ c (Or.inl h1)⟩

/-! ## `connect`: a different key receives nothing -/

/-- **Transport.connect(hostkey=…).** Credentials are offered only if the presented key equals the given one
(name and bytes). -/
theorem transport_connect_sends_only_to_given_key (g presented : Key) (wants : Bool)
    (h : transportConnect (some g) presented wants = .authenticate) : presented = g := by
  unfold transportConnect at h
  simp only at h
  split at h
  · cases h
  · rename_i hne
    simp only [ne_eq, not_or, Decidable.not_not] at hne
    cases g; cases presented
    simp_all

private theorem sshClientConnect_known (ks : List Key) (presented : Key) (pol : Bool) :
    sshClientConnect (some ks) presented pol =
      if findType ks presented.name = some presented then .authenticate else .badHostKey := by
  simp only [sshClientConnect]
  cases hf : findType ks presented.name with
  | none => simp
  | some k => by_cases hk : k = presented <;> simp [hk]

/-- **SSHClient.connect.** Credentials are offered only if the host is unknown and the policy returned normally,
or the known entry *of the presented key's type* equals the presented key.  In particular a known host that
presents a different key — same type or only other types known — receives nothing. -/
theorem ssh_client_sends_only_if_known_or_accepted (known : Known) (presented : Key) (pol : Bool)
    (h : sshClientConnect known presented pol = .authenticate) :
    (known = none ∧ pol = true) ∨ (∃ ks, known = some ks ∧ findType ks presented.name = some presented) := by
  cases known with
  | none =>
    cases pol with
    | true => exact .inl ⟨rfl, rfl⟩
    | false => cases h
  | some ks =>
    rw [sshClientConnect_known] at h
    split at h
    · next hk => exact .inr ⟨ks, rfl, hk⟩
    · cases h

theorem known_host_other_key_gets_nothing (ks : List Key) (presented : Key) (pol : Bool)
    (h : findType ks presented.name ≠ some presented) :
    sshClientConnect (some ks) presented pol = .badHostKey := by
  rw [sshClientConnect_known, if_neg h]

theorem unknown_host_needs_policy (presented : Key) :
    sshClientConnect none presented false = .policyRejected := rfl

/-- **Two stores.** With system and user host keys: credentials are offered only if the host is in neither store
and the policy returned normally, or the entry of the store that is consulted (system first) has the presented key
under the presented key's type.  In particular a host known to the system store only with other key types is
refused whatever the policy says - it is never treated as unknown. -/
theorem two_stores_send_only_if_known_or_accepted (system user : Known) (presented : Key) (pol : Bool)
    (h : sshClientConnect2 system user presented pol = .authenticate) :
    (system = none ∧ user = none ∧ pol = true) ∨
    (∃ ks, effectiveKnown system user = some ks ∧ findType ks presented.name = some presented) := by
  rcases ssh_client_sends_only_if_known_or_accepted _ presented pol h with ⟨hn, hp⟩ | h2
  · left
    cases system with
    | some ks => simp [effectiveKnown] at hn
    | none => exact ⟨rfl, by simpa [effectiveKnown] using hn, hp⟩
  · exact Or.inr h2

theorem system_entry_is_never_unknown (ks : List Key) (user : Known) (presented : Key) (pol : Bool)
    (h : findType ks presented.name ≠ some presented) :
    sshClientConnect2 (some ks) user presented pol = .badHostKey :=
  known_host_other_key_gets_nothing ks presented pol h

/-- **GSS-API requested but not negotiated.** Whatever options the caller passed (`gss_kex=True` included): unless a
gss-* key exchange was really negotiated, credentials are offered only to a known server presenting its known
key, or to an unknown one the policy accepted. -/
theorem host_key_checked_unless_gss_kex_negotiated (system user : Known) (presented : Key) (pol : Bool)
    (h : sshClientConnectGss false system user presented pol = .authenticate) :
    (system = none ∧ user = none ∧ pol = true) ∨
    (∃ ks, effectiveKnown system user = some ks ∧ findType ks presented.name = some presented) :=
  two_stores_send_only_if_known_or_accepted system user presented pol (by simpa [sshClientConnectGss] using h)

/-! ## hashed known_hosts names -/

private theorem orFold_zero (a b : Bytes) (acc : UInt8) (hl : a.length = b.length) :
    orFold a b acc = 0 ↔ acc = 0 ∧ a = b := by
  induction a generalizing b acc with
  | nil => cases b with
    | nil => simp [orFold]
    | cons y ys => simp at hl
  | cons x xs ih =>
    cases b with
    | nil => simp at hl
    | cons y ys =>
      simp only [List.length_cons, Nat.add_right_cancel_iff] at hl
      simp only [orFold, ih ys _ hl, UInt8.or_eq_zero_iff, UInt8.xor_eq_zero_iff, List.cons.injEq]
      constructor
      · rintro ⟨⟨h1, h2⟩, h3⟩; exact ⟨h1, h2, h3⟩
      · rintro ⟨h1, h2, h3⟩; exact ⟨⟨h1, h2⟩, h3⟩

/-- **The hashed-name comparison is equality.** `constant_time_bytes_eq` answers true exactly for identical byte
strings: differences at several positions can never cancel (OR-fold, not XOR/sum), and a length difference is a
difference.  So a hashed known_hosts name matches a looked-up host only if the salted hashes are identical. -/
theorem constant_time_eq_is_equality (a b : Bytes) : ctEq a b = true ↔ a = b := by
  unfold ctEq
  constructor
  · intro h
    simp only [Bool.and_eq_true, beq_iff_eq] at h
    exact ((orFold_zero a b 0 h.1).mp h.2).2
  · rintro rfl
    simp only [Bool.and_eq_true, beq_iff_eq, true_and]
    exact (orFold_zero a a 0 rfl).mpr ⟨rfl, rfl⟩

example : ctEq [1, 2, 3] [3, 2, 1] = false ∧ ctEq [5, 6] [4, 7] = false ∧ ctEq [9, 9] [9, 9] = true := by decide

/-! ## non-vacuity -/

-- a normal connection: password goes out encrypted
example : (run init [.startClient, .kexReply true, .newkeys, .authCall (.password [1]), .serviceAccept]).wire =
    [.newkeys false, .serviceRequest true, .userauth (.password [1]) true] := by decide
-- auth attempted at every earlier point: nothing but NEWKEYS ever reaches the wire
example : (run init [.authCall (.password [1]), .startClient, .authCall (.password [1]), .kexReply true,
    .authCall (.password [1]), .serviceAccept]).wire = [.newkeys false] := by decide
example : sshClientConnect (some [⟨[1], [5]⟩, ⟨[2], [6]⟩]) ⟨[2], [6]⟩ false = .authenticate := by decide
example : sshClientConnect (some [⟨[1], [5]⟩]) ⟨[2], [6]⟩ true = .badHostKey := by decide

end PV.Props.C17
