/-
  C12 — Unrecognised message types get UNIMPLEMENTED and the session continues.
  Model: PV/Model/RunLoop.lean (the whole dispatch loop), taken apart in PV/Model/RunLoopLemmas.lean; tables:
  PV/Generated/C12.lean (read from the source on every run).
-/
import PV.Model.RunLoopLemmas
import PV.Generated.C12
namespace PV.Props.C12
open PV PV.RunLoop

/-- a session after the handshake: loop running, no kex step armed.  This includes the window of a
re-exchange in which our own KEXINIT is already out (`in_kex`, `local_kex_init` set, user sends blocked)
and the peer's has not been processed yet: `_send_kex_init` arms no expectation. -/
structure Established (s : St) : Prop where
  active : s.active = true
  noErr : s.err = none
  done : s.initialKexDone = true
  quiet : s.expected = []

/-- what the property demands of the loop for a packet of type `t` received as packet number
`s.seqIn`: counters move on, exactly one UNIMPLEMENTED carrying that number goes out (none for
type 3), and nothing else changes — in particular the session stays active. -/
def replied (s : St) (t : Nat) : St :=
  { s with
    seqIn := (s.seqIn + 1) % SEQ_MOD
    rx := s.rx ++ [t]
    seqOut := if t = MSG_UNIMPLEMENTED then s.seqOut else (s.seqOut + 1) % SEQ_MOD
    tx := if t = MSG_UNIMPLEMENTED then s.tx else s.tx ++ [⟨MSG_UNIMPLEMENTED, s.seqOut, s.seqIn⟩] }

private theorem established_replied {s : St} (hs : Established s) (t : Nat) : Established (replied s t) :=
  ⟨hs.active, hs.noErr, hs.done, hs.quiet⟩

/-- in an established session a packet whose type has no handler gets past the roll-over guard, the IGNORE / DISCONNECT
/ DEBUG prefix, the (unarmed) expected-packet test and every table, and reaches the fallback branch under its own
sequence number -/
theorem unhandled_reaches_fallback (T : Tables) (s : St) (hs : Established s) (t : Nat)
    (hun : handled T s t = false) (payload : Bytes) (x : Ext) :
    step T s (.recv t payload x) = fallback T (bump s t) t s.seqIn := by
  obtain ⟨h2, h1, h4, _⟩ := handled_eq_false hun
  rw [step_recv hs.active hs.noErr, recv_eq (by simp [hs.done]), body_other h2 h1 h4,
    afterExpected_quiet (s := bump s t) hs.quiet, dispatch_unhandled (s := bump s t) hun]

/-- **Main theorem (all tables, all states, all payloads).**  If the fallback branch looks the debug
name up totally, then in every established session every packet whose type has no handler in the
current role/state — whatever its payload, whatever the rest of the world would answer (`x`) — is
answered by exactly one UNIMPLEMENTED carrying the packet's own sequence number (type 3: by nothing),
and the session state is otherwise untouched and active. -/
theorem unhandled_gets_unimplemented (T : Tables) (hT : T.namesTotal = true) (s : St) (hs : Established s)
    (t : Nat) (hun : handled T s t = false) (payload : Bytes) (x : Ext) :
    step T s (.recv t payload x) = replied s t := by
  rw [unhandled_reaches_fallback T s hs t hun, fallback, if_neg (by simp [hT])]
  by_cases h3 : t = MSG_UNIMPLEMENTED
  · simp [h3, replied, bump]
  · rw [if_pos h3, send_eq (s := bump s t) hs.noErr (by simp [bump, hs.done])]
    simp [h3, replied, bump]

/-- the session stays up and the reply is the *only* thing sent -/
theorem unhandled_session_continues (T : Tables) (hT : T.namesTotal = true) (s : St) (hs : Established s)
    (t : Nat) (hun : handled T s t = false) (payload : Bytes) (x : Ext) :
    let s' := step T s (.recv t payload x)
    Established s' ∧
      s'.tx = s.tx ++ (if t = MSG_UNIMPLEMENTED then [] else [⟨MSG_UNIMPLEMENTED, s.seqOut, s.seqIn⟩]) := by
  simp only
  rw [unhandled_gets_unimplemented T hT s hs t hun payload x]
  refine ⟨established_replied hs t, ?_⟩
  by_cases h : t = MSG_UNIMPLEMENTED <;> simp [replied, h]

/-- UNIMPLEMENTED itself is never answered, in any state and whatever the tables say about it, unless
somebody registered a handler for it -/
theorem unimplemented_never_answered (T : Tables) (hT : T.namesTotal = true) (s : St) (hs : Established s)
    (hun : handled T s MSG_UNIMPLEMENTED = false) (payload : Bytes) (x : Ext) :
    (step T s (.recv MSG_UNIMPLEMENTED payload x)).tx = s.tx := by
  rw [unhandled_gets_unimplemented T hT s hs _ hun payload x]; simp [replied]

/-- the payload is never inspected on this path: two packets of the same unhandled type leave the
same state -/
theorem payload_irrelevant (T : Tables) (hT : T.namesTotal = true) (s : St) (hs : Established s)
    (t : Nat) (hun : handled T s t = false) (p₁ p₂ : Bytes) (x₁ x₂ : Ext) :
    step T s (.recv t p₁ x₁) = step T s (.recv t p₂ x₂) := by
  rw [unhandled_gets_unimplemented T hT s hs t hun, unhandled_gets_unimplemented T hT s hs t hun]

/-- the replies a run of unhandled packets must produce, from the counters at its start -/
def replies (seqIn seqOut : Nat) : List Nat → List Sent
  | [] => []
  | t :: ts =>
    (if t = MSG_UNIMPLEMENTED then [] else [⟨MSG_UNIMPLEMENTED, seqOut, seqIn⟩]) ++
      replies ((seqIn + 1) % SEQ_MOD) (if t = MSG_UNIMPLEMENTED then seqOut else (seqOut + 1) % SEQ_MOD) ts

/-- any run of unhandled packets, of any length: each one is answered, in order, with its own
sequence number; nothing else is sent; the session is still established at the end -/
theorem unhandled_run (T : Tables) (hT : T.namesTotal = true) (s : St) (hs : Established s)
    (pkts : List (Nat × Bytes × Ext)) (hun : ∀ p ∈ pkts, handled T s p.1 = false) :
    Established (run T s (pkts.map fun p => .recv p.1 p.2.1 p.2.2)) ∧
      (run T s (pkts.map fun p => .recv p.1 p.2.1 p.2.2)).tx
        = s.tx ++ replies s.seqIn s.seqOut (pkts.map (·.1)) := by
  induction pkts generalizing s with
  | nil => simp [run, hs, replies]
  | cons p ps ih =>
    have hp := hun p (by simp)
    have hstep := unhandled_gets_unimplemented T hT s hs p.1 hp p.2.1 p.2.2
    have hs' := established_replied hs p.1
    -- `handled` looks at the role, the class and the auth handler only, and `replied` keeps those
    have hun' : ∀ q ∈ ps, handled T (replied s p.1) q.1 = false := fun q hq => hun q (by simp [hq])
    obtain ⟨ih1, ih2⟩ := ih (replied s p.1) hs' hun'
    simp only [List.map_cons, run, List.foldl_cons] at ih1 ih2 ⊢
    rw [hstep]
    refine ⟨ih1, ?_⟩
    rw [ih2]
    by_cases h : p.1 = MSG_UNIMPLEMENTED <;> simp [replied, replies, h]

/-! ## the tables of the tree under test -/

/-- the fallback branch of the tree under test looks the name up totally (read from the AST of
`Transport.run`): with a bare `MSG_NAMES[ptype]` this is false and C12 does not hold -/
theorem names_lookup_total : Generated.C12.tables.namesTotal = true := by decide

/-- **C12 for the tree under test**: every established session, every type without a handler in
the current role/state, every payload. -/
theorem C12 (s : St) (hs : Established s) (t : Nat) (hun : handled Generated.C12.tables s t = false)
    (payload : Bytes) (x : Ext) :
    step Generated.C12.tables s (.recv t payload x) = replied s t :=
  unhandled_gets_unimplemented _ names_lookup_total s hs t hun payload x

/-- the role × class × auth-handler × (quiet | own KEXINIT of a re-exchange sent) situations -/
def situations : List (Bool × Bool × AuthH × Bool) :=
  [true, false].flatMap fun server => [true, false].flatMap fun srt =>
    [AuthH.none, .std, .only, .gssMic].flatMap fun a => [false, true].map fun inKex => (server, srt, a, inKex)

/-- a concrete established, authenticated session in a given situation -/
def sample (c : Bool × Bool × AuthH × Bool) : St :=
  { server := c.1, srt := c.2.1, advertiseStrict := true, serverSigAlgs := true, agreedStrict := true,
    initialKexDone := true, clearToSend := !c.2.2.2, inKex := c.2.2.2, localKexInit := c.2.2.2,
    authH := c.2.2.1, authenticated := true, chans := [0], seen := [0], seqIn := 7, seqOut := 9 }

/-- all 256 type numbers in all 32 situations (half of them inside a re-exchange): every `sample` is an established
session, so whenever the type has no handler the executable model's step is exactly `replied` -/
theorem all_256_types_table :
    ∀ c ∈ situations, ∀ t ∈ List.range 256, handled Generated.C12.tables (sample c) t = false →
      step Generated.C12.tables (sample c) (.recv t [] default) = replied (sample c) t :=
  fun c _ t _ hun => C12 (sample c) ⟨rfl, rfl, rfl, rfl⟩ t hun [] default

/-- **"No handler in the current role" is also a matter of protocol direction.**  In the tree under test no dispatch
table gives a transport a handler for a message type that only ever travels the other way (a client for
SERVICE_REQUEST / USERAUTH_REQUEST / …, a server for SERVICE_ACCEPT / USERAUTH_SUCCESS / …): such types take the
fallback branch and get UNIMPLEMENTED.  (ServiceRequestingTransport registers SERVICE_ACCEPT in its per-instance
table whatever the role; it is a client-side class, so its server use is left out.  The gssapi-with-mic handler
is only ever installed by a server.) -/
theorem no_handler_against_protocol_direction :
    ∀ c ∈ situations, ¬ (c.1 = true ∧ c.2.1 = true) → ¬ (c.1 = false ∧ c.2.2.1 = AuthH.gssMic) →
      ∀ t ∈ wrongDirection c.1, handled Generated.C12.tables (sample c) t = false := by
  decide +kernel

/-- no table of the tree under test has UNIMPLEMENTED among its keys, so no state has a handler for it -/
theorem unimplemented_unhandled (s : St) : handled Generated.C12.tables s MSG_UNIMPLEMENTED = false :=
  Bool.eq_false_iff.mpr fun h => absurd (mem_keys_of_handled h) (by decide)

/-- nobody registered a handler for UNIMPLEMENTED: in the tree under test it is never answered -/
theorem type3_unhandled_everywhere :
    ∀ c ∈ situations, handled Generated.C12.tables (sample c) MSG_UNIMPLEMENTED = false :=
  fun c _ => unimplemented_unhandled (sample c)

/-- every key of every dispatch table of the tree under test has a debug name -/
theorem keys_named : ∀ t ∈ Generated.C12.tables.keys, Generated.C12.tables.names.contains t = true := by decide

/-- hence a type number without a debug name has no handler, in any state -/
theorem unnamed_unhandled (s : St) (t : Nat) (hname : Generated.C12.tables.names.contains t = false) :
    handled Generated.C12.tables s t = false :=
  Bool.eq_false_iff.mpr fun h => by rw [keys_named t (mem_keys_of_handled h)] at hname; cases hname

/-- every type number without a debug name is unhandled in every situation (these are the inputs on
which a partial name lookup kills the transport) -/
theorem unnamed_types_unhandled :
    ∀ c ∈ situations, ∀ t ∈ List.range 256, Generated.C12.tables.names.contains t = false →
      handled Generated.C12.tables (sample c) t = false :=
  fun c _ t _ hname => unnamed_unhandled (sample c) t hname

/-- the defect this property exposed, as a statement about the model: with a *partial* name lookup
(`MSG_NAMES[ptype]`) an unhandled type without a debug name ends the session with KeyError and no
reply at all. -/
theorem partial_lookup_kills_session (T : Tables) (hT : T.namesTotal = false) (s : St) (hs : Established s)
    (t : Nat) (hun : handled T s t = false) (hname : T.names.contains t = false) (payload : Bytes) (x : Ext) :
    let s' := step T s (.recv t payload x)
    s'.active = false ∧ s'.err = some .keyError ∧ s'.tx = s.tx := by
  rw [unhandled_reaches_fallback T s hs t hun, fallback, if_pos ⟨ne_true_of_eq_false hT, ne_true_of_eq_false hname⟩]
  exact ⟨rfl, rfl, rfl⟩

/-- the reply is built with fixed-width encoders only (AST of `Transport.run`, read on every run): the model's
UNIMPLEMENTED carries the sequence number as a number; on the wire it is a uint32 for every value up to 2^32 − 1, which
`Message.add()` (adaptive integers: 0xff + mpint from 0xff000000 up) would not give -/
theorem reply_uses_fixed_width_encoding : Generated.C12.runRepliesUseFixedWidth = true := by decide

/-- the numbers the model uses literally are the ones paramiko/common.py defines -/
theorem constants_match :
    Generated.C12.msgConsts.lookup "MSG_DISCONNECT" = some MSG_DISCONNECT ∧
    Generated.C12.msgConsts.lookup "MSG_IGNORE" = some MSG_IGNORE ∧
    Generated.C12.msgConsts.lookup "MSG_UNIMPLEMENTED" = some MSG_UNIMPLEMENTED ∧
    Generated.C12.msgConsts.lookup "MSG_DEBUG" = some MSG_DEBUG ∧
    Generated.C12.msgConsts.lookup "MSG_EXT_INFO" = some MSG_EXT_INFO ∧
    Generated.C12.msgConsts.lookup "MSG_KEXINIT" = some MSG_KEXINIT ∧
    Generated.C12.msgConsts.lookup "MSG_NEWKEYS" = some MSG_NEWKEYS ∧
    Generated.C12.msgConsts.lookup "MSG_GLOBAL_REQUEST" = some MSG_GLOBAL_REQUEST ∧
    Generated.C12.msgConsts.lookup "MSG_REQUEST_FAILURE" = some MSG_REQUEST_FAILURE ∧
    Generated.C12.msgConsts.lookup "MSG_CHANNEL_OPEN" = some MSG_CHANNEL_OPEN ∧
    Generated.C12.msgConsts.lookup "MSG_CHANNEL_OPEN_FAILURE" = some MSG_CHANNEL_OPEN_FAILURE := by
  decide +kernel

/-! ## non-vacuity -/

example : Established (sample (true, false, .std, false)) := ⟨rfl, rfl, rfl, rfl⟩
/-- … also in the middle of a re-exchange we started -/
example : Established (sample (true, false, .std, true)) ∧ (sample (true, false, .std, true)).inKex = true :=
  ⟨⟨rfl, rfl, rfl, rfl⟩, rfl⟩
example : (step Generated.C12.tables (sample (false, false, .std, true)) (.recv 200 [] default)).tx
    = [⟨MSG_UNIMPLEMENTED, 9, 7⟩] := by decide +kernel
example : situations.length = 32 := by decide +kernel
/-- type 200 at a server after authentication: unhandled, answered with UNIMPLEMENTED(7) -/
example : handled Generated.C12.tables (sample (true, false, .std, false)) 200 = false := by decide +kernel
example : (step Generated.C12.tables (sample (true, false, .std, false)) (.recv 200 [1, 2, 3] default)).tx
    = [⟨MSG_UNIMPLEMENTED, 9, 7⟩] := by decide +kernel
/-- type 62 (no debug name) at a client -/
example : (step Generated.C12.tables (sample (false, false, .std, false)) (.recv 62 [] default)).active = true := by
  decide +kernel
/-- the hypothesis of `partial_lookup_kills_session` is satisfiable: the same tables with a partial lookup -/
example : (step { Generated.C12.tables with namesTotal := false } (sample (true, false, .std, false))
    (.recv 200 [] default)).err = some .keyError := by decide +kernel
/-- handled types are not touched by the theorem: a channel message takes the channel branch -/
example : handled Generated.C12.tables (sample (true, false, .std, false)) 94 = true := by decide +kernel

end PV.Props.C12
