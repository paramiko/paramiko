/-
  C19 — Channel senders never exceed the peer's window or maximum packet size.
  Model: PV/Model/ChanWindow.lean (one Channel object at lock-region granularity; schedules = lists of
  atomic regions); helper lemmas: PV/Model/ChanWindowLemmas.lean.
  The theorems hold for BOTH code versions the model can mirror (`cfg` is universally quantified).
-/
import PV.Model.ChanWindowLemmas
import PV.Generated.C19
import PV.Generated.ChanLock
namespace PV.Props.C19
open PV.Chan

/-- the clamp constants of the model are the ones in paramiko/common.py (regenerated on every run), and the
    4096-byte floor of the statement is that minimum -/
theorem constants_eq_generated :
    MIN_PACKET_SIZE = PV.Generated.C19.MIN_PACKET_SIZE ∧ MAX_WINDOW_SIZE = PV.Generated.C19.MAX_WINDOW_SIZE ∧
    PV.Generated.C19.MIN_PACKET_SIZE = 4096 ∧ PV.Generated.C19.MAX_WINDOW_SIZE = 4294967295 := by
  decide

/-- **`out_window_size` is only touched under `self.lock`** once the channel is open: every read and every write
    in class Channel (table generated from the AST of channel.py on this run; helpers documented "you are holding
    the lock" count only if every call site is locked) — except the constructor, `_set_remote_channel` (runs before
    the channel is active) and the read-only `__repr__`.  This is what makes "reserve" and "adjust" atomic regions
    of the model; a read outside the lock that feeds a later locked write is a lost update. -/
theorem window_accesses_locked :
    ∀ a ∈ PV.Generated.ChanLock.windowAccesses,
      a.1 ≠ "__init__" → a.1 ≠ "_set_remote_channel" → a.1 ≠ "__repr__" → a.2.2 = true := by
  decide

/-- **`in_window_sofar` is written only by `_check_add_window`** (and set to 0 by the constructor and `_set_window`):
    the methods of class Channel that assign it, from the AST of channel.py on this run.  The credit bound
    `adjust_le_consumed` (Σ adjusts ≤ bytes handed to the application) speaks about the code only together with this:
    nothing else — e.g. moving buffered stderr bytes into the stdout buffer in `set_combine_stderr` — may credit. -/
theorem sofar_written_only_by_check_add_window :
    ∀ w ∈ PV.Generated.C19.sofar_writers, w = "__init__" ∨ w = "_set_window" ∨ w = "_check_add_window" := by
  decide

/-- the clamp the model applies to the peer-advertised maximum packet size (`sanitizePkt` in `init`) is in the
    source where the model has it: `_set_remote_channel` stores `_sanitize_packet_size(max_packet_size)`, which is
    `clamp_value(MIN_PACKET_SIZE, max_packet_size, MAX_WINDOW_SIZE)` (facts read from the AST on every run) -/
theorem clamp_is_in_the_source :
    PV.Generated.C19.remote_max_packet_sanitised = true ∧ PV.Generated.C19.sanitise_is_clamp_min_max = true ∧
    PV.Generated.C19.peer_open_passes_parsed_values = true := by
  decide

private theorem winv_init (inWin peerWin peerMax nthr : Nat) (c : Bool) :
    WInv (init inWin peerWin peerMax nthr c) := by
  unfold WInv heldDataAll; rw [sumBy_init _ rfl]; simp [init, dataSum]

private theorem pkt_init (inWin peerWin peerMax nthr : Nat) (c : Bool) :
    PktInv (init inWin peerWin peerMax nthr c) := by
  refine ⟨by simp [init], ?_⟩
  intro x hx
  simp only [init, List.mem_replicate] at hx
  rw [hx.2]
  intro ms k h; cases h

private theorem ainv_init (inWin peerWin peerMax nthr : Nat) (c : Bool) :
    AInv (init inWin peerWin peerMax nthr c) := by
  unfold AInv heldAdjAll; rw [sumBy_init _ rfl]; simp [init, adjSum]

/-- **Window equation, every schedule.**  After any list of atomic regions executed by any number of
    threads (sends, sendalls, wake-ups, wire writes, reads, closes, peer messages in any order):
    bytes on the wire + bytes reserved by threads that have not written yet + remaining window
    + bytes whose `_send_user_message` raised (a failed send returns NOTHING to the window — the reservation is
    consumed or lost, never handed back larger than it was)
    = initial window + every WINDOW_ADJUST received. -/
theorem window_equation (cfg : Cfg) (inWin peerWin peerMax nthr : Nat) (c : Bool) (sched : List Act) :
    let s := run cfg (init inWin peerWin peerMax nthr c) sched
    dataSum s.wire + heldDataAll s.thr + s.outWin + s.leaked = peerWin + adjustsIn sched := by
  intro s
  have h := run_winv cfg _ sched (winv_init inWin peerWin peerMax nthr c)
  have g := run_granted cfg (init inWin peerWin peerMax nthr c) sched
  simp only [WInv] at h
  show dataSum (run cfg _ sched).wire + _ + _ + _ = _
  rw [h, g]; rfl

/-- **Clause 1.**  The data bytes sent (CHANNEL_DATA and CHANNEL_EXTENDED_DATA together) never exceed the
    window the peer granted initially plus all adjustments it has sent — at every point of every schedule. -/
theorem sent_le_granted (cfg : Cfg) (inWin peerWin peerMax nthr : Nat) (c : Bool) (sched : List Act) :
    dataSum (run cfg (init inWin peerWin peerMax nthr c) sched).wire ≤ peerWin + adjustsIn sched := by
  have := window_equation cfg inWin peerWin peerMax nthr c sched
  simp only at this
  omega

/-- **Clause 2.**  Every data message ever written is non-empty and at most `out_max_packet_size - 64`
    bytes long; when the peer's maximum packet size is at least the 4096-byte floor (and fits the uint32
    field) that is below the peer's own limit. -/
theorem data_msg_le_peer_max (cfg : Cfg) (inWin peerWin peerMax nthr : Nat) (c : Bool) (sched : List Act)
    (m : Msg) (hm : m ∈ (run cfg (init inWin peerWin peerMax nthr c) sched).wire) (hd : m.isData = true) :
    1 ≤ m.dataLen ∧ m.dataLen ≤ sanitizePkt peerMax - 64 ∧
    (4096 ≤ peerMax → peerMax ≤ 4294967295 → m.dataLen + 64 ≤ peerMax) := by
  have h := run_pkt cfg _ sched (pkt_init inWin peerWin peerMax nthr c)
  have hp := run_maxPkt cfg (init inWin peerWin peerMax nthr c) sched
  have := h.1 m hm hd
  rw [hp] at this
  have e : (init inWin peerWin peerMax nthr c).maxPkt = sanitizePkt peerMax := rfl
  rw [e] at this
  refine ⟨this.1, this.2, ?_⟩
  intro h1 h2
  rw [sanitizePkt_id peerMax h1 h2] at this
  omega

/-- **Clause 3.**  The window a receiver has granted back (WINDOW_ADJUST written), plus what it has
    computed but not yet written, plus `in_window_sofar`, never exceeds the bytes its application has
    consumed (plus extended data of unknown type it threw away); and nothing the peer delivered is lost:
    consumed + discarded + still buffered = received. -/
theorem adjust_le_consumed (cfg : Cfg) (inWin peerWin peerMax nthr : Nat) (c : Bool) (sched : List Act) :
    let s := run cfg (init inWin peerWin peerMax nthr c) sched
    adjSum s.wire + heldAdjAll s.thr + s.inSofar ≤ s.consumed + s.discarded ∧
    s.consumed + s.discarded + s.inBuf + s.errBuf = s.recvd :=
  run_ainv cfg _ sched (ainv_init inWin peerWin peerMax nthr c)

/-- in particular (either tree) the window granted back never exceeds the bytes the peer delivered -/
theorem adjust_le_recvd (cfg : Cfg) (inWin peerWin peerMax nthr : Nat) (c : Bool) (sched : List Act) :
    adjSum (run cfg (init inWin peerWin peerMax nthr c) sched).wire ≤
      (run cfg (init inWin peerWin peerMax nthr c) sched).recvd := by
  have := adjust_le_consumed cfg inWin peerWin peerMax nthr c sched
  simp only at this
  omega

/-- the three invariants are inductive from ANY state satisfying them, not only from `init` -/
theorem invariants_inductive (cfg : Cfg) (s : St) (sched : List Act) (h : WInv s ∧ PktInv s ∧ AInv s) :
    WInv (run cfg s sched) ∧ PktInv (run cfg s sched) ∧ AInv (run cfg s sched) :=
  ⟨run_winv cfg s sched h.1, run_pkt cfg s sched h.2.1, run_ainv cfg s sched h.2.2⟩

/-- a failed `_send_user_message` (SSHException while the transport stays alive): the call raises, nothing is
    written, the reservation is not returned to the window, the remaining messages of that call are dropped -/
theorem failed_send_returns_nothing (cfg : Cfg) (s : St) (t : Nat) (m : Msg) (ms : List Msg) (k : Kont)
    (hr : s.thr[t]? = some (.hold (m :: ms) k)) :
    (step cfg s (.emitFail t)).outWin = s.outWin ∧ (step cfg s (.emitFail t)).wire = s.wire ∧
    (step cfg s (.emitFail t)).leaked = s.leaked + dataSum (m :: ms) ∧
    (step cfg s (.emitFail t)).thr[t]? = some (.idle .sshError) := by
  simp only [step, hr]
  exact ⟨rfl, rfl, rfl, setThr_get _ hr⟩

/-- the window limit on a message is positive in every reachable state: `out_max_packet_size` is what
    `_set_remote_channel` got from `_sanitize_packet_size`, at least 4096 whatever the peer advertised -/
theorem max_packet_clamped (cfg : Cfg) (inWin peerWin peerMax nthr : Nat) (c : Bool) (sched : List Act) :
    4096 ≤ (run cfg (init inWin peerWin peerMax nthr c) sched).maxPkt ∧
    (run cfg (init inWin peerWin peerMax nthr c) sched).maxPkt = sanitizePkt peerMax := by
  rw [run_maxPkt]
  exact ⟨sanitizePkt_ge peerMax, rfl⟩

/-- non-vacuity: a send of 6000 bytes is cut to 4032 by the packet limit, its write FAILS, a later send gets
    only what is left of the window (968), not the 6000 that were asked for -/
example :
    let s := run fixedCfg (init 32768 5000 4096 2 false)
      [.send 0 6000 false, .emitFail 0, .send 1 6000 true, .emit 1, .send 0 10 false]
    s.wire = [.ext 968] ∧ s.outWin = 0 ∧ s.leaked = 4032 ∧ s.granted = 5000 ∧
    s.thr = [.waiting 10 false none none, .idle (.ret 968)] := by
  decide +kernel

/-- non-vacuity: two writer threads race for a 5000-byte window with a 4096-byte packet limit; a third
    thread reads and acknowledges.  The schedule interleaves reservations, a window adjustment and the
    wire writes out of order. -/
example :
    let s := run fixedCfg (init 32768 5000 4096 3 false)
      [.send 0 6000 false, .send 1 6000 true, .feed 4000, .emit 1, .adjust 100, .recv 2 4000 false,
       .send 1 50 false, .check 2, .emit 0, .emit 2, .emit 1]
    s.wire = [.ext 968, .data 4032, .adjust 4000, .data 50] ∧ s.outWin = 50 ∧ s.granted = 5100 ∧
    s.consumed = 4000 ∧ s.inSofar = 0 := by
  decide +kernel

end PV.Props.C19
