/-
  C04 — Session keys follow RFC 4253 key derivation and match across the two peers.
  Model: PV/Model/KeyDerive.lean (helpers: KeyDeriveLemmas.lean);
  tables regenerated from paramiko/transport.py on every run: PV/Generated/C04.lean.

  Every theorem quantifies over *every* hash with a fixed positive digest length (`HashLaws`),
  every shared secret `K : Int`, exchange hash `H`, session id, letter byte and length `n : Nat`
  (no bound: 1..512 of the statement is a special case).
-/
import PV.Model.KeyDeriveLemmas
import PV.Model.AeadNonceLemmas
import PV.Generated.C04
namespace PV.Props.C04
open PV PV.Wire PV.KeyDerive PV.AeadNonce

variable (h : Hash) (K : Int) (H sid : Bytes) (X : UInt8)

private theorem le_succ_mul {n s : Nat} (hs : 0 < s) : n ≤ (n + 1) * s :=
  Nat.le_trans (Nat.le_succ n) (Nat.le_mul_of_pos_right _ hs)

/-- The loop runs exactly as long as needed: what `_compute_key` returns before truncation is
    `K1 ‖ … ‖ K(j+1)` for the least `j + 1` with `n ≤ (j + 1) * digest_size` (no key material beyond
    the needed block is produced). -/
theorem computeKey_blocks_minimal (hl : HashLaws h) (n : Nat) :
    ∃ j, computeKey h K H sid X n = (rfcStream h K H sid X (j + 1)).take n ∧
      n ≤ (j + 1) * h.size ∧ (j = 0 ∨ j * h.size < n) := by
  obtain ⟨j, _, he, hd, hm⟩ := extend_inv h K H sid X n n 0
  refine ⟨j, ?_, ?_, ?_⟩
  · unfold computeKey
    simp only [← rfcStream_one h K H sid X]
    rw [he]
  · rcases hd with hd | hd
    · rwa [rfcStream_length h K H sid X hl] at hd
    · rw [hd]; simpa using le_succ_mul hl.size_pos
  · rcases hm with hm | hm
    · exact Or.inl hm
    · rw [rfcStream_length h K H sid X hl] at hm; exact Or.inr hm

/-- **RFC 4253 §7.2.**  For every hash with a positive digest length and every requested length,
    `Transport._compute_key` returns exactly the first `n` bytes of `K1 ‖ K2 ‖ K3 ‖ …` with
    `K1 = HASH(K ‖ H ‖ X ‖ session_id)`, `K(i+1) = HASH(K ‖ H ‖ K1 ‖ … ‖ Ki)`. -/
theorem computeKey_eq_rfcKey (hl : HashLaws h) (n : Nat) :
    computeKey h K H sid X n = rfcKey h K H sid X n := by
  obtain ⟨j, he, hj, _⟩ := computeKey_blocks_minimal h K H sid X hl n
  rw [he, rfcKey]
  exact rfcStream_take_eq h K H sid X hl hj (le_succ_mul hl.size_pos)

/-- The specification does not depend on how many blocks are generated, as long as they cover
    `n` bytes (so `rfcKey`'s own choice of `n + 1` blocks is immaterial). -/
theorem rfcKey_blocks_irrelevant (hl : HashLaws h) (n k : Nat) (hk : n ≤ k * h.size) :
    (rfcStream h K H sid X k).take n = rfcKey h K H sid X n :=
  rfcStream_take_eq h K H sid X hl hk (le_succ_mul hl.size_pos)

/-- "extended to the needed length": exactly `n` bytes come back, for every `n`. -/
theorem computeKey_length (hl : HashLaws h) (n : Nat) :
    (computeKey h K H sid X n).length = n := by
  rw [computeKey_eq_rfcKey h K H sid X hl, rfcKey, List.length_take,
    rfcStream_length h K H sid X hl]
  exact Nat.min_eq_left (le_succ_mul hl.size_pos)

/-- Prefix monotonicity: a shorter request yields a prefix of a longer one. -/
theorem computeKey_prefix (hl : HashLaws h) {m n : Nat} (hmn : m ≤ n) :
    computeKey h K H sid X m = (computeKey h K H sid X n).take m := by
  rw [computeKey_eq_rfcKey h K H sid X hl, computeKey_eq_rfcKey h K H sid X hl, rfcKey, rfcKey,
    List.take_take, Nat.min_eq_left hmn]
  exact rfcStream_take_eq h K H sid X hl (le_succ_mul hl.size_pos)
    (Nat.le_trans hmn (le_succ_mul hl.size_pos))

/-- The first block is `HASH(mpint(K) ‖ H ‖ X ‖ session_id)` itself. -/
theorem computeKey_first_block (hl : HashLaws h) {n : Nat} (hn : h.size ≤ n) :
    (computeKey h K H sid X n).take h.size = h.digest (firstInput K H sid X) := by
  rw [← computeKey_prefix h K H sid X hl hn, computeKey_eq_rfcKey h K H sid X hl,
    ← rfcKey_blocks_irrelevant h K H sid X hl h.size 1 (by simp), rfcStream_one]
  rw [List.take_of_length_le (by rw [hl.digest_len]; exact Nat.le_refl _)]

/-! ## the two peers -/

/-- the peer's view of the same direction -/
def _root_.PV.KeyDerive.Dir.flip : Dir → Dir
  | .inbound => .outbound
  | .outbound => .inbound

/-- Letter selection is role-symmetric: what one side uses outbound the other uses inbound. -/
theorem letters_peer (serverMode : Bool) (d : Dir) :
    letters serverMode d = letters (!serverMode) d.flip := by
  cases serverMode <;> cases d <;> rfl

/-- A client's outbound IV, key and MAC key (and everything derived from them that is handed to
    the packetizer) equal the server's inbound ones, for every cipher/MAC description. -/
theorem client_out_eq_server_in (ci : CipherInfo) (mi : MacInfo) :
    activate h K H sid false .outbound ci mi = activate h K H sid true .inbound ci mi := rfl

theorem server_out_eq_client_in (ci : CipherInfo) (mi : MacInfo) :
    activate h K H sid true .outbound ci mi = activate h K H sid false .inbound ci mi := rfl

/-- `true` iff (role, direction) is the client-to-server stream -/
def c2s (serverMode : Bool) (d : Dir) : Bool :=
  match serverMode, d with
  | false, .outbound => true
  | true, .inbound => true
  | _, _ => false

/-- the three letters of a role and direction are those of the stream it is: `A C E` client→server,
    `B D F` server→client -/
private theorem letters_c2s (serverMode : Bool) (d : Dir) :
    letters serverMode d = if c2s serverMode d then (65, 67, 69) else (66, 68, 70) := by
  cases serverMode <;> cases d <;> rfl

private theorem activate_keys (serverMode : Bool) (d : Dir) (ci : CipherInfo) (mi : MacInfo) :
    let k := activate h K H sid serverMode d ci mi
    k.iv = computeKey h K H sid (letters serverMode d).1 ci.ivSize ∧
    k.key = computeKey h K H sid (letters serverMode d).2.1 ci.keySize ∧
    k.macKey = computeKey h K H sid (letters serverMode d).2.2 mi.digestSize :=
  ⟨rfl, rfl, rfl⟩

/-- Both roles use the RFC's letters: client→server IV `A`, key `C`, integrity key `E`;
    server→client `B`, `D`, `F` — and each value is the RFC derivation of the needed length. -/
theorem activate_rfc (hl : HashLaws h) (serverMode : Bool) (d : Dir) (ci : CipherInfo) (mi : MacInfo) :
    let k := activate h K H sid serverMode d ci mi
    k.iv = rfcKey h K H sid (if c2s serverMode d then 65 else 66) ci.ivSize ∧
    k.key = rfcKey h K H sid (if c2s serverMode d then 67 else 68) ci.keySize ∧
    k.macKey = rfcKey h K H sid (if c2s serverMode d then 69 else 70) mi.digestSize := by
  obtain ⟨h1, h2, h3⟩ := activate_keys h K H sid serverMode d ci mi
  intro k
  rw [h1, h2, h3, letters_c2s]
  simp only [computeKey_eq_rfcKey h K H sid _ hl]
  split <;> exact ⟨rfl, rfl, rfl⟩

/-- IV, key and MAC key have the lengths the cipher / MAC tables ask for
    (MAC key length = the hash's natural digest size, not the truncated tag size). -/
theorem activate_lengths (hl : HashLaws h) (serverMode : Bool) (d : Dir) (ci : CipherInfo) (mi : MacInfo) :
    let k := activate h K H sid serverMode d ci mi
    k.iv.length = ci.ivSize ∧ k.key.length = ci.keySize ∧ k.macKey.length = mi.digestSize := by
  obtain ⟨h1, h2, h3⟩ := activate_keys h K H sid serverMode d ci mi
  intro k
  rw [h1, h2, h3]
  simp only [computeKey_length h K H sid _ hl, and_self]

/-! ## independently negotiated directions (local ≠ remote algorithms) -/

/-- the algorithm of the direction being activated -/
def dirCipher (d : Dir) (n : Negotiated) : CipherInfo :=
  match d with | .inbound => n.remoteCipher | .outbound => n.localCipher

def dirMac (d : Dir) (n : Negotiated) : MacInfo :=
  match d with | .inbound => n.remoteMac | .outbound => n.localMac

/-- Per direction, with that direction's negotiated algorithms — also when the other direction
    negotiated a cipher / MAC with different key, IV or digest sizes: RFC letters, RFC derivation,
    and exactly the sizes the direction's own cipher and MAC need. -/
theorem activateDir_rfc (hl : HashLaws h) (serverMode : Bool) (d : Dir) (n : Negotiated) :
    let k := activateDir h K H sid serverMode d n
    k.iv = rfcKey h K H sid (if c2s serverMode d then 65 else 66) (dirCipher d n).ivSize ∧
    k.key = rfcKey h K H sid (if c2s serverMode d then 67 else 68) (dirCipher d n).keySize ∧
    k.macKey = rfcKey h K H sid (if c2s serverMode d then 69 else 70) (dirMac d n).digestSize ∧
    k.iv.length = (dirCipher d n).ivSize ∧ k.key.length = (dirCipher d n).keySize ∧
    k.macKey.length = (dirMac d n).digestSize ∧ k.blockSizeArg = (dirCipher d n).blockSize := by
  have h1 := activate_rfc h K H sid hl serverMode d (dirCipher d n) (dirMac d n)
  have h2 := activate_lengths h K H sid hl serverMode d (dirCipher d n) (dirMac d n)
  cases d <;> exact ⟨h1.1, h1.2.1, h1.2.2, h2.1, h2.2.1, h2.2.2, rfl⟩

/-- **Peers match with asymmetric negotiation.**  If the two peers agree per direction (what C05
    proves: a client's `local_*` is the server's `remote_*` and vice versa) then client-out =
    server-in and server-out = client-in — no relation between the two directions is needed. -/
theorem peers_match_asymmetric (nc ns : Negotiated)
    (h1 : nc.localCipher = ns.remoteCipher) (h2 : nc.localMac = ns.remoteMac)
    (h3 : nc.remoteCipher = ns.localCipher) (h4 : nc.remoteMac = ns.localMac) :
    activateDir h K H sid false .outbound nc = activateDir h K H sid true .inbound ns ∧
    activateDir h K H sid true .outbound ns = activateDir h K H sid false .inbound nc := by
  simp only [activateDir, h1, h2, h3, h4]
  exact ⟨client_out_eq_server_in h K H sid _ _, server_out_eq_client_in h K H sid _ _⟩

/-! ## the two directions never share a key -/

/-- The hashed first-block messages for two different letters are different byte strings. -/
theorem firstInput_injective {Y : UInt8} (heq : firstInput K H sid X = firstInput K H sid Y) :
    X = Y := by
  unfold firstInput at heq
  rw [List.append_assoc, List.append_assoc] at heq
  have := List.append_cancel_left heq
  simpa using this

/-- The six derivation inputs (letters `A`–`F`) are pairwise distinct byte strings. -/
theorem six_inputs_pairwise_distinct :
    List.Pairwise (· ≠ ·) (([65, 66, 67, 68, 69, 70] : List UInt8).map (firstInput K H sid)) := by
  rw [List.pairwise_map]
  have hp : List.Pairwise (· ≠ ·) ([65, 66, 67, 68, 69, 70] : List UInt8) := by decide
  exact hp.imp fun hne heq => hne (firstInput_injective K H sid _ heq)

/-- Within one role the inbound and outbound letters are disjoint, and the three letters of one
    direction are distinct: no derivation input is used twice. -/
theorem letters_disjoint (serverMode : Bool) :
    let i := letters serverMode .inbound
    let o := letters serverMode .outbound
    List.Pairwise (· ≠ ·) [i.1, i.2.1, i.2.2, o.1, o.2.1, o.2.2] := by
  cases serverMode <;> decide

/-- With a collision-free hash (explicit hypothesis — the idealisation of collision resistance),
    keys derived for different letters differ as soon as they contain the whole first block. -/
theorem keys_differ_of_collision_free (hl : HashLaws h)
    (hinj : ∀ x y, h.digest x = h.digest y → x = y) {Y : UInt8} (hXY : X ≠ Y)
    {n : Nat} (hn : h.size ≤ n) :
    computeKey h K H sid X n ≠ computeKey h K H sid Y n := by
  intro heq
  have h1 := computeKey_first_block h K H sid X hl hn
  have h2 := computeKey_first_block h K H sid Y hl hn
  rw [heq, h2] at h1
  exact hXY (firstInput_injective K H sid Y (hinj _ _ h1)).symm

/-! ## the tables of the source (regenerated on every run) -/

/-- Every kex method paramiko offers specifies a hash with a positive digest length
    (so `HashLaws.size_pos` holds for every kex hash algorithm). -/
theorem kex_hashes_positive : ∀ p ∈ PV.Generated.C04.kexHashSizes, 0 < p.2 := by decide +kernel

/-- For every cipher / MAC paramiko offers a non-empty IV, key and MAC key is derived. -/
theorem table_sizes_positive :
    (∀ ci ∈ PV.Generated.C04.cipherTable, 0 < ci.ivSize ∧ 0 < ci.keySize ∧ 0 < ci.blockSize) ∧
    (∀ mi ∈ PV.Generated.C04.macTable, 0 < mi.digestSize ∧ mi.size ≤ mi.digestSize) := by
  decide +kernel

/-! ## the session identifier over a connection's whole life -/

/-- **AST-derived fact** (regenerated from paramiko/*.py on every run): apart from `= None` in
    `__init__`, `self.session_id` is assigned exactly once in the package — `self.session_id = h` in
    `_set_K_H`, directly under `if self.session_id is None:`. -/
theorem session_id_guard_generated : PV.Generated.C04.sessionIdGuarded = true := by decide

private theorem run_keeps_sid (exs : List (Int × Bytes)) (s : KexState) (sid : Bytes)
    (h : s.sessionId = some sid) : (runExchanges true s exs).sessionId = some sid := by
  induction exs generalizing s with
  | nil => exact h
  | cons e rest ih =>
    apply ih
    simp [setKH, h]

private theorem run_last (guarded : Bool) (l : List (Int × Bytes)) (s : KexState) (hne : l ≠ []) :
    (runExchanges guarded s l).K = some (l.getLast hne).1 ∧
    (runExchanges guarded s l).H = some (l.getLast hne).2 := by
  induction l generalizing s with
  | nil => exact absurd rfl hne
  | cons e rest ih =>
    cases rest with
    | nil => exact ⟨rfl, rfl⟩
    | cons e2 r2 => exact ih (setKH guarded s e.1 e.2) (List.cons_ne_nil _ _)

/-- **`session_id` is the first exchange hash, forever.**  After any number of key exchanges
    (initial kex followed by any list of re-keys) `K` and `H` are those of the last exchange and
    `session_id` is the exchange hash of the *first* one. -/
theorem session_id_is_first_exchange_hash (k1 : Int) (h1 : Bytes) (rekeys : List (Int × Bytes)) :
    let s := runExchanges PV.Generated.C04.sessionIdGuarded KexState.init ((k1, h1) :: rekeys)
    s.sessionId = some h1 ∧
    s.K = some ((((k1, h1) :: rekeys).getLast (by simp)).1) ∧
    s.H = some ((((k1, h1) :: rekeys).getLast (by simp)).2) := by
  refine ⟨?_, run_last _ _ _ _⟩
  rw [session_id_guard_generated]
  exact run_keeps_sid rekeys _ h1 (by simp [setKH, KexState.init])

/-- **Keys of every exchange use the first exchange hash as session id**: after the n-th exchange
    (any n ≥ 1) `_compute_key` yields RFC 4253 §7.2 with the *current* `K`, `H` and `session_id = H₁`. -/
theorem keys_after_rekeys (hl : HashLaws h) (k1 : Int) (h1 : Bytes) (rekeys : List (Int × Bytes)) (n : Nat) :
    stateKey h (runExchanges PV.Generated.C04.sessionIdGuarded KexState.init ((k1, h1) :: rekeys)) X n
      = some (rfcKey h ((((k1, h1) :: rekeys).getLast (by simp)).1)
                (((k1, h1) :: rekeys).getLast (by simp)).2 h1 X n) := by
  obtain ⟨e1, e2, e3⟩ := session_id_is_first_exchange_hash k1 h1 rekeys
  simp only [stateKey, e1, e2, e3, computeKey_eq_rfcKey h _ _ _ X hl]

/-- what the unguarded assignment does: from the second re-key on the session id is a later hash -/
theorem unguarded_session_id_witness :
    (runExchanges false KexState.init [(1, [1]), (2, [2]), (3, [3])]).sessionId = some [3] ∧
    (runExchanges true KexState.init [(1, [1]), (2, [2]), (3, [3])]).sessionId = some [1] := by decide

/-! ## the IV that is actually used on the wire (AES-GCM) -/

/-- **AST-derived fact** (regenerated from paramiko/packet.py on every run): in `send_message` and in
    `read_message` the AEAD engine is called with the stored IV *before* the statement
    `self.__iv = self._inc_iv_counter(self.__iv)`. -/
theorem aead_order_generated :
    PV.Generated.C04.aeadSendUseFirst = true ∧ PV.Generated.C04.aeadRecvUseFirst = true := by decide

/-- every AEAD row of `_cipher_info` asks for a 12-byte IV (4 fixed + 8 counter bytes) -/
theorem aead_rows_iv12 : ∀ ci ∈ PV.Generated.C04.cipherTable, ci.aead = true → ci.ivSize = 12 := by
  decide +kernel

/-- **Nonce sequence.**  With the statement order of the source, packet `k` (k = 0, 1, 2, …) after the
    keys were installed is sealed (send) / opened (receive) with nonce `fixed ‖ (counter + k)` of the
    installed IV — packet 0 with the installed IV itself (RFC 5647 section 7.1). -/
theorem aead_nonce_sequence (iv : Bytes) (n : Nat) (h12 : iv.length = 12)
    (hc : beVal (iv.drop 4) + n < 18446744073709551616) :
    trace PV.Generated.C04.aeadSendUseFirst n iv = (List.range n).map (fun k => some (rfcNonce iv k)) ∧
    trace PV.Generated.C04.aeadRecvUseFirst n iv = (List.range n).map (fun k => some (rfcNonce iv k)) := by
  rw [aead_order_generated.1, aead_order_generated.2]
  exact ⟨trace_rfc n iv h12 hc, trace_rfc n iv h12 hc⟩

/-- the statement-order fact of the site that handles direction `d` -/
def siteUseFirst : Dir → Bool
  | .outbound => PV.Generated.C04.aeadSendUseFirst
  | .inbound => PV.Generated.C04.aeadRecvUseFirst

/-- **The IV used on the wire is the derived IV.**  For every AEAD cipher of the table, either role,
    either direction: the nonces of the packets protected under new keys are
    `rfcNonce (RFC 4253 §7.2 IV for the direction's letter, 12 bytes) k`, k counting from 0. -/
theorem aead_wire_nonces (hl : HashLaws h) (serverMode : Bool) (d : Dir) (nz : Negotiated) (n : Nat)
    (hci : dirCipher d nz ∈ PV.Generated.C04.cipherTable) (ha : (dirCipher d nz).aead = true)
    (hc : beVal ((rfcKey h K H sid (if c2s serverMode d then 65 else 66) 12).drop 4) + n < 18446744073709551616) :
    let iv := (activateDir h K H sid serverMode d nz).iv
    (activateDir h K H sid serverMode d nz).ivArg = some iv ∧
    iv = rfcKey h K H sid (if c2s serverMode d then 65 else 66) 12 ∧
    trace (siteUseFirst d) n iv = (List.range n).map (fun k => some (rfcNonce iv k)) := by
  have h12 := aead_rows_iv12 _ hci ha
  obtain ⟨r1, _, _, l1, _, _, _⟩ := activateDir_rfc h K H sid hl serverMode d nz
  rw [h12] at r1 l1
  have hseq := aead_nonce_sequence (activateDir h K H sid serverMode d nz).iv n l1 (by rw [r1]; exact hc)
  refine ⟨?_, r1, ?_⟩
  · cases d <;> simp [activateDir, activate, dirCipher] at ha ⊢ <;> simp [ha]
  · cases d
    · exact hseq.2
    · exact hseq.1

/-- what "increment before use" would do: the installed IV is never used (packet 0 gets IV+1) -/
theorem increment_first_witness :
    trace false 2 [1, 2, 3, 4, 0, 0, 0, 0, 0, 0, 0, 255]
      = [some [1, 2, 3, 4, 0, 0, 0, 0, 0, 0, 1, 0], some [1, 2, 3, 4, 0, 0, 0, 0, 0, 0, 1, 1]] ∧
    trace true 2 [1, 2, 3, 4, 0, 0, 0, 0, 0, 0, 0, 255]
      = [some [1, 2, 3, 4, 0, 0, 0, 0, 0, 0, 0, 255], some [1, 2, 3, 4, 0, 0, 0, 0, 0, 0, 1, 0]] := by
  decide +kernel

/-! ## non-vacuity -/

example : HashLaws (toyHash 3) := toyHash_laws 3 (by decide)

/-- a derivation that needs four blocks of the 3-byte toy hash -/
example : (computeKey (toyHash 3) 1234567 [1, 2, 3] [9, 9] 65 10).length = 10 := by decide +kernel

example : computeKey (toyHash 3) 1234567 [1, 2, 3] [9, 9] 65 10
    = rfcKey (toyHash 3) 1234567 [1, 2, 3] [9, 9] 65 10 := by decide +kernel

example : computeKey (toyHash 3) 1234567 [1, 2, 3] [9, 9] 65 10
    ≠ computeKey (toyHash 3) 1234567 [1, 2, 3] [9, 9] 66 10 := by decide +kernel

/-- asymmetric negotiation (16-byte key / 16-byte IV one way, 32-byte key / 12-byte IV the other):
    the inbound key of a client has the *remote* cipher's 32 bytes, not the local cipher's 16 -/
example :
    let a : CipherInfo := { name := "a", blockSize := 16, keySize := 16, ivSize := 16, aead := false }
    let b : CipherInfo := { name := "b", blockSize := 16, keySize := 32, ivSize := 12, aead := true }
    let m : MacInfo := { name := "m", digestSize := 20, size := 12 }
    let n : Negotiated := { localCipher := a, remoteCipher := b, localMac := m, remoteMac := m }
    (activateDir (toyHash 5) 77 [1] [2] false .inbound n).key.length = 32 ∧
    (activateDir (toyHash 5) 77 [1] [2] false .inbound n).iv.length = 12 ∧
    (activateDir (toyHash 5) 77 [1] [2] false .outbound n).key.length = 16 := by decide +kernel

end PV.Props.C04
