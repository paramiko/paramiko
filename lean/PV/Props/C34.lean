/-
  C34 — Default SFTP path canonicalisation stays inside the served root.
  Property theorems only (helpers: PV/Model/CanonLemmas.lean).  Model: PV/Model/Canon.lean.
-/
import PV.Model.CanonLemmas
namespace PV.Props.C34
open PV PV.Canon

/-- every input is treated as the absolute path `"/" ++ tail` -/
private theorem canonicalize_eq (p : Bytes) :
    ∃ r, canonicalize p = normpath (slash :: r) ∧
      (slash :: r = p ∨ (r = p ∧ p.head? ≠ some slash)) := by
  unfold canonicalize isabs
  cases p with
  | nil => exact ⟨[], by simp, Or.inr ⟨rfl, by simp⟩⟩
  | cons c cs =>
    by_cases hc : c = slash
    · exact ⟨cs, by simp [hc], Or.inl (by rw [hc])⟩
    · refine ⟨c :: cs, by simp [hc], Or.inr ⟨rfl, by simp [hc]⟩⟩

/-- **Canonical form.** For every client-supplied path the result is `/` or `//` followed by names joined
with single slashes: every component is non-empty, is not `.`, is not `..` and contains no
slash.  (`//` is POSIX's implementation-defined double-slash root, which `normpath` preserves.) -/
theorem canonical_form (p : Bytes) :
    ∃ root comps, canonicalize p = root ++ joinSlash comps ∧
      (root = [slash] ∨ root = [slash, slash]) ∧ ∀ c ∈ comps, Proper c := by
  obtain ⟨r, hr, _⟩ := canonicalize_eq p
  obtain ⟨comps, hn, hp⟩ := normpath_abs r
  exact ⟨_, comps, by rw [hr, hn], splitroot_abs r, hp⟩

/-- the result is absolute -/
theorem absolute (p : Bytes) : (canonicalize p).head? = some slash := by
  obtain ⟨root, comps, h, hroot, _⟩ := canonical_form p
  rw [h]
  rcases hroot with e | e <;> subst e <;> rfl

/-- the `//` root appears exactly when the client's path itself starts with two (not three) slashes -/
theorem double_slash_iff (p : Bytes) :
    (∃ comps, canonicalize p = slash :: slash :: joinSlash comps ∧ ∀ c ∈ comps, Proper c) ↔
      (p.head? = some slash ∧ p.tail.head? = some slash ∧ p.tail.tail.head? ≠ some slash) := by
  obtain ⟨r, hr, hp⟩ := canonicalize_eq p
  obtain ⟨comps, hn, hpr⟩ := normpath_abs r
  have hd := splitroot_double r
  constructor
  · rintro ⟨comps', h', hpr'⟩
    -- the root must be `//`: a proper first component does not start with a slash
    have hroot : (splitroot (slash :: r)).1 = [slash, slash] := by
      rcases splitroot_abs r with e | e
      · exfalso
        rw [hr, hn, e] at h'
        simp only [List.singleton_append, List.cons.injEq, true_and] at h'
        cases comps with
        | nil => simp [joinSlash] at h'
        | cons c cs =>
          have hc := hpr c (by simp)
          have : (joinSlash (c :: cs)).head? = some slash := by rw [h']; rfl
          cases c with
          | nil => exact hc.1 rfl
          | cons x xs =>
            have hx : x = slash := by
              cases cs <;> simpa [joinSlash] using this
            exact hc.2.2.2 (by simp [hx])
      · exact e
    have := hd.mp hroot
    rcases hp with e | ⟨e, hne⟩
    · subst e; simpa using this
    · subst e; exact absurd this.1 hne
  · rintro ⟨h1, h2, h3⟩
    rcases hp with e | ⟨e, hne⟩
    · subst e
      have hroot := hd.mpr ⟨by simpa using h2, by simpa using h3⟩
      exact ⟨comps, by rw [hr, hn, hroot]; rfl, hpr⟩
    · exact absurd h1 hne

/-- components of the result, as a filesystem would read them: the empty component(s) of the root marker,
then proper names only -/
theorem components (p : Bytes) :
    ∃ comps, (∀ c ∈ comps, Proper c) ∧
      (splitSlash (canonicalize p) = [] :: comps ∨ splitSlash (canonicalize p) = [] :: [] :: comps
        ∨ (comps = [] ∧ splitSlash (canonicalize p) = [[], []])
        ∨ (comps = [] ∧ splitSlash (canonicalize p) = [[], [], []])) := by
  obtain ⟨root, comps, h, hroot, hpr⟩ := canonical_form p
  refine ⟨comps, hpr, ?_⟩
  have hns : ∀ x ∈ comps, slash ∉ x := fun x hx => (hpr x hx).2.2.2
  by_cases hc : comps = []
  · subst hc
    rcases hroot with e | e <;> subst e <;> rw [h]
    · right; right; left; exact ⟨rfl, by decide⟩
    · right; right; right; exact ⟨rfl, by decide⟩
  · have hs := split_join comps hc hns
    rcases hroot with e | e <;> subst e <;> rw [h]
    · left
      have := split_append_slash [] (joinSlash comps)
      simp only [List.nil_append] at this
      rw [show [slash] ++ joinSlash comps = slash :: joinSlash comps from rfl, this, hs]
      rfl
    · right; left
      have h1 := split_append_slash [] (slash :: joinSlash comps)
      have h2 := split_append_slash [] (joinSlash comps)
      simp only [List.nil_append] at h1 h2
      rw [show [slash, slash] ++ joinSlash comps = slash :: slash :: joinSlash comps from rfl, h1, h2, hs]
      rfl

/-- **Inside the root.** Appending the result to any served root names the root's own components followed
by a walk that never climbs: from the root directory (depth 0) every prefix of the walk stays at
depth ≥ 0 (`descend` would return `none` otherwise), and it ends `d` levels below the root. -/
theorem inside_root (root p : Bytes) :
    ∃ rest d, splitSlash (root ++ canonicalize p) = splitSlash root ++ rest ∧
      descend 0 rest = some d := by
  obtain ⟨comps, hpr, hsplit⟩ := components p
  have habs := absolute p
  -- the result starts with a slash: split there
  cases hcp : canonicalize p with
  | nil => rw [hcp] at habs; simp at habs
  | cons x xs =>
    rw [hcp] at habs
    simp only [List.head?_cons, Option.some.injEq] at habs
    subst habs
    refine ⟨splitSlash xs, ?_⟩
    have hsp : splitSlash (slash :: xs) = [] :: splitSlash xs := by
      simp [splitSlash, splitSlash.go]
    rw [hcp, hsp] at hsplit
    have hd := descend_proper comps hpr
    rcases hsplit with e | e | ⟨e1, e⟩ | ⟨e1, e⟩
    · simp only [List.cons.injEq, true_and] at e
      exact ⟨comps.length, split_append_slash root xs, by rw [e, hd]; simp⟩
    · simp only [List.cons.injEq, true_and] at e
      exact ⟨comps.length, split_append_slash root xs, by rw [e, descend_nil_cons, hd]; simp⟩
    · simp only [List.cons.injEq, true_and] at e
      exact ⟨0, split_append_slash root xs, by rw [e]; simp [descend]⟩
    · simp only [List.cons.injEq, true_and] at e
      exact ⟨0, split_append_slash root xs, by rw [e]; simp [descend]⟩

/-- the walk of the result alone never leaves the root either, whatever the client sent -/
theorem never_climbs (p : Bytes) : ∃ d, descend 0 (splitSlash (canonicalize p)) = some d := by
  obtain ⟨rest, d, h1, h2⟩ := inside_root [] p
  refine ⟨d, ?_⟩
  simp only [List.nil_append] at h1
  rw [h1]
  simpa [splitSlash, splitSlash.go, descend] using h2

/-- **Idempotent.** Canonicalising a canonical path changes nothing: the result is a fixed point, so a server that
canonicalises twice (REALPATH, then an operation on the returned name) sees the same name. -/
theorem idempotent (p : Bytes) : canonicalize (canonicalize p) = canonicalize p := by
  obtain ⟨root, comps, h, hroot, hpr⟩ := canonical_form p
  have habs : isabs (canonicalize p) = true := by
    simp [isabs, absolute p]
  have hstep : canonicalize (canonicalize p) = normpath (canonicalize p) := by
    generalize canonicalize p = q at habs
    unfold canonicalize
    simp [habs]
  rw [hstep, h]
  exact normpath_normal root comps hroot hpr

/-! ## non-vacuity / sanity: the classic traversal attempts -/

example : canonicalize [46, 46, 47, 46, 46, 47, 101, 116, 99] = [47, 101, 116, 99] := by decide +kernel   -- "../../etc" ↦ "/etc"
example : canonicalize [47, 47, 46, 46, 47, 97] = [47, 47, 97] := by decide +kernel                        -- "//../a" ↦ "//a"
example : canonicalize [] = [47] := by decide +kernel
example : canonicalize [47, 47, 47, 97, 47, 47, 46, 47, 98, 47, 46, 46] = [47, 97] := by decide +kernel     -- "///a//./b/.." ↦ "/a"
example : descend 0 (splitSlash [46, 46, 47, 97]) = none := by decide +kernel                              -- "../a" itself escapes
example : Proper [101, 116, 99] := ⟨by decide, by decide, by decide, by decide⟩

end PV.Props.C34
