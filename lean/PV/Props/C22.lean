/-
  C22 — Channel EOF and CLOSE are sent at most once and end data transmission.
  Model: PV/Model/ChanWindow.lean (lock regions of close / _close_internal / _send_eof / shutdown /
  _handle_eof / _handle_close / _request_failed / _unlink next to the send path); lemmas:
  PV/Model/ChanCloseLemmas.lean.  All theorems hold for both code versions (`cfg` arbitrary).

  FULL STATEMENT OF THE THIRD CLAUSE (false of the code, see `C22_witness`):
      ∀ schedules, dataAfterEnd (run cfg init sched).wire = false
  i.e. "after a side has sent EOF or CLOSE it sends no further data, even when other threads are still
  writing".  `Channel._send` reserves window under the lock but writes the message after releasing it (on
  purpose: holding it would deadlock during re-keying), so a concurrent close() can put EOF, CLOSE on the wire
  first.  Proved instead: `C22_partial` (no such data unless the EOF was decided while a writer already held
  a reservation — ghost flag `raced`) and `no_reservation_after_eof` (nothing is reserved any more once EOF
  is decided, so the late messages are exactly the reservations that existed at that moment).
-/
import PV.Model.ChanCloseLemmas
import PV.Model.FlagOnce
import PV.Generated.ChanLock
import PV.Generated.C22
namespace PV.Props.C22
open PV.Chan

private theorem count_init (inWin peerWin peerMax nthr : Nat) (c : Bool) :
    CountInv (init inWin peerWin peerMax nthr c) :=
  ⟨by rw [sumBy_init _ rfl]; exact Nat.zero_le _, by rw [sumBy_init _ rfl]; exact Nat.zero_le _, rfl,
   fun h => by cases h⟩

private theorem race_init (inWin peerWin peerMax nthr : Nat) (c : Bool) :
    RaceInv (init inWin peerWin peerMax nthr c) := by
  intro _
  refine ⟨(fun h => by cases h), fun _ => ⟨by simp [init], fun x hx => ?_⟩, rfl⟩
  rw [(List.mem_replicate.1 hx).2]; rfl

/-- **At most one EOF, at most one CLOSE** — on the wire and in the hands of threads about to write, together,
    in every schedule (any number of threads calling close / shutdown / shutdown_write, peer EOF, peer CLOSE,
    failed requests, transport teardown, failing wire writes, in any interleaving).  An EOF exists only if
    `eof_sent` is set. -/
theorem eof_close_at_most_once (cfg : Cfg) (inWin peerWin peerMax nthr : Nat) (c : Bool) (sched : List Act) :
    List.countP Msg.isEof (run cfg (init inWin peerWin peerMax nthr c) sched).wire ≤ 1 ∧
    List.countP Msg.isClose (run cfg (init inWin peerWin peerMax nthr c) sched).wire ≤ 1 ∧
    (List.countP Msg.isEof (run cfg (init inWin peerWin peerMax nthr c) sched).wire +
       sumBy TSt.nEof (run cfg (init inWin peerWin peerMax nthr c) sched).thr ≤
     (run cfg (init inWin peerWin peerMax nthr c) sched).eofSent.toNat) := by
  have h := run_count cfg _ sched (count_init inWin peerWin peerMax nthr c)
  have e := h.1
  have cl := h.2.1
  have b1 : (run cfg (init inWin peerWin peerMax nthr c) sched).eofSent.toNat ≤ 1 := Bool.toNat_le _
  have b2 : (run cfg (init inWin peerWin peerMax nthr c) sched).closed.toNat ≤ 1 := Bool.toNat_le _
  refine ⟨by omega, by omega, e⟩

/-- **A peer's CLOSE is answered with ours unless we already sent one, and the channel is released.**
    On an open channel the handling thread ends up holding [EOF (unless sent), CLOSE] and the channel is
    removed from the transport's map; on a channel we already closed nothing is sent and it is removed. -/
theorem peer_close_answered_and_released (cfg : Cfg) (s : St) (t : Nat) (r : Res)
    (hr : s.thr[t]? = some (.idle r)) (ha : s.active = true) :
    (s.closed = false →
      (step cfg s (.peerClose t)).thr[t]? = some (.hold ((if s.eofSent then [] else [.eof]) ++ [.close]) .retNone) ∧
      (step cfg s (.peerClose t)).closed = true) ∧
    (s.closed = true → (step cfg s (.peerClose t)).thr[t]? = some (.idle .none) ∧
      (step cfg s (.peerClose t)).wire = s.wire) ∧
    (step cfg s (.peerClose t)).linked = false := by
  cases hc : s.closed
  · have h := peerClose_open cfg s t r hr ha hc
    simp only at h
    exact ⟨fun _ => ⟨h.2.2.2, h.1⟩, (fun h' => by cases h'), h.2.1⟩
  · have h := peerClose_closed cfg s t r hr hc
    simp only at h
    exact ⟨(fun h' => by cases h'), fun _ => ⟨h.2.1, h.2.2⟩, h.1⟩

/-- a channel that is no longer in the transport's map is closed (every schedule) -/
theorem released_implies_closed (cfg : Cfg) (inWin peerWin peerMax nthr : Nat) (c : Bool) (sched : List Act) :
    (run cfg (init inWin peerWin peerMax nthr c) sched).linked = false →
    (run cfg (init inWin peerWin peerMax nthr c) sched).closed = true :=
  (run_count cfg _ sched (count_init inWin peerWin peerMax nthr c)).2.2.2

/-- **Later operations fail instead of sending.**  Once the channel is closed and its EOF is out (in
    particular once both CLOSEs were exchanged), NO action of any thread and no peer message creates a new
    message: the number of messages written plus messages already in the hands of threads never grows
    again (it shrinks only when a pending wire write fails) — and the flags stay as they are. -/
theorem dead_channel_sends_nothing (cfg : Cfg) (s : St) (sched : List Act)
    (hc : s.closed = true) (he : s.eofSent = true) :
    msgTotal (run cfg s sched) ≤ msgTotal s ∧ (run cfg s sched).closed = true ∧
    (run cfg s sched).eofSent = true := by
  induction sched generalizing s with
  | nil => exact ⟨Nat.le_refl _, hc, he⟩
  | cons a as ih =>
    have h := step_sound cfg s a
    obtain ⟨i1, i2, i3⟩ := ih (step cfg s a) (h.mono.2.1 hc) (h.mono.2.2.2 he)
    exact ⟨Nat.le_trans i1 (h.dead hc he).1, i2, i3⟩

/-- … and the calls themselves raise: `send` / `send_stderr` on a closed channel is `socket.error` -/
theorem send_on_closed_raises (cfg : Cfg) (s : St) (t n : Nat) (ext : Bool) (r : Res)
    (hr : s.thr[t]? = some (.idle r)) (hc : s.closed = true) :
    (step cfg s (.send t n ext)).thr[t]? = some (.idle .sockClosed) ∧
    (step cfg s (.send t n ext)).wire = s.wire := by
  simp only [step, idleOf_of_get hr, if_true, sendRegion, hc]
  exact ⟨setThr_get _ hr, rfl⟩

/-- **Nothing is reserved after EOF is decided**: on a channel that is closed or has `eof_sent`, the lock
    region of `_send` and every wake-up leave the calling thread holding no message at all. -/
theorem no_reservation_after_eof (cfg : Cfg) (s : St) (t : Nat) (h : s.closed = true ∨ s.eofSent = true) :
    (∀ n ext r, s.thr[t]? = some (.idle r) →
      ∃ x, (step cfg s (.send t n ext)).thr[t]? = some x ∧ x.held = []) ∧
    (∀ l ext, s.thr[t]? = some (.loopHead l ext) →
      ∃ x, (step cfg s (.iter t)).thr[t]? = some x ∧ x.held = []) ∧
    (∀ dt want ext left lp, s.thr[t]? = some (.waiting want ext left lp) →
      ∃ x, (step cfg s (.wake t dt)).thr[t]? = some x ∧ x.held = []) := by
  have key : ∀ {s' : St} {want : Nat} {ext : Bool} {lp : Option Loop} {old : TSt}, s.thr[t]? = some old →
      SendEff cfg s t want ext lp s' → ∃ x, s'.thr[t]? = some x ∧ x.held = [] := by
    intro s' want ext lp old hr ⟨x, d, e, ho⟩
    refine ⟨x, by rw [e]; exact setThr_get x hr, ?_⟩
    rcases ho.held with ⟨hx, _⟩ | ⟨_, _, _, _, h1, h2⟩
    · exact hx
    · rcases h with h | h
      · rw [h1] at h; cases h
      · rw [h2] at h; cases h
  refine ⟨?_, ?_, ?_⟩
  · intro n ext r hr
    simp only [step, idleOf_of_get hr, if_true]
    exact key hr (sendRegion_out cfg s t n ext none)
  · intro l ext hr
    simp only [step, hr]
    exact key hr (sendRegion_out cfg s t l.rem ext (some l))
  · intro dt want ext left lp hr
    simp only [step, hr]
    exact key hr (wakeRegion_out cfg s t dt want ext left lp)

/-- **Third clause, as far as it is true.**  In every schedule in which EOF was never decided while some thread
    held a reserved-but-unwritten data message (`raced = false` — e.g. every single-writer program that closes
    from the writing thread, and every program that joins its writers before closing): no CHANNEL_DATA or
    CHANNEL_EXTENDED_DATA follows an EOF or CLOSE on the wire, and while EOF is out no thread holds data. -/
theorem C22_partial (cfg : Cfg) (inWin peerWin peerMax nthr : Nat) (c : Bool) (sched : List Act)
    (h : (run cfg (init inWin peerWin peerMax nthr c) sched).raced = false) :
    dataAfterEnd (run cfg (init inWin peerWin peerMax nthr c) sched).wire = false ∧
    ((run cfg (init inWin peerWin peerMax nthr c) sched).eofSent = true →
      ∀ x ∈ (run cfg (init inWin peerWin peerMax nthr c) sched).thr, x.holdsData = false) := by
  have hi := run_race cfg _ sched (race_init inWin peerWin peerMax nthr c) h
  exact ⟨hi.2.2, hi.1⟩

/-- **The defect (kept as a known finding).**  Thread 0 reserves 5 bytes in `send` and is about to write;
    thread 1 calls `close()` and writes EOF, CLOSE; then thread 0 writes its DATA: wire = [EOF, CLOSE, DATA]. -/
theorem C22_witness :
    let s := run fixedCfg (init 32768 32768 32768 2 false) [.send 0 5 false, .close 1, .emit 1, .emit 1, .emit 0]
    s.wire = [.eof, .close, .data 5] ∧ dataAfterEnd s.wire = true ∧ s.raced = true ∧
    s.thr = [.idle (.ret 5), .idle .none] := by
  decide +kernel

/-- non-vacuity of `C22_partial` and of the counting theorem: two closers and the peer's CLOSE race; one EOF,
    one CLOSE, no data after them, channel released -/
example :
    let s := run fixedCfg (init 32768 32768 32768 3 false)
      [.send 0 5 false, .emit 0, .shutdownWrite 0, .close 1, .peerClose 2, .emit 0, .emit 1, .send 0 3 true,
       .shutdownWrite 1, .close 0]
    s.wire = [.data 5, .eof, .close] ∧ s.raced = false ∧ s.linked = false ∧ dataAfterEnd s.wire = false ∧
    s.thr = [.idle .none, .idle .none, .idle .none] := by
  decide +kernel

/-! ## statement granularity: the atomic regions assumed above are the regions the code really locks -/

open PV.FlagOnce in
private def FInv (s : PV.FlagOnce.St) : Prop :=
  s.emitted = s.flag.toNat ∧ ∀ p ∈ s.thr, p = Pc.ready true ∨ p = Pc.done

open PV.FlagOnce in
private theorem fstep_inv (s : PV.FlagOnce.St) (t : Nat) (h : FInv s) : FInv (PV.FlagOnce.step s t) := by
  obtain ⟨h1, h2⟩ := h
  have hset : ∀ (l : List Pc) (x : Pc), (∀ p ∈ l, p = Pc.ready true ∨ p = Pc.done) → x = Pc.done →
      ∀ p ∈ l.set t x, p = Pc.ready true ∨ p = Pc.done := by
    intro l x hl hx p hp
    rcases List.mem_or_eq_of_mem_set hp with h | h
    · exact hl p h
    · exact .inr (h.trans hx)
  unfold PV.FlagOnce.step
  split
  · split
    · exact ⟨h1, hset _ _ h2 rfl⟩
    · rename_i hf
      refine ⟨?_, hset _ _ h2 rfl⟩
      have : s.flag = false := by simpa using hf
      simp [this] at h1 ⊢; omega
  · rename_i hr
    have := h2 _ (List.mem_of_getElem? hr)
    rcases this with h | h <;> cases h
  · rename_i hr
    have := h2 _ (List.mem_of_getElem? hr)
    rcases this with h | h <;> cases h
  · exact ⟨h1, h2⟩

/-- **If every call site holds the lock, the flag is decided once**: whatever the number of threads and the
    interleaving of their steps, at most one message is produced. -/
theorem decided_once_if_all_locked (sites : List Bool) (hall : ∀ b ∈ sites, b = true) (sched : List Nat) :
    (PV.FlagOnce.run (PV.FlagOnce.init sites) sched).emitted ≤ 1 := by
  have h0 : FInv (PV.FlagOnce.init sites) := by
    refine ⟨rfl, ?_⟩
    intro p hp
    simp only [PV.FlagOnce.init, List.mem_map] at hp
    obtain ⟨b, hb, rfl⟩ := hp
    exact .inl (by rw [hall b hb])
  have : ∀ (sch : List Nat) (s : PV.FlagOnce.St), FInv s → FInv (PV.FlagOnce.run s sch) := by
    intro sch
    induction sch with
    | nil => intro s h; exact h
    | cons t ts ih => intro s h; exact ih _ (fstep_inv s t h)
  have hf := (this sched _ h0).1
  have := Bool.toNat_le (PV.FlagOnce.run (PV.FlagOnce.init sites) sched).flag
  omega

/-- … and one unlocked call site is enough to break it: the unlocked thread reads the flag, a locked one decides
    and emits, the unlocked one then writes and emits again (wire: EOF … EOF). -/
theorem unlocked_site_double_emit_witness :
    (PV.FlagOnce.run (PV.FlagOnce.init [false, true]) [0, 1, 0]).emitted = 2 := by
  decide

/-- the decision sites of channel.py outside the constructor, as generated from its AST on this run -/
def decisionSites : List PV.Generated.ChanLock.Site :=
  PV.Generated.ChanLock.sites.filter fun s => s.caller != "__init__"

/-- **Every place that decides EOF or CLOSE runs under `self.lock`** (calls of `_send_eof`, `_close_internal`,
    `_set_closed`, writes of `eof_sent` / `closed`; helpers documented "you are holding the lock" count as locked
    only if every one of their call sites is): the lock regions the model treats as atomic are the ones in the
    source.  Re-checked against the source on every run. -/
theorem decision_sites_locked : ∀ s ∈ decisionSites, s.effLocked = true := by
  decide

/-- **A channel is released under its own (local) id**: every `transport._unlink_channel(…)` call in class Channel
    passes `self.chanid` (AST of channel.py on this run) — the transport's map is keyed by the local id, so this is
    what makes "released" in `peer_close_answered_and_released` mean "this channel, and only it". -/
theorem unlink_uses_the_local_id :
    PV.Generated.ChanLock.unlinkArgs ≠ [] ∧ ∀ a ∈ PV.Generated.ChanLock.unlinkArgs, a = "self.chanid" := by
  decide

/-- **Every message for a registered channel reaches its handler**: in `Transport.run` the only condition between
    `chan = self._channels.get(chanid)` and `self._channel_handler_table[ptype](chan, m)` is `chan is not None`
    (AST of transport.py on this run) — in particular the peer's CLOSE reaches `_handle_close` of a channel we
    closed first, which is the `peerClose` action that releases it (`peer_close_answered_and_released`). -/
theorem dispatch_reaches_every_registered_channel :
    PV.Generated.C22.dispatchGuard = "chan is not None" ∧ PV.Generated.C22.dispatchCallsHandler = true := by
  decide

/-- with `decision_sites_locked` and `decided_once_if_all_locked`: for any number of threads running any of the
    decision sites of channel.py concurrently, at most one EOF (CLOSE) -/
theorem eof_decided_once_at_statement_level (calls : List PV.Generated.ChanLock.Site)
    (h : ∀ c ∈ calls, c ∈ decisionSites) (sched : List Nat) :
    (PV.FlagOnce.run (PV.FlagOnce.init (calls.map (·.effLocked))) sched).emitted ≤ 1 := by
  apply decided_once_if_all_locked
  intro b hb
  simp only [List.mem_map] at hb
  obtain ⟨c, hc, rfl⟩ := hb
  exact decision_sites_locked c (h c hc)

end PV.Props.C22
