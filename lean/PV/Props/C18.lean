/-
  C18 — A client refuses server-initiated actions it did not enable.
  Property theorems only.  Model: PV/Model/ClientRefuse.lean.
-/
import PV.Model.ClientRefuse
namespace PV.Props.C18
open PV PV.ClientRefuse

/-! ## global requests -/

/-- **Global requests.** Whatever the client has enabled, whatever the request says: the client never answers
REQUEST_SUCCESS (it answers REQUEST_FAILURE, or nothing when no reply was asked for) and its state is unchanged. -/
theorem global_request_always_refused (s : St) (kind : Bytes) (want : Bool) :
    (handle s (.globalRequest kind want)).1 = s ∧
    (handle s (.globalRequest kind want)).2 = (if want then .requestFailure else .none) := ⟨rfl, rfl⟩

/-! ## channel opens -/

/-- the handler that gates a channel kind -/
def enabled (s : St) (kind : Bytes) : Bool :=
  (kind = kAgent && s.agent) || (kind = kX11 && s.x11) || (kind = kFwd && s.fwd)

private theorem handle_open (s : St) (kind : Bytes) (chanid : Nat) :
    handle s (.channelOpen kind chanid) =
      if enabled s kind then ({ s with accepted := s.accepted ++ [kind] }, .openSuccess chanid)
      else (s, .openFailure chanid 1) := by
  simp only [handle, enabled, Bool.or_eq_true, Bool.and_eq_true, decide_eq_true_eq, or_assoc]

/-- **Channel open, one message.** A server-opened channel is accepted only if its kind is one of x11 / auth-agent /
forwarded-tcpip *and* the matching handler is installed at that moment; every other open — any other kind (session,
direct-tcpip, unknown …) or a forwardable kind that is not enabled — is answered CHANNEL_OPEN_FAILURE,
administratively prohibited, and nothing is created. -/
theorem channel_open_gated (s : St) (kind : Bytes) (chanid : Nat) :
    (enabled s kind = true → (handle s (.channelOpen kind chanid)).2 = .openSuccess chanid) ∧
    (enabled s kind = false → handle s (.channelOpen kind chanid) = (s, .openFailure chanid 1)) := by
  rw [handle_open]
  exact ⟨fun h => by rw [if_pos h], fun h => by rw [h]; rfl⟩

/-- the handlers are installed only by the client's own actions -/
def EnabledBy (hist : List Event) (kind : Bytes) : Prop :=
  (kind = kX11 ∧ Event.act (.requestX11 true) ∈ hist) ∨
  (kind = kAgent ∧ Event.act .requestForwardAgent ∈ hist) ∨
  (kind = kFwd ∧ ∃ pre post, hist = pre ++ [Event.act (.requestPortForward true)] ++ post ∧
      Event.act .cancelPortForward ∉ post)

private theorem kinds_distinct : kX11 ≠ kAgent ∧ kX11 ≠ kFwd ∧ kAgent ≠ kFwd := by decide +kernel

/-- invariant tying the handler flags to the client's own history -/
private def Inv (hist : List Event) (s : St) : Prop :=
  (s.x11 = true → Event.act (.requestX11 true) ∈ hist) ∧
  (s.agent = true → Event.act .requestForwardAgent ∈ hist) ∧
  (s.fwd = true → ∃ pre post, hist = pre ++ [Event.act (.requestPortForward true)] ++ post ∧
      Event.act .cancelPortForward ∉ post)

private theorem inv_frame {hist : List Event} {s : St} (h : Inv hist s) (s' : St) (hx : s'.x11 = s.x11)
    (ha : s'.agent = s.agent) (hf : s'.fwd = s.fwd) (e : Event) (hne : e ≠ .act .cancelPortForward) :
    Inv (hist ++ [e]) s' := by
  obtain ⟨h1, h2, h3⟩ := h
  refine ⟨fun h => List.mem_append_left _ (h1 (hx ▸ h)), fun h => List.mem_append_left _ (h2 (ha ▸ h)), fun h => ?_⟩
  obtain ⟨pre, post, hp, hn⟩ := h3 (hf ▸ h)
  refine ⟨pre, post ++ [e], by rw [hp]; simp [List.append_assoc], fun hm => ?_⟩
  rcases List.mem_append.mp hm with hm | hm
  · exact hn hm
  · exact hne (List.mem_singleton.mp hm).symm

private theorem handle_flags (s : St) (m : Incoming) :
    (handle s m).1.x11 = s.x11 ∧ (handle s m).1.agent = s.agent ∧ (handle s m).1.fwd = s.fwd := by
  cases m with
  | globalRequest k w => exact ⟨rfl, rfl, rfl⟩
  | channelRequest k w => exact ⟨rfl, rfl, rfl⟩
  | channelOpen k c => rw [handle_open]; split <;> exact ⟨rfl, rfl, rfl⟩

private theorem inv_step (hist : List Event) (s : St) (e : Event) (h : Inv hist s) : Inv (hist ++ [e]) (step s e).1 := by
  cases e with
  | msg m =>
    obtain ⟨hx, ha, hf⟩ := handle_flags s m
    exact inv_frame h _ hx ha hf _ nofun
  | act a =>
    -- the clauses of the flags an action does not set
    have keep : ∀ e, e ≠ .act .cancelPortForward → Inv (hist ++ [e]) s := inv_frame h s rfl rfl rfl
    have last : ∀ e : Event, e ∈ hist ++ [e] := fun e => List.mem_append_right _ (List.mem_singleton.mpr rfl)
    cases a with
    | requestX11 g =>
      cases g with
      | false => exact keep _ nofun
      | true => exact ⟨fun _ => last _, (keep (.act (.requestX11 true)) nofun).2⟩
    | requestForwardAgent =>
      have k := keep (.act .requestForwardAgent) nofun
      exact ⟨k.1, fun _ => last _, k.2.2⟩
    | requestPortForward g =>
      cases g with
      | false => exact keep _ nofun
      | true =>
        have k := keep (.act (.requestPortForward true)) nofun
        exact ⟨k.1, k.2.1, fun _ => ⟨hist, [], by simp, by simp⟩⟩
    | otherRequest g => exact keep _ nofun
    | cancelPortForward =>
      exact ⟨fun hx => List.mem_append_left _ (h.1 hx), fun hx => List.mem_append_left _ (h.2.1 hx), nofun⟩

private theorem inv_run (hist : List Event) (s : St) (h : Inv hist s) (es : List Event) :
    Inv (hist ++ es) (run s es).1 := by
  induction es generalizing hist s with
  | nil => simpa [run] using h
  | cons e es ih =>
    simp only [run]
    have := ih (hist ++ [e]) _ (inv_step hist s e h)
    simpa [List.append_assoc] using this

private theorem enabledBy_of_enabled (es : List Event) (kind : Bytes) (he : enabled (run init es).1 kind = true) :
    EnabledBy es kind := by
  obtain ⟨h1, h2, h3⟩ : Inv es (run init es).1 := by
    simpa using inv_run [] init ⟨nofun, nofun, nofun⟩ es
  simp only [enabled, Bool.or_eq_true, Bool.and_eq_true, decide_eq_true_eq] at he
  rcases he with (⟨hk, hs⟩ | ⟨hk, hs⟩) | ⟨hk, hs⟩
  · exact .inr (.inl ⟨hk, h2 hs⟩)
  · exact .inl ⟨hk, h1 hs⟩
  · exact .inr (.inr ⟨hk, h3 hs⟩)

/-- **Channel open, all histories.** After any history of client actions and server messages on a fresh client
transport, a server-opened channel is accepted only if the client itself enabled that kind before: x11 after a
granted `request_x11`, auth-agent after `request_forward_agent`, forwarded-tcpip after a granted
`request_port_forward` that has not been followed by `cancel_port_forward`.  Everything else gets
CHANNEL_OPEN_FAILURE (administratively prohibited). -/
theorem accepted_only_if_enabled_by_client (es : List Event) (kind : Bytes) (chanid : Nat) :
    (handle (run init es).1 (.channelOpen kind chanid)).2 = .openSuccess chanid → EnabledBy es kind := by
  rw [handle_open]
  split
  · next he => exact fun _ => enabledBy_of_enabled es kind he
  · exact nofun

theorem never_enabled_means_refused (es : List Event) (kind : Bytes) (chanid : Nat) (h : ¬ EnabledBy es kind) :
    (handle (run init es).1 (.channelOpen kind chanid)).2 = .openFailure chanid 1 := by
  rw [handle_open]
  split
  · next he => exact absurd (enabledBy_of_enabled es kind he) h
  · rfl

/-! ## channel requests -/

/-- **Channel requests.** A client-side channel never approves a request to run something or to allocate a
terminal (or any other request a server is entitled to receive, or any unknown one): the only requests it answers
with CHANNEL_SUCCESS are the status notifications exit-status and xon-xoff; state is never changed. -/
theorem channel_request_never_approved (s : St) (key : Bytes) (want : Bool)
    (h : key ≠ str "exit-status" ∧ key ≠ str "xon-xoff") :
    handle s (.channelRequest key want) = (s, if want then .channelFailure else .none) := by
  have : approves key = false := by simp [approves, h.1, h.2]
  simp [handle, this]

theorem exec_shell_subsystem_pty_never_approved (s : St) (want : Bool) :
    ∀ key ∈ [str "exec", str "shell", str "subsystem", str "pty-req", str "env", str "x11-req",
              str "auth-agent-req@openssh.com", str "window-change"],
      (handle s (.channelRequest key want)).2 ≠ .channelSuccess := by
  have hk : ∀ key ∈ [str "exec", str "shell", str "subsystem", str "pty-req", str "env", str "x11-req",
      str "auth-agent-req@openssh.com", str "window-change"], approves key = false := by decide +kernel
  intro key hkey
  simp only [handle, hk key hkey]
  cases want <;> simp

/-! ## non-vacuity -/

example : (handle init (.channelOpen kX11 3)).2 = .openFailure 3 1 := by decide +kernel
example : (handle (run init [.act (.requestX11 true)]).1 (.channelOpen kX11 3)).2 = .openSuccess 3 := by decide +kernel
example : (handle (run init [.act (.requestPortForward true), .act .cancelPortForward]).1 (.channelOpen kFwd 3)).2
    = .openFailure 3 1 := by decide +kernel
example : (handle (run init [.act (.requestPortForward true), .act .cancelPortForward,
    .act (.requestPortForward true)]).1 (.channelOpen kFwd 3)).2 = .openSuccess 3 := by decide +kernel
example : (handle (run init [.act .requestForwardAgent]).1 (.channelOpen (str "session") 0)).2 = .openFailure 0 1 := by
  decide +kernel
example : (handle init (.channelRequest (str "exit-status") true)).2 = .channelSuccess := by decide +kernel
-- an earlier granted request on the channel, then an x11 request that ends without CHANNEL_SUCCESS: still refused
example : (handle (run init [.act (.otherRequest true), .act (.requestX11 false)]).1 (.channelOpen kX11 3)).2
    = .openFailure 3 1 := by decide +kernel

end PV.Props.C18
