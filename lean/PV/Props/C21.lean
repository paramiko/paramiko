/-
  C21 — Channel byte streams arrive intact, in order and on the right stream.
  Model: PV/Model/Mux.lean (dispatch by channel id + per-channel streams); the FIFOs
  themselves are the subject of C26 (PV/Model/BufferedPipe.lean).

  A history is any `List Act`: messages of the peer for any channel ids in any order, interleaved in any way with
  `recv` / `recv_stderr` (any sizes) and `set_combine_stderr` calls of the application.
-/
import PV.Model.MuxLemmas
import PV.Base.WireLemmas
namespace PV.Props.C21
open PV PV.Mux PV.Wire

/-! ## dispatch: a map of independent per-channel machines -/

private theorem setTab_alive (m : Mux) (i : Nat) (x : Chan) : (setTab m i x).alive = m.alive := rfl

/-- a message or call for channel `a.chan` leaves every other channel untouched — unless it is a message for an id
that was never used, which ends the run loop: then every channel is unlinked and closed (buffers untouched) -/
theorem dispatch_frame (m : Mux) (a : Act) (c : Nat) (h : c ≠ a.chan) :
    (step m a).tab c = m.tab c ∨ ((step m a).alive = false ∧ (step m a).tab c = (m.tab c).map kill) := by
  rcases step_effect m a with e | ⟨x, e⟩ | ⟨_, _, e⟩ <;> rw [e]
  · exact .inl rfl
  · exact .inl (setTab_other m _ c x h)
  · exact .inr ⟨rfl, rfl⟩

/-- a message for a channel that is no longer registered ("dead channel") is dropped: nothing changes anywhere -/
theorem dead_channel_drops (m : Mux) (a : Act) (ch : Chan) (ha : a.arrival = true)
    (hc : m.tab a.chan = some ch) (hl : ch.linked = false) : step m a = m := by
  rw [step_arrival m a ha, deliver, hc]
  simp [hl]

/-- once the run loop has ended nothing is delivered any more -/
theorem dead_transport_delivers_nothing (m : Mux) (a : Act) (ha : a.arrival = true) (hd : m.alive = false) :
    step m a = m := by
  rw [step_arrival m a ha, hd]; rfl

/-- a message for an id that was never used ends the run loop; every channel is closed and unlinked, and nothing is
delivered to any of them (see `kill_keeps_data`) -/
theorem unknown_channel_kills_transport (m : Mux) (a : Act) (ha : a.arrival = true) (hal : m.alive = true)
    (hc : m.tab a.chan = none) :
    (step m a).alive = false ∧ ∀ c, (step m a).tab c = (m.tab c).map kill := by
  rw [step_arrival m a ha, hal, deliver, hc]
  exact ⟨rfl, fun _ => rfl⟩

theorem kill_keeps_data (ch : Chan) :
    (kill ch).out = ch.out ∧ (kill ch).err = ch.err ∧ (kill ch).outRead = ch.outRead ∧ (kill ch).errRead = ch.errRead ∧
      (kill ch).closed = true ∧ (kill ch).linked = false := ⟨rfl, rfl, rfl, rfl, rfl, rfl⟩

/-- a channel opened under a free (or dead) id starts empty: nothing of a previous channel with that id leaks -/
theorem reopened_channel_starts_empty (m : Mux) (c : Nat) (hal : m.alive = true)
    (hfree : ∀ ch, m.tab c = some ch → ch.linked = false) : (step m (.open c)).tab c = some {} := by
  simp only [step, hal, if_true]
  unfold openChan
  cases h : m.tab c with
  | none => exact setTab_same m c {}
  | some ch => simp [hfree ch h, setTab]

/-- a live id is never handed out again -/
theorem open_live_id_is_noop (m : Mux) (c : Nat) (ch : Chan) (h : m.tab c = some ch) (hl : ch.linked = true) :
    step m (.open c) = m := by
  simp only [step]
  split
  · unfold openChan; simp [h, hl]
  · rfl

/-- the arrivals of a history only address ids that are in use -/
def KnownIds (m : Mux) (acts : List Act) : Prop := ∀ a ∈ acts, a.arrival = true → (m.tab a.chan).isSome = true

/-- **Refinement to a map of per-channel machines**: while the run loop lives (the peer addresses only ids in use)
and channel `c` stays registered, what any history does to `c` is what the sub-history addressed to `c` does to it
alone — whatever happens on the other channels in between (data, closes, dead-channel traffic, re-opened ids). -/
theorem run_proj (m : Mux) (acts : List Act) (c : Nat) (ch : Chan) (h : m.tab c = some ch) (hl : ch.linked = true)
    (hal : m.alive = true) (hk : KnownIds m acts) (hs : staysLinked c acts = true) :
    (run m acts).tab c = some (runChan ch (acts.filter (fun a => a.chan == c))) ∧ (run m acts).alive = true := by
  induction acts generalizing m ch with
  | nil => simpa [run, runChan] using ⟨h, hal⟩
  | cons a rest ih =>
    rw [staysLinked_cons] at hs
    simp only [Bool.and_eq_true] at hs
    have hk' : KnownIds (step m a) rest := by
      intro x hx hax
      exact step_keeps_some m a x.chan (hk x (by simp [hx]) hax)
    simp only [run, List.foldl_cons] at ih ⊢
    by_cases hc : a.chan = c
    · have e : (a :: rest).filter (fun a => a.chan == c) = a :: rest.filter (fun a => a.chan == c) := by simp [hc]
      rw [e]
      subst hc
      have hstep := step_on_linked m a ch h hl hal hs.1
      have := ih (step m a) (chanStep ch a) hstep.1 (chanStep_linked ch a hl hs.1) hstep.2 hk' hs.2
      simpa [runChan] using this
    · have e : (a :: rest).filter (fun a => a.chan == c) = rest.filter (fun a => a.chan == c) := by simp [hc]
      rw [e]
      have hstep := step_off_channel m a c ch h (fun e => hc e.symm) hal (hk a (by simp))
      exact ih (step m a) ch hstep.1 hl hstep.2 hk' hs.2

/-! ### the association-list table the driver executes is the same transition system -/

private theorem lookup_cons (l : List (Nat × Chan)) (c i : Nat) (x : Chan) :
    lookup ((c, x) :: l) i = if i = c then some x else lookup l i := by
  unfold lookup
  rw [List.find?_cons]
  by_cases h : i = c
  · subst h; simp
  · rw [beq_false_of_ne (Ne.symm h), if_neg h]

private theorem lookup_map_kill (l : List (Nat × Chan)) (i : Nat) :
    lookup (l.map (fun p : Nat × Chan => (p.1, kill p.2))) i = (lookup l i).map kill := by
  unfold lookup
  induction l with
  | nil => rfl
  | cons p rest ih =>
    rw [List.map_cons, List.find?_cons, List.find?_cons]
    cases p.1 == i
    · exact ih
    · rfl

private theorem toMux_cons (l : List (Nat × Chan)) (al : Bool) (c : Nat) (x : Chan) :
    ({ l := (c, x) :: l, alive := al } : Table).toMux = setTab ({ l := l, alive := al } : Table).toMux c x :=
  congrArg (Mux.mk · al) (funext fun i => lookup_cons l c i x)

private theorem toMux_alive (t : Table) : t.toMux.alive = t.alive := rfl

theorem table_refines (t : Table) (a : Act) : (stepL t a).toMux = step t.toMux a := by
  obtain ⟨l, al⟩ := t
  have hd : (match lookup l a.chan with
        | none => ({ l := l.map (fun p : Nat × Chan => (p.1, kill p.2)), alive := false } : Table)
        | some ch => if ch.linked then { l := (a.chan, chanStep ch a) :: l, alive := al } else { l := l, alive := al }).toMux
      = deliver ({ l := l, alive := al } : Table).toMux a := by
    unfold deliver
    show _ = match lookup l a.chan with | none => _ | some ch => _
    cases lookup l a.chan with
    | none => exact congrArg (Mux.mk · false) (funext (lookup_map_kill l))
    | some ch =>
      dsimp only
      split
      · exact toMux_cons l al _ _
      · rfl
  have hap : (match lookup l a.chan with
        | none => ({ l := l, alive := al } : Table)
        | some ch => { l := (a.chan, chanStep ch a) :: l, alive := al }).toMux
      = appCall ({ l := l, alive := al } : Table).toMux a := by
    unfold appCall
    show _ = match lookup l a.chan with | none => _ | some ch => _
    cases lookup l a.chan with
    | none => rfl
    | some ch => exact toMux_cons l al _ _
  have ho : ∀ c, (match lookup l c with
        | some ch => if ch.linked then ({ l := l, alive := al } : Table) else { l := (c, {}) :: l, alive := al }
        | none => { l := (c, {}) :: l, alive := al }).toMux
      = openChan ({ l := l, alive := al } : Table).toMux c := by
    intro c
    unfold openChan
    show _ = match lookup l c with | some ch => _ | none => _
    cases lookup l c with
    | none => exact toMux_cons l al _ _
    | some ch =>
      dsimp only
      split
      · rfl
      · exact toMux_cons l al _ _
  -- with the run loop dead, messages and registrations leave both tables alone
  cases a with
  | «open» c =>
    cases al
    · rfl
    · exact ho c
  | data _ _ | ext _ _ _ | eof _ | exitStatus _ _ | remoteClose _ =>
    cases al
    · rfl
    · exact hd
  | _ => exact hap

theorem table_fresh (k : Nat) : (freshL k).toMux = fresh k := by
  simp only [freshL, fresh, Table.toMux, Mux.mk.injEq, and_true]
  funext c
  induction k with
  | zero => simp [freshList, lookup]
  | succ n ih =>
    rw [freshList, lookup_cons, ih]
    by_cases h1 : c = n
    · subst h1; simp
    · by_cases h2 : c < n
      · have : c < n + 1 := by omega
        simp [h1, h2, this]
      · have : ¬ c < n + 1 := by omega
        simp [h1, h2, this]

/-! ## per channel: streams without combining -/

private theorem plain_step (c : Nat) (ch : Chan) (a : Act) (ha : a.chan = c)
    (hn : neverCombines c [a] = true) (hc : ch.combine = false) (hp : ch.pending = []) :
    let s := chanStep ch a
    s.outRead ++ s.out = ch.outRead ++ ch.out ++ sentOut c [a] ∧
    s.errRead ++ s.err = ch.errRead ++ ch.err ++ sentErr c [a] ∧ s.combine = false ∧ s.pending = [] := by
  cases a with
  | data c' d => simp only [Act.chan] at ha; subst ha; simp [chanStep, sentOut, sentErr, hc, hp]
  | ext c' code d =>
    simp only [Act.chan] at ha; subst ha
    by_cases h1 : code = 1
    · subst h1; simp [chanStep, sentOut, sentErr, hc, hp]
    · simp [chanStep, sentOut, sentErr, hc, hp, h1]
  | eof c' => simp [chanStep, sentOut, sentErr, hc, hp]
  | exitStatus c' v => simp [chanStep, sentOut, sentErr, hc, hp]
  | recv c' n =>
    have := readBuf_conserve ch.out (ch.eof || ch.closed) n
    simp only [chanStep, sentOut, sentErr, hc, hp, List.append_nil]
    refine ⟨?_, trivial, trivial, trivial⟩
    rw [List.append_assoc, this]
  | recvErr c' n =>
    have := readBuf_conserve ch.err (ch.eof || ch.closed) n
    simp only [chanStep, sentOut, sentErr, hc, hp, List.append_nil]
    refine ⟨trivial, ?_, trivial, trivial⟩
    rw [List.append_assoc, this]
  | setCombine c' b =>
    simp only [Act.chan] at ha; subst ha
    simp [neverCombines] at hn
    subst hn
    simp [chanStep, sentOut, sentErr, hc, hp]
  | setCombineOldA c' =>
    simp only [Act.chan] at ha; subst ha
    simp [neverCombines] at hn
  | setCombineOldB c' => simp [chanStep, sentOut, sentErr, hc, hp]
  | close c' => simp [chanStep, sentOut, sentErr, hc, hp]
  | remoteClose c' => simp [chanStep, sentOut, sentErr, hc, hp]
  | «open» c' => simp [chanStep, sentOut, sentErr, hc, hp]

/-- **Streams intact (one channel).**  As long as combining is never switched on: what was read from stdout plus
what is still buffered there is exactly what the peer wrote to stdout, in order — and likewise for stderr —
whatever the chunking of the writes and reads. -/
theorem plain_streams (c : Nat) (h : List Act) (ch : Chan) (hall : ∀ a ∈ h, a.chan = c)
    (hn : neverCombines c h = true) (hc : ch.combine = false) (hp : ch.pending = []) :
    let s := runChan ch h
    s.outRead ++ s.out = ch.outRead ++ ch.out ++ sentOut c h ∧
    s.errRead ++ s.err = ch.errRead ++ ch.err ++ sentErr c h := by
  induction h generalizing ch with
  | nil => simp [runChan, sentOut, sentErr]
  | cons a rest ih =>
    rw [neverCombines_cons] at hn
    simp only [Bool.and_eq_true] at hn
    obtain ⟨h1, h2, h3, h4⟩ := plain_step c ch a (hall a (by simp)) hn.1 hc hp
    have := ih (chanStep ch a) (fun x hx => hall x (by simp [hx])) hn.2 h3 h4
    simp only [runChan, List.foldl_cons] at this ⊢
    rw [sentOut_cons, sentErr_cons, this.1, this.2, h1, h2]
    simp [List.append_assoc]

/-! ## per channel: combined stderr -/

/-- **Switching on** moves everything still buffered on stderr to the end of the stdout stream, atomically:
nothing is lost, stderr is empty afterwards ("including data buffered before combining was switched on"). -/
theorem switch_on_moves_buffered_stderr (c : Nat) (ch : Chan) (hc : ch.combine = false) :
    let s := chanStep ch (.setCombine c true)
    s.combine = true ∧ s.outRead ++ s.out = ch.outRead ++ ch.out ++ ch.err ∧ s.err = [] ∧
      s.outRead = ch.outRead ∧ s.errRead = ch.errRead := by
  simp [chanStep, hc, List.append_assoc]

private theorem combined_step (c : Nat) (ch : Chan) (a : Act) (ha : a.chan = c)
    (hk : keepsCombining c [a] = true) (hc : ch.combine = true) (he : ch.err = []) (hp : ch.pending = []) :
    let s := chanStep ch a
    s.outRead ++ s.out = ch.outRead ++ ch.out ++ sentBoth c [a] ∧ s.err = [] ∧ s.errRead = ch.errRead ∧
      s.combine = true ∧ s.pending = [] := by
  cases a with
  | data c' d => simp only [Act.chan] at ha; subst ha; simp [chanStep, sentBoth, hc, he, hp]
  | ext c' code d =>
    simp only [Act.chan] at ha; subst ha
    by_cases h1 : code = 1
    · subst h1; simp [chanStep, sentBoth, hc, he, hp]
    · simp [chanStep, sentBoth, hc, he, hp, h1]
  | eof c' => simp [chanStep, sentBoth, hc, he, hp]
  | exitStatus c' v => simp [chanStep, sentBoth, hc, he, hp]
  | recv c' n =>
    have := readBuf_conserve ch.out (ch.eof || ch.closed) n
    simp only [chanStep, sentBoth, hc, he, hp, List.append_nil]
    refine ⟨?_, trivial, trivial, trivial, trivial⟩
    rw [List.append_assoc, this]
  | recvErr c' n =>
    simp only [chanStep, sentBoth, hc, he, hp, List.append_nil]
    refine ⟨trivial, ?_, ?_, trivial, trivial⟩
    · simp [readBuf]; split <;> rfl
    · simp [readBuf]; split <;> simp [Res.bytes]
  | setCombine c' b =>
    simp only [Act.chan] at ha; subst ha
    simp [keepsCombining] at hk
    subst hk
    simp [chanStep, sentBoth, hc, he, hp]
  | setCombineOldA c' => simp [keepsCombining] at hk
  | setCombineOldB c' => simp [keepsCombining] at hk
  | close c' => simp [chanStep, sentBoth, hc, he, hp]
  | remoteClose c' => simp [chanStep, sentBoth, hc, he, hp]
  | «open» c' => simp [chanStep, sentBoth, hc, he, hp]

/-- **Combined stream.**  While combining stays on, the stdout stream (read ++ buffered) grows by exactly what the
peer writes to *either* stream, in arrival order; nothing ever shows up on stderr. -/
theorem combined_stream (c : Nat) (h : List Act) (ch : Chan) (hall : ∀ a ∈ h, a.chan = c)
    (hk : keepsCombining c h = true) (hc : ch.combine = true) (he : ch.err = []) (hp : ch.pending = []) :
    let s := runChan ch h
    s.outRead ++ s.out = ch.outRead ++ ch.out ++ sentBoth c h ∧ s.err = [] ∧ s.errRead = ch.errRead := by
  induction h generalizing ch with
  | nil => simp [runChan, sentBoth, he]
  | cons a rest ih =>
    rw [keepsCombining_cons] at hk
    simp only [Bool.and_eq_true] at hk
    obtain ⟨h1, h2, h3, h4, h5⟩ := combined_step c ch a (hall a (by simp)) hk.1 hc he hp
    have := ih (chanStep ch a) (fun x hx => hall x (by simp [hx])) hk.2 h4 h2 h5
    simp only [runChan, List.foldl_cons] at this ⊢
    rw [sentBoth_cons, this.1, this.2.1, this.2.2, h1, h3]
    simp [List.append_assoc]

/-- combining switched on at any moment of any history: from then on (while it stays on) the stdout stream is
`what it was ++ the stderr data buffered at that moment ++ everything that arrives afterwards on both streams` -/
theorem combined_from_switch (c : Nat) (ch : Chan) (post : List Act) (hall : ∀ a ∈ post, a.chan = c)
    (hk : keepsCombining c post = true) (hc : ch.combine = false) (hp : ch.pending = []) :
    let s := runChan ch (.setCombine c true :: post)
    s.outRead ++ s.out = ch.outRead ++ ch.out ++ ch.err ++ sentBoth c post ∧ s.err = [] ∧ s.errRead = ch.errRead := by
  obtain ⟨h1, h2, h3, _, h5⟩ := switch_on_moves_buffered_stderr c ch hc
  have hp' : (chanStep ch (.setCombine c true)).pending = [] := by simp [chanStep, hc, hp]
  have := combined_stream c post (chanStep ch (.setCombine c true)) hall hk h1 h3 hp'
  simp only [runChan, List.foldl_cons] at this ⊢
  rw [this.1, this.2.1, this.2.2, h2, h5]
  simp

/-! ## exit status -/

/-- **Exit status.**  The status reported is the one the peer sent last for that channel (and none if none was sent). -/
theorem exit_status_is_the_one_sent (c : Nat) (h : List Act) (ch : Chan) (hall : ∀ a ∈ h, a.chan = c) :
    (runChan ch h).exit = (match lastExit c h with | some v => some v | none => ch.exit) := by
  induction h generalizing ch with
  | nil => rfl
  | cons a rest ih =>
    show (runChan (chanStep ch a) rest).exit = _
    rw [lastExit_cons, ih _ (fun x hx => hall x (List.mem_cons_of_mem _ hx)),
      exit_step c ch a (hall a List.mem_cons_self)]
    cases lastExit c rest <;> rfl

/-- **Exit status on the wire.**  For every status in the uint32 range, what `_handle_request` reads out of the request
`send_exit_status` wrote is that status (the field is four fixed bytes: no value, 0xFF000000 … 0xFFFFFFFF included,
is encoded differently). -/
theorem exit_status_wire_roundtrip (v : Nat) (hv : v < 4294967296) :
    handleRequestExit (exitStatusBody v) = some v := by
  -- the three fields in the order `_handle_request` reads them: name, want-reply flag, status
  have h0 : Rd.remainder ⟨exitStatusBody v, 0⟩ = encStr exitStatusName ++ ([0] ++ (be32 v ++ [])) := by
    simp [Rd.remainder, exitStatusBody, encodeAll, encode]
  have h1 := adv_remainder h0 (encStr_length _)
  have hflag : Rd.getBytes _ 1 = _ := getBytes_at h1
  have h2 := adv_remainder h1 (rfl : ([0] : Bytes).length = 1)
  simp only [handleRequestExit, getString_at (by decide) h0, hflag, getInt_at hv h2, if_true]

-- the boundary values of the uint32 range, as bytes on the wire
example : exitStatusRequest 7 4294967295 =
    [98, 0, 0, 0, 7, 0, 0, 0, 11, 101, 120, 105, 116, 45, 115, 116, 97, 116, 117, 115, 0, 255, 255, 255, 255] := by decide
example : (exitStatusBody 4278190081).drop 16 = [255, 0, 0, 1] := by decide

/-! ## the whole transport: any number of channels -/

/-- **C21, streams.**  `k` channels open on one transport; any history of messages for them (data, EOF, exit status,
CLOSE of *other* channels, traffic for channels that are already dead), reads of any sizes, local closes and anything
else happening on the other channels: for every channel `c` that stays registered and never switches combining on,
stdout read ++ buffered = what the peer wrote to `c`'s stdout, and the same for stderr. -/
theorem streams_intact (k : Nat) (acts : List Act) (c : Nat) (hc : c < k)
    (hk : KnownIds (fresh k) acts) (hs : staysLinked c acts = true) (hn : neverCombines c acts = true) :
    ∃ s, (run (fresh k) acts).tab c = some s ∧
      s.outRead ++ s.out = sentOut c acts ∧ s.errRead ++ s.err = sentErr c acts := by
  have h0 : (fresh k).tab c = some {} := by simp [fresh, hc]
  refine ⟨_, (run_proj (fresh k) acts c {} h0 rfl rfl hk hs).1, ?_⟩
  have := plain_streams c (acts.filter (fun a => a.chan == c)) {} (filter_all c acts)
    (neverCombines_filter c acts hn) rfl rfl
  rw [filter_sent c (sentOut_cons c) (sentOut_off c), filter_sent c (sentErr_cons c) (sentErr_off c)] at this
  simpa using this

/-- **After the peer's CLOSE** (the channel is unlinked) nothing the peer still sends under that id reaches the old
channel object: whatever was buffered stays readable, nothing is added — and a channel later opened under the same id
starts empty (`reopened_channel_starts_empty`). -/
theorem late_data_is_dropped (m : Mux) (c : Nat) (ch : Chan) (late : List Act) (h : m.tab c = some ch)
    (hl : ch.linked = false) (hlate : ∀ a ∈ late, a.arrival = true ∧ a.chan = c) : run m late = m := by
  induction late generalizing m with
  | nil => rfl
  | cons a rest ih =>
    have ha := hlate a (by simp)
    have hstep : step m a = m := dead_channel_drops m a ch ha.1 (by rw [ha.2]; exact h) hl
    simp only [run, List.foldl_cons, hstep]
    exact ih m h (fun x hx => hlate x (by simp [hx]))

/-! ## non-vacuity and the race that was fixed -/

-- three channels, interleaved traffic, chunked reads; channel 1 combines from the start
example :
    let m := run (fresh 3) [.setCombine 1 true, .data 0 [1, 2], .ext 1 1 [9], .data 1 [7], .ext 0 1 [5], .data 2 [3],
      .recv 0 1, .ext 1 1 [8], .exitStatus 2 3, .recv 1 10, .recvErr 0 4]
    (m.tab 0).map (fun s => (s.outRead, s.out, s.errRead)) = some ([1], [2], [5]) ∧
    (m.tab 1).map (fun s => (s.outRead, s.err)) = some ([9, 7, 8], []) ∧
    (m.tab 2).map (fun s => s.exit) = some (some 3) ∧ m.alive = true := by decide

-- local close, late data, the peer's CLOSE, dead-channel traffic, a re-opened id, and an unknown id ending the run loop
example :
    let m := run (fresh 2) [.data 0 [1], .close 0, .data 0 [2], .remoteClose 0, .data 0 [3], .data 1 [9], .open 0,
      .data 0 [4], .recv 0 9, .data 5 [0], .data 1 [8], .recv 1 9, .recv 1 9]
    (m.tab 0).map (fun s => (s.outRead, s.out)) = some ([4], []) ∧
    (m.tab 1).map (fun s => (s.outRead, s.out, s.closed, s.last)) = some ([9], [], true, some (.data [])) ∧
    m.alive = false := by decide

-- data that arrives between the local close() and the peer's CLOSE still lands in that channel (and is readable)
example :
    ((run (fresh 1) [.data 0 [1], .close 0, .data 0 [2], .remoteClose 0, .data 0 [3], .recv 0 9]).tab 0).map
      (fun s => (s.outRead, s.linked)) = some ([1, 2], false) := by decide

/-- the old `set_combine_stderr(True)`: it emptied stderr (`A`) under the lock, a stderr message `B` arrived, and only
then `A` was fed into stdout: the application reads `B A`. -/
theorem race_witness_before_fix :
    (runChan {} [.ext 0 1 [65], .setCombineOldA 0, .ext 0 1 [66], .setCombineOldB 0, .recv 0 10]).outRead = [66, 65] := by
  decide

/-- the same history with the current (atomic) `set_combine_stderr` -/
theorem race_history_after_fix :
    (runChan {} [.ext 0 1 [65], .setCombine 0 true, .ext 0 1 [66], .recv 0 10]).outRead = [65, 66] := by decide

end PV.Props.C21
