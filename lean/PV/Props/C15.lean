/-
  C15 — Unauthenticated clients cannot reach connection-layer services.
  Property theorems only.  Model: PV/Model/AuthServer.lean; helpers: PV/Model/AuthServerLemmas.lean,
  PV/Model/AuthServerGrant.lean.

  In the model the server application's connection-layer callbacks (check_channel_request,
  check_port_forward_request, check_global_request, …) and channel creation live in the *delegated*
  connection-layer handlers (`Act.delegate true`).  "The application is not consulted and no channel is
  created" is therefore: the step is not delegated, its callback list is empty and `chans` is unchanged.
-/
import PV.Model.AuthServerGrant
namespace PV.Props.C15
open PV PV.Wire PV.AuthServer PV.Generated.AuthTables

variable (sc : SigScheme) (sid : Bytes)

/-- what a refusal looks like on the wire: REQUEST_FAILURE, CHANNEL_OPEN_FAILURE (administratively prohibited,
for the channel number the client chose), UNIMPLEMENTED for a type nobody handles — or silence with the
connection dropped -/
def Refused (e : Env) (s' : St) (o : Out) : Prop :=
  o.sent = [msgRequestFailure] ∨ (∃ n, o.sent = [msgOpenFailure n]) ∨ o.sent = [msgUnimplemented e.seqno] ∨
  (o.sent = [] ∧ s'.active = false)

/-- the acts the loop can choose for a connection-layer message from an unauthenticated client -/
private def ConnAct (e : Env) (a : Act) : Prop :=
  a = .reply [] [msgRequestFailure] ∨ (∃ n, a = .reply [] [msgOpenFailure n]) ∨
  a = .reply [] [msgUnimplemented e.seqno] ∨ ∃ x, a = .die [] [] x

private theorem classify_conn_table :
    ∀ g : Bool, ∀ p ∈ List.range' 80 21,
      (classify g p = .transport ∧ HIGHEST_USERAUTH_MESSAGE_ID < p) ∨ classify g p = .channel ∨
      (classify g p = .unhandled ∧ p ≠ 3) := by decide

/-- for every connection-layer type 80..100, with or without a GSS sub-handler installed: the type is served by
the transport table (and is above the userauth range), by the channel table, or by nobody — never by an
authentication handler, and never treated as IGNORE/DEBUG/DISCONNECT.  (Re-proved against the handler tables
generated from the source.) -/
theorem classify_conn (g : Bool) (p : Nat) (h1 : 80 ≤ p) (h2 : p ≤ 100) :
    (classify g p = .transport ∧ HIGHEST_USERAUTH_MESSAGE_ID < p) ∨ classify g p = .channel ∨
    (classify g p = .unhandled ∧ p ≠ 3) :=
  classify_conn_table g p (by rw [List.mem_range'_1]; omega)

private theorem ensureAuthedReply_conn (e : Env) (p : Nat) (b : Bytes) : ConnAct e (ensureAuthedReply p b) := by
  unfold ensureAuthedReply
  refine ite_ind (fun _ => Or.inl rfl) fun _ => ite_ind (fun _ => ?_) fun _ => Or.inr (Or.inr (Or.inr ⟨_, rfl⟩))
  rcases getText _ with ⟨_ | _, r⟩
  · exact Or.inr (Or.inr (Or.inr ⟨_, rfl⟩))
  · exact Or.inr (Or.inl ⟨_, rfl⟩)

private def ConnDec (s : St) (e : Env) (d : St × Act) : Prop :=
  d.1.chans = s.chans ∧ d.1.authenticated = s.authenticated ∧ d.1.failCount = s.failCount ∧ ConnAct e d.2

private theorem dispatch_conn (s : St) (hna : s.isAuthenticated = false) (hc : s.chans = 0)
    (p : Nat) (h1 : 80 ≤ p) (h2 : p ≤ 100) (b : Bytes) (e : Env) : ConnDec s e (dispatch sc sid s p b e) := by
  unfold dispatch
  rcases classify_conn s.gssSub p h1 h2 with ⟨h, hp⟩ | h | ⟨h, hp⟩ <;> rw [h] <;> dsimp only
  · rw [if_neg (Nat.not_le.mpr hp), hna, if_neg Bool.false_ne_true]
    exact ite_ind (fun _ => ⟨rfl, rfl, rfl, Or.inr (Or.inr (Or.inr ⟨_, rfl⟩))⟩) fun _ =>
      ⟨rfl, rfl, rfl, ensureAuthedReply_conn e p b⟩
  · rw [if_pos hc]
    exact ⟨rfl, rfl, rfl, Or.inr (Or.inr (Or.inr ⟨_, rfl⟩))⟩
  · rw [if_neg hp]
    exact ite_ind (fun _ => ⟨rfl, rfl, rfl, Or.inr (Or.inr (Or.inr ⟨_, rfl⟩))⟩) fun _ =>
      ⟨rfl, rfl, rfl, Or.inr (Or.inr (Or.inl rfl))⟩

private theorem decideAct_conn (s : St) (hna : s.isAuthenticated = false) (hc : s.chans = 0)
    (p : Nat) (h1 : 80 ≤ p) (h2 : p ≤ 100) (b : Bytes) (e : Env) : ConnDec s e (decideAct sc sid s p b e) := by
  have hcl : classify s.gssSub p ∈ [.transport, .channel, .auth, .unhandled] := by
    rcases classify_conn s.gssSub p h1 h2 with ⟨h, _⟩ | h | ⟨h, _⟩ <;> rw [h] <;> simp
  rcases decideAct_dispatch sc sid s p b e hcl with ⟨x, hx⟩ | hd
  · rw [hx]; exact ⟨rfl, rfl, rfl, Or.inr (Or.inr (Or.inr ⟨_, rfl⟩))⟩
  · rw [hd]; exact dispatch_conn sc sid { s with expected := [] } hna hc p h1 h2 b e

private theorem perform_conn (s : St) (e : Env) (a : Act) (h : ConnAct e a) :
    (perform s e a).2.cbs = [] ∧ (perform s e a).2.delegated = false ∧ (perform s e a).1.chans = s.chans ∧
    (perform s e a).1.authenticated = s.authenticated ∧ (perform s e a).1.failCount = s.failCount ∧
    Refused e (perform s e a).1 (perform s e a).2 := by
  rcases h with rfl | ⟨n, rfl⟩ | rfl | ⟨x, rfl⟩
  · exact ⟨rfl, rfl, rfl, rfl, rfl, Or.inl rfl⟩
  · exact ⟨rfl, rfl, rfl, rfl, rfl, Or.inr (Or.inl ⟨n, rfl⟩)⟩
  · exact ⟨rfl, rfl, rfl, rfl, rfl, Or.inr (Or.inr (Or.inl rfl))⟩
  · exact ⟨rfl, rfl, rfl, rfl, rfl, Or.inr (Or.inr (Or.inr ⟨rfl, rfl⟩))⟩

/-- **Gate, one message.** A server that is active, not authenticated and has no channel receives ANY
connection-layer message (type 80..100) with ANY payload, whatever the application would answer (`e`), in any
dispatch state (expected-packet filter set or not, GSS sub-handler installed or not):
no callback is consulted, no connection-layer handler runs, no channel is created, the authentication state
and the failure counter are untouched, and the reply is a refusal (REQUEST_FAILURE, CHANNEL_OPEN_FAILURE
administratively-prohibited, UNIMPLEMENTED) or the connection is dropped. -/
theorem unauthenticated_conn_message_refused (s : St) (hact : s.active = true) (hna : s.authenticated = false)
    (hc : s.chans = 0) (p : Nat) (h1 : 80 ≤ p) (h2 : p ≤ 100) (b : Bytes) (e : Env) :
    (step sc sid s p b e).2.cbs = [] ∧ (step sc sid s p b e).2.delegated = false ∧
    (step sc sid s p b e).1.chans = 0 ∧ (step sc sid s p b e).1.authenticated = false ∧
    (step sc sid s p b e).1.failCount = s.failCount ∧
    Refused e (step sc sid s p b e).1 (step sc sid s p b e).2 := by
  have hna' : s.isAuthenticated = false := by rw [St.isAuthenticated, hna, Bool.and_false]
  obtain ⟨hch, hau, hfc, ha⟩ := decideAct_conn sc sid s hna' hc p h1 h2 b e
  obtain ⟨p1, p2, p3, p4, p5, p6⟩ := perform_conn (decideAct sc sid s p b e).1 e _ ha
  rw [step_active sc sid s p b e hact]
  exact ⟨p1, p2, p3.trans (hch.trans hc), p4.trans (hau.trans hna), p5.trans hfc, p6⟩

/-- channel traffic (types 93..100: window adjust, data, extended data, eof, close, request, success, failure)
for any channel number is not delivered anywhere before authentication: the connection is dropped without a
reply -/
theorem unauthenticated_channel_traffic_dropped (s : St) (hact : s.active = true) (hna : s.authenticated = false)
    (hc : s.chans = 0) (hexp : s.expected = []) (p : Nat) (hp : p ∈ channelTable) (b : Bytes) (e : Env) :
    (step sc sid s p b e).2.cbs = [] ∧ (step sc sid s p b e).2.sent = [] ∧
    (step sc sid s p b e).2.delegated = false ∧ (step sc sid s p b e).1.active = false := by
  have hcl : ∀ g, classify g p = .channel := by
    intro g
    have : ∀ q ∈ channelTable, classify g q = .channel := by cases g <;> decide
    exact this p hp
  simp [step, hact, decideAct, hcl, hexp, dispatch, hc, perform]

/-! ## all histories -/

/-- channels appear only through a connection-layer handler, and those run only for an authenticated client
or when a channel already exists -/
private theorem step_chans (s : St) (p : Nat) (b : Bytes) (e : Env)
    (hinv : s.authenticated = false → s.chans = 0) :
    (step sc sid s p b e).1.authenticated = false → (step sc sid s p b e).1.chans = 0 := by
  intro hna'
  have hna : s.authenticated = false := by
    cases h : s.authenticated
    · rfl
    · rw [step_auth_mono sc sid s p b e h] at hna'; cases hna'
  have hc := hinv hna
  rcases step_cases sc sid s p b e with ⟨_, hs⟩ | ⟨_, s1, a, hf, ha, hs⟩ <;> rw [hs]
  · exact hc
  · have hdel : a ≠ .delegate true := fun h =>
      (ha.gate h).elim (fun h1 => Bool.noConfusion (hna ▸ h1)) (fun h1 => h1 hc)
    rw [perform_chans s1 e a hdel, hf.chans, hc]

/-- **No channel before authentication, over every history from a fresh connection:** whatever the client
sends and whatever the application answers, as long as nobody is authenticated the transport has no channel. -/
theorem no_channel_before_authentication (ms : List Msg) :
    (run sc sid init ms).1.authenticated = false → (run sc sid init ms).1.chans = 0 :=
  run_inv sc sid (P := fun s => s.authenticated = false → s.chans = 0) (step_chans sc sid) init ms (fun _ => rfl)

/-- **Gate, every point of every history.** After ANY history on a fresh connection (failed attempts, partial
successes, probes, garbage …) that has not authenticated the client, the next connection-layer message
(type 80..100, any payload) consults no callback, runs no connection-layer handler, creates no channel, and is
refused or the connection is dropped. -/
theorem gate_holds_at_every_point (ms : List Msg) (m : Msg) (h1 : 80 ≤ m.ptype) (h2 : m.ptype ≤ 100)
    (hna : (run sc sid init ms).1.isAuthenticated = false) :
    let s := (run sc sid init ms).1
    (step sc sid s m.ptype m.payload m.env).2.cbs = [] ∧
    (step sc sid s m.ptype m.payload m.env).2.delegated = false ∧
    (step sc sid s m.ptype m.payload m.env).1.chans = s.chans ∧
    (step sc sid s m.ptype m.payload m.env).1.isAuthenticated = false ∧
    ((step sc sid s m.ptype m.payload m.env).2.sent = [] ∨
      Refused m.env (step sc sid s m.ptype m.payload m.env).1 (step sc sid s m.ptype m.payload m.env).2) := by
  intro s
  by_cases ha : s.active = true
  · have hauth : s.authenticated = false := by
      have : s.isAuthenticated = false := hna
      simpa [St.isAuthenticated, ha] using this
    have hc := no_channel_before_authentication sc sid ms hauth
    have := unauthenticated_conn_message_refused sc sid s ha hauth hc m.ptype h1 h2 m.payload m.env
    refine ⟨this.1, this.2.1, ?_, ?_, Or.inr this.2.2.2.2.2⟩
    · rw [this.2.2.1]; exact hc.symm
    · simp [St.isAuthenticated, this.2.2.2.1]
  · simp only [Bool.not_eq_true] at ha
    rw [step_idle sc sid s m.ptype m.payload m.env ha]
    exact ⟨rfl, rfl, rfl, by simp [St.isAuthenticated, ha], Or.inl rfl⟩

/-! ## the gate opens only on the application's AUTH_SUCCESSFUL -/

/-- a partially successful verdict (multi-factor servers) is answered USERAUTH_FAILURE with the partial-success
flag and leaves the connection unauthenticated - for every method, since all of them end in `_send_auth_result` -/
theorem partial_verdict_reply (s : St) (e : Env) (u : Option Bytes) (h : s.failCount < 10) :
    sendAuthResult s e u AUTH_PARTIALLY_SUCCESSFUL =
      (s, { cbs := [Call.mk (.allowed u) none], sent := [msgFailure e.allowed true] }) := by
  have : ¬ s.failCount ≥ FAIL_CAP := by unfold FAIL_CAP; omega
  simp [sendAuthResult, AUTH_PARTIALLY_SUCCESSFUL, AUTH_SUCCESSFUL, this]

/-- **Verdicts are passed through.** Whatever the method (password, publickey, keyboard-interactive, info
response, GSS-API, none): a step in which no credential callback returned AUTH_SUCCESSFUL - partial success and
failure alike - does not authenticate, so the gate of `unauthenticated_conn_message_refused` stays shut. -/
theorem no_approval_keeps_gate_shut (s : St) (p : Nat) (b : Bytes) (e : Env) (h0 : s.authenticated = false)
    (hno : ∀ c ∈ (step sc sid s p b e).2.cbs, ¬ c.approves) :
    (step sc sid s p b e).1.authenticated = false ∧ msgSuccess ∉ (step sc sid s p b e).2.sent := by
  have hns : msgSuccess ∉ (step sc sid s p b e).2.sent := fun h =>
    let ⟨c, hc, hap⟩ := step_success sc sid s p b e h
    hno c hc hap
  exact ⟨step_not_authenticated sc sid s p b e h0 hns, hns⟩

/-- over every history from a fresh connection: as long as no callback has approved, nobody is authenticated and
no channel exists -/
theorem no_approval_no_access (ms : List Msg)
    (hno : ∀ o ∈ (run sc sid init ms).2, ∀ c ∈ o.cbs, ¬ c.approves) :
    (run sc sid init ms).1.authenticated = false ∧ (run sc sid init ms).1.chans = 0 := by
  have ha : (run sc sid init ms).1.authenticated = false := by
    cases hx : (run sc sid init ms).1.authenticated
    · rfl
    · obtain ⟨o, ho, _, c, hc, hap⟩ := run_authenticated sc sid init ms rfl hx
      exact absurd hap (hno o ho c hc)
  exact ⟨ha, no_channel_before_authentication sc sid ms ha⟩

/-! ## non-vacuity -/

private def toySc : SigScheme := { verify := fun k m s => s == k ++ m }
private def chanOpen : Bytes := encStr (str "session") ++ be32 7 ++ be32 1000 ++ be32 1000
private def reqAlice : Bytes := encStr (str "alice") ++ encStr sSshConnection ++ encStr sPassword ++ [0] ++ encStr (str "pw")

-- before any authentication: CHANNEL_OPEN is refused for the client's channel number 7
example : (step toySc [] init 90 chanOpen {}).2.sent = [msgOpenFailure 7] ∧
    (step toySc [] init 90 chanOpen {}).2.cbs = [] := by decide +kernel
-- after a failed and a partially successful attempt the gate is still closed
example : let s := (run toySc [] init [⟨50, reqAlice, {}⟩, ⟨50, reqAlice, { rPassword := 1 }⟩]).1
    s.failCount = 1 ∧ s.isAuthenticated = false ∧ (step toySc [] s 80 [] {}).2.sent = [msgRequestFailure] := by
  decide +kernel
-- a validly signed publickey request that the application accepts as ONE factor only: partial, gate shut
example : let e : Env := { rPubkey := 1, keyCanon := some [7] }
    let req := encStr (str "alice") ++ encStr sSshConnection ++ encStr sPublickey ++ [1] ++ encStr (str "ssh-ed25519") ++
      encStr [7] ++ encStr ([7] ++ sessionBlob [] (str "alice") sSshConnection (str "ssh-ed25519") [7])
    (step toySc [] init 50 req e).2.sent = [msgFailure [] true] ∧
    (step toySc [] (step toySc [] init 50 req e).1 90 chanOpen {}).2.sent = [msgOpenFailure 7] := by decide +kernel
-- the hypotheses are not contradictory: once authenticated the same message is handed to the connection layer
example : let s := (run toySc [] init [⟨50, reqAlice, { rPassword := 0 }⟩]).1
    s.isAuthenticated = true ∧ (step toySc [] s 90 chanOpen { delegNewChans := 1 }).2.delegated = true ∧
    (step toySc [] s 90 chanOpen { delegNewChans := 1 }).1.chans = 1 := by decide +kernel
-- channel data for a channel the server never allocated: dropped
example : (step toySc [] init 94 (be32 0 ++ encStr [1, 2, 3]) {}).1.active = false := by decide +kernel

end PV.Props.C15
