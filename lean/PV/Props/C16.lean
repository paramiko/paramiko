/-
  C16 — A server pins one username per connection and caps failed attempts.
  Property theorems only.  Model: PV/Model/AuthServer.lean; helpers: PV/Model/AuthServerLemmas.lean.

  `step sc sid s p payload env` = the server's transport thread handles one message of type `p`;
  `env` holds the results of everything outside the auth code (the application's callbacks, key parsing,
  the GSS context), so "for every env" = "whatever the application answers".
  `run` folds `step` over a history; every theorem about `run` holds for every history, of any length.
-/
import PV.Model.AuthServerLemmas
namespace PV.Props.C16
open PV PV.Wire PV.AuthServer PV.Generated.AuthTables

variable (sc : SigScheme) (sid : Bytes)

/-! ## nothing is evaluated once the connection has ended -/

/-- an inactive transport consults no callback, sends nothing, changes nothing — for every message -/
theorem inactive_step (s : St) (h : s.active = false) (p : Nat) (b : Bytes) (e : Env) :
    step sc sid s p b e = (s, {}) := step_idle sc sid s p b e h

/-- … and so for every continuation of the history -/
theorem inactive_run (s : St) (h : s.active = false) (ms : List Msg) :
    (run sc sid s ms).1 = s ∧ ∀ o ∈ (run sc sid s ms).2, o.cbs = [] ∧ o.sent = [] := by
  induction ms with
  | nil => simp [run]
  | cons m ms ih =>
    simp only [run, step_idle sc sid s m.ptype m.payload m.env h]
    refine ⟨ih.1, ?_⟩
    intro o ho
    simp only [List.mem_cons] at ho
    rcases ho with rfl | ho
    · exact ⟨rfl, rfl⟩
    · exact ih.2 o ho

/-! ## service check and username pinning (one request) -/

/-- a USERAUTH_REQUEST as the normal auth handler sees it: three text fields, then the rest -/
structure Request (b : Bytes) (user service method : Bytes) (rest : Rd) : Prop where
  h1 : ∃ r1 r2, getText { content := b, pos := 0 } = (some user, r1) ∧ getText r1 = (some service, r2) ∧
    getText r2 = (some method, rest)

private theorem refused_request (s : St) (hauth : s.authenticated = false) (b user service method : Bytes)
    (r1 r2 r3 : Rd) (h1 : getText { content := b, pos := 0 } = (some user, r1))
    (h2 : getText r1 = (some service, r2)) (h3 : getText r2 = (some method, r3))
    (href : service ≠ sSshConnection ∨ (∃ pinned, s.authUser = some pinned ∧ user ≠ pinned)) (e : Env) :
    parseUserauthRequest sc sid s b e =
      (s, .disconnect [] (if service ≠ sSshConnection then msgDiscService else msgDiscNoMoreAuth)) := by
  rw [parseUserauthRequest_eq sc sid s b e hauth h1 h2 h3]
  by_cases hs : service = sSshConnection
  · rcases href with h | ⟨p, hp, hne⟩
    · exact absurd hs h
    · have : s.authUser ≠ none ∧ s.authUser ≠ some user := by
        rw [hp]; exact ⟨nofun, fun h => hne (Option.some.inj h).symm⟩
      rw [if_neg (not_not_intro hs), if_pos this, if_neg (not_not_intro hs)]
  · rw [if_pos hs, if_pos hs]

/-- **Service check.** A request naming a service other than `ssh-connection` is answered with DISCONNECT
(service not available) only: no callback is consulted, the transport is closed, nobody is authenticated,
and the pinned username is not even recorded. -/
theorem wrong_service_disconnects (s : St) (hact : s.active = true) (hsub : s.gssSub = false)
    (hexp : s.expected = []) (hauth : s.authenticated = false)
    (b user service method : Bytes) (rest : Rd) (hreq : Request b user service method rest)
    (hsvc : service ≠ sSshConnection) (e : Env) :
    step sc sid s 50 b e = ({ s with active := false }, { sent := [msgDiscService] }) := by
  obtain ⟨r1, r2, h1, h2, h3⟩ := hreq.h1
  rw [step_request sc sid s b e hact hsub hexp,
    refused_request sc sid s hauth b user service method r1 r2 rest h1 h2 h3 (.inl hsvc) e, if_pos hsvc]
  rfl

/-- **Username pinning.** Once a username has been attempted, a request for a different username is answered
with DISCONNECT only: no callback is consulted (so no credential is evaluated for either name), the transport
is closed and nobody is authenticated. -/
theorem username_change_disconnects (s : St) (hact : s.active = true) (hsub : s.gssSub = false)
    (hexp : s.expected = []) (hauth : s.authenticated = false)
    (pinned : Bytes) (hpin : s.authUser = some pinned)
    (b user service method : Bytes) (rest : Rd) (hreq : Request b user service method rest)
    (hsvc : service = sSshConnection) (hne : user ≠ pinned) (e : Env) :
    step sc sid s 50 b e = ({ s with active := false }, { sent := [msgDiscNoMoreAuth] }) := by
  obtain ⟨r1, r2, h1, h2, h3⟩ := hreq.h1
  rw [step_request sc sid s b e hact hsub hexp,
    refused_request sc sid s hauth b user service method r1 r2 rest h1 h2 h3 (.inr ⟨pinned, hpin, hne⟩) e,
    if_neg (not_not_intro hsvc)]
  rfl

private def Ended (s : St) (d : St × Act) : Prop :=
  d.1.authenticated = false ∧ d.1.authUser = s.authUser ∧
    ((∃ x, d.2 = .die [] [] x) ∨ ∃ m, d.2 = .disconnect [] m)

private theorem perform_ended {s : St} {d : St × Act} (e : Env) (h : Ended s d) :
    (perform d.1 e d.2).2.cbs = [] ∧ (perform d.1 e d.2).1.active = false ∧
    (perform d.1 e d.2).1.authenticated = false ∧ (perform d.1 e d.2).1.authUser = s.authUser := by
  obtain ⟨ha, hu, ⟨x, hx⟩ | ⟨m, hx⟩⟩ := h <;> rw [hx] <;> exact ⟨rfl, rfl, ha, hu⟩

/-- **Refusal in every dispatch state.** The two theorems above are stated for the normal handler; this one covers
every state of the dispatch machinery (expected-packet filter set or not, GSS sub-handler installed or not, its
table bound or not): a request for another service, or for a username other than the pinned one, reaching an
active unauthenticated server consults no callback at all, leaves the transport inactive and nobody
authenticated, and does not change the pinned username. -/
theorem refusal_in_every_dispatch_state (s : St) (hact : s.active = true) (hauth : s.authenticated = false)
    (b user service method : Bytes) (r1 r2 r3 : Rd)
    (h1 : getText { content := b, pos := 0 } = (some user, r1))
    (h2 : getText r1 = (some service, r2)) (h3 : getText r2 = (some method, r3))
    (href : service ≠ sSshConnection ∨ (∃ pinned, s.authUser = some pinned ∧ user ≠ pinned)) (e : Env) :
    (step sc sid s 50 b e).2.cbs = [] ∧ (step sc sid s 50 b e).1.active = false ∧
    (step sc sid s 50 b e).1.authenticated = false ∧ (step sc sid s 50 b e).1.authUser = s.authUser := by
  -- whichever handler the auth table holds, the request ends the connection
  have key : ∀ s0 : St, s0.authenticated = false → s0.authUser = s.authUser →
      Ended s (authDispatch sc sid s0 50 b e) := by
    intro s0 ha hu
    have href0 : service ≠ sSshConnection ∨ (∃ pinned, s0.authUser = some pinned ∧ user ≠ pinned) := hu ▸ href
    unfold authDispatch
    refine ite_ind (fun _ => ite_ind (fun _ => ⟨ha, hu, Or.inl ⟨_, rfl⟩⟩) fun _ => ?_) fun _ => ?_
    · rw [if_neg (by decide), if_pos rfl,
        refused_request sc sid { s0 with gssSub := false } ha b user service method r1 r2 r3 h1 h2 h3 href0 e]
      exact ⟨ha, hu, Or.inr ⟨_, rfl⟩⟩
    · rw [if_neg (by decide), if_pos rfl, refused_request sc sid s0 ha b user service method r1 r2 r3 h1 h2 h3 href0 e]
      exact ⟨ha, hu, Or.inr ⟨_, rfl⟩⟩
  rw [step_active sc sid s 50 b e hact]
  rcases decideAct_dispatch sc sid s 50 b e (by simp [classify_50]) with ⟨x, hx⟩ | hd
  · rw [hx]; exact perform_ended e ⟨hauth, rfl, Or.inl ⟨_, rfl⟩⟩
  · have : dispatch sc sid { s with expected := [] } 50 b e = authDispatch sc sid { s with expected := [] } 50 b e := by
      simp only [dispatch, classify_50]
    rw [hd, this]
    exact perform_ended e (key { s with expected := [] } hauth rfl)

/-- after either refusal the connection is dead for good: whatever follows, no callback, no message,
never authenticated -/
theorem refused_forever (s : St) (p : Nat) (b : Bytes) (e : Env)
    (h : (step sc sid s p b e).1.active = false) (ms : List Msg) :
    (run sc sid (step sc sid s p b e).1 ms).1.isAuthenticated = false ∧
    ∀ o ∈ (run sc sid (step sc sid s p b e).1 ms).2, o.cbs = [] ∧ o.sent = [] := by
  have := inactive_run sc sid _ h ms
  refine ⟨?_, this.2⟩
  rw [this.1]; simp [St.isAuthenticated, h]

/-! ## key re-exchange before authentication -/

private theorem classify_kex :
    ∀ g : Bool, ∀ p ∈ [7, 20, 21], classify g p = Class.transport ∧ p ≤ HIGHEST_USERAUTH_MESSAGE_ID := by
  decide

/-- **Key re-exchange.** The messages of a key re-exchange (KEXINIT, NEWKEYS, EXT_INFO: the kex-layer types served by
the transport table) never touch the authentication state: the pinned username, the failure counter and the
authenticated flag are those of the CONNECTION, before and after - whatever the kex layer itself does (it may end
the connection). -/
theorem rekey_keeps_pin_and_counter (s : St) (p : Nat) (hp : p ∈ [7, 20, 21]) (b : Bytes) (e : Env) :
    (step sc sid s p b e).1.authUser = s.authUser ∧ (step sc sid s p b e).1.failCount = s.failCount ∧
    (step sc sid s p b e).1.authenticated = s.authenticated ∧ (step sc sid s p b e).2.cbs = [] := by
  by_cases ha : s.active = true
  · obtain ⟨hc, hle⟩ := classify_kex s.gssSub p hp
    rw [step_active sc sid s p b e ha]
    rcases decideAct_dispatch sc sid s p b e (by rw [hc]; simp) with ⟨x, hx⟩ | hd
    · rw [hx]; exact ⟨rfl, rfl, rfl, rfl⟩
    · have : dispatch sc sid { s with expected := [] } p b e = ({ s with expected := [] }, .delegate false) := by
        simp only [dispatch, hc, hle, if_true]
      rw [hd, this]; exact ⟨rfl, rfl, rfl, rfl⟩
  · simp only [Bool.not_eq_true] at ha
    rw [step_idle sc sid s p b e ha]; exact ⟨rfl, rfl, rfl, rfl⟩

/-! ## one username per connection (all histories) -/

/-- all callbacks consulted along a history -/
def allCbs (os : List Out) : List Call := os.flatMap (·.cbs)

private theorem run_user_mono (s : St) (u : Bytes) (hu : s.authUser = some u) (ms : List Msg) :
    (run sc sid s ms).1.authUser = some u :=
  run_inv sc sid (P := fun s => s.authUser = some u) (fun s p b e h => step_user_mono sc sid s p b e u h) s ms hu

private theorem run_cbs_user (s : St) (ms : List Msg) (c : Call) (hc : c ∈ allCbs (run sc sid s ms).2)
    (u : Bytes) (hu : userOf c.cb = some u) : (run sc sid s ms).1.authUser = some u := by
  induction ms generalizing s with
  | nil => simp [run, allCbs] at hc
  | cons m ms ih =>
    simp only [run, allCbs, List.flatMap_cons, List.mem_append] at hc ⊢
    rcases hc with hc | hc
    · exact run_user_mono sc sid _ u (step_cbs_user sc sid s m.ptype m.payload m.env c hc u hu) ms
    · exact ih _ hc

/-- **One username per connection.** Over any history of messages and application answers, starting from any
state, every callback that evaluates a credential for a named user (`check_auth_none/password/publickey/
interactive`, `check_auth_gssapi_*`) is asked about one and the same username — the one pinned in the final
state. -/
theorem single_username (s : St) (ms : List Msg) (c1 c2 : Call)
    (h1 : c1 ∈ allCbs (run sc sid s ms).2) (h2 : c2 ∈ allCbs (run sc sid s ms).2)
    (u1 u2 : Bytes) (hu1 : userOf c1.cb = some u1) (hu2 : userOf c2.cb = some u2) : u1 = u2 := by
  have a := run_cbs_user sc sid s ms c1 h1 u1 hu1
  have b := run_cbs_user sc sid s ms c2 h2 u2 hu2
  rw [a] at b; exact Option.some.inj b

/-! ## the failure cap (all histories) -/

/-- only a result that is neither success nor partial success moves the failure counter, and by one -/
theorem only_nonpartial_failures_counted (s : St) (e : Env) (u : Option Bytes) (r : Nat) :
    (sendAuthResult s e u r).1.failCount =
      if r = AUTH_SUCCESSFUL ∨ r = AUTH_PARTIALLY_SUCCESSFUL then s.failCount else s.failCount + 1 :=
  sar_failCount s e u r

/-- the counter moves exactly with the non-partial USERAUTH_FAILURE messages `_send_auth_result` emits -/
theorem counter_matches_wire (s : St) (e : Env) (u : Option Bytes) (r : Nat) :
    (sendAuthResult s e u r).1.failCount = s.failCount + np (sendAuthResult s e u r).2.sent :=
  sar_count s e u r

/-- **Cap, step form.** In the step in which the tenth failure is counted the server sends DISCONNECT
(no more auth methods) and the transport is inactive afterwards. -/
theorem tenth_failure_disconnects (s : St) (p : Nat) (b : Bytes) (e : Env)
    (hs : s.active = true) (hlt : s.failCount < 10) (hge : 10 ≤ (step sc sid s p b e).1.failCount) :
    (step sc sid s p b e).1.active = false ∧ msgDiscNoMoreAuth ∈ (step sc sid s p b e).2.sent :=
  step_cross sc sid s p b e hs hlt hge

/-- **Invariant over every history from a fresh connection:** while the transport is active fewer than ten
failures have been counted. -/
theorem active_implies_below_cap (ms : List Msg) :
    (run sc sid init ms).1.active = true → (run sc sid init ms).1.failCount < 10 :=
  run_inv sc sid (P := fun s => s.active = true → s.failCount < 10) (fun s p b e h => step_inv sc sid s p b e h)
    init ms (fun _ => by decide)

/-- all messages sent along a history -/
def allSent (os : List Out) : List Bytes := os.flatMap (·.sent)

private theorem run_failures (s : St) (hinv : s.active = true → s.failCount < 10) (ms : List Msg) :
    (s.active = true → s.failCount + np (allSent (run sc sid s ms).2) ≤ 10) ∧
    (s.active = false → np (allSent (run sc sid s ms).2) = 0) := by
  induction ms generalizing s with
  | nil => exact ⟨fun h => Nat.le_of_lt (hinv h), fun _ => rfl⟩
  | cons m ms ih =>
    rw [run_cons]
    simp only [allSent, List.flatMap_cons, np_append]
    constructor
    · intro ha
      have hcap := step_cap sc sid s m.ptype m.payload m.env (hinv ha)
      have hlb := step_count_lb sc sid s m.ptype m.payload m.env
      have hi := ih _ (step_inv sc sid s m.ptype m.payload m.env hinv)
      unfold FAIL_CAP at hcap
      simp only [allSent] at hi
      -- either the step ended the connection and nothing more is sent, or the rest starts from the new counter
      cases hact : (step sc sid s m.ptype m.payload m.env).1.active
      · have := hi.2 hact; omega
      · have := hi.1 hact; omega
    · intro hin
      rw [step_idle sc sid s m.ptype m.payload m.env hin]
      exact (Nat.zero_add _).trans ((ih s hinv).2 hin)

/-- **Cap, history form.** On one connection at most ten non-partial USERAUTH_FAILURE replies are ever sent,
whatever the client sends and whatever the application answers. -/
theorem at_most_ten_failures_answered (ms : List Msg) :
    np (allSent (run sc sid init ms).2) ≤ 10 := by
  have h := (run_failures sc sid init (fun _ => by decide) ms).1 rfl
  rwa [show init.failCount = 0 from rfl, Nat.zero_add] at h

/-! ## non-vacuity -/

private def reqAlice : Bytes :=
  encStr (str "alice") ++ encStr sSshConnection ++ encStr sNone

private def toySc : SigScheme := { verify := fun k m s => s == k ++ m }

-- a fresh connection evaluates `check_auth_none("alice")`, pins "alice" and counts the failure
example : (step toySc [] init 50 reqAlice {}).1.authUser = some (str "alice") ∧
    (step toySc [] init 50 reqAlice {}).1.failCount = 1 ∧
    (step toySc [] init 50 reqAlice {}).2.cbs.length = 3 := by decide +kernel

-- then a request for "bob" with a password the application would accept: what `username_change_disconnects`
-- concludes, computed (no callback, DISCONNECT only, transport closed)
private def reqBob : Bytes := encStr (str "bob") ++ encStr sSshConnection ++ encStr sPassword ++ [0] ++ encStr (str "pw")

example : (step toySc [] (step toySc [] init 50 reqAlice {}).1 50 reqBob { rPassword := 0 }).2.cbs = [] ∧
    (step toySc [] (step toySc [] init 50 reqAlice {}).1 50 reqBob { rPassword := 0 }).1.active = false ∧
    (step toySc [] (step toySc [] init 50 reqAlice {}).1 50 reqBob { rPassword := 0 }).2.sent = [msgDiscNoMoreAuth] := by
  decide +kernel

-- ten failing requests: the tenth answer is followed by DISCONNECT and the transport is inactive
example : let ms := List.replicate 10 (Msg.mk 50 reqAlice {})
    (run toySc [] init ms).1.active = false ∧ (run toySc [] init ms).1.failCount = 10 ∧
    np (allSent (run toySc [] init ms).2) = 10 := by decide +kernel

-- an eleventh is not evaluated
example : let ms := List.replicate 11 (Msg.mk 50 reqAlice {})
    ((run toySc [] init ms).2.getLast?.map (·.cbs)) = some [] := by decide +kernel

end PV.Props.C16
