/-
  C37 — Malformed private key files fail with SSHException.   (PARTIAL: RSA/ECDSA halves agreement is the primitive's)
  Model: PV/Model/PKeyFile.lean (+ PKeyText.lean for the text level); the toy primitives `toyP` / `toyT` and the two
  witness files are defined here.

  Target: for every file, class and passphrase the loader's outcome is
      ok | SSHException | PasswordRequiredException,  and ok ⇒ public and private halves agree.
  Proved for all bytes, all passphrases and every behaviour of the third-party calls allowed by `PrimSpec`:
    * PEM/DER route (`pem_outcome`), OpenSSH container read by RSAKey/ECDSAKey (`openssh_outcome`),
      Ed25519 reader (`ed_outcome`): only the target outcomes; the same for the whole loader on the lines of
      the file, all three classes (`text_outcome`, given `TextSpec`: base64 raises `binascii.Error` only);
    * an Ed25519 key that loads has the verify key derived from its seed (`ed_ok_halves_agree`);
    * the two call sites that were still open before the last two `fix:` commits are kept as
      `legacy_*_witness`.
-/
import PV.Model.PKeyText
namespace PV.Props.C37
open PV PV.Wire PV.KeyUtf8 PV.PKeyFile PV.PKeyText

/-- an `if` at the head of an equation, without rewriting under it -/
private theorem ite_cases {α : Type} {p : Prop} [Decidable p] {x y z : α} (h : (if p then x else y) = z) :
    p ∧ x = z ∨ ¬p ∧ y = z := by
  split at h
  · exact Or.inl ⟨‹p›, h⟩
  · exact Or.inr ⟨‹¬p›, h⟩

private theorem ite_either {α : Type} {p : Prop} [Decidable p] {x y z : α} (h : (if p then x else y) = z) :
    x = z ∨ y = z :=
  (ite_cases h).imp And.right And.right

private theorem cU32_err {d : Bytes} {i : Nat} {c : Cls} (h : cU32 d i = .error c) : c = .sshException := by
  unfold cU32 at h
  rcases ite_either h with h | h
  · cases h
  · cases h; rfl

private theorem cStr_err {d : Bytes} {i : Nat} {c : Cls} (h : cStr d i = .error c) : c = .sshException := by
  unfold cStr at h
  split at h
  · next e he => cases h; exact cU32_err he
  · cases h

private theorem unpad_err {d : Bytes} {c : Cls} (h : unpadOpenssh d = .error c) : c = .sshException := by
  unfold unpadOpenssh at h
  split at h
  · cases h; rfl
  · -- the four arms of the padding test
    rcases ite_either h with h | h
    · cases h
    rcases ite_either h with h | h
    · cases h; rfl
    rcases ite_either h with h | h
    · cases h
    · cases h; rfl

private theorem catchAll_err {α : Type} {m : M α} {c : Cls} (h : catchAll m = .error c) : c = .sshException := by
  unfold catchAll at h
  split at h
  · cases h
  · cases h; rfl

private theorem catchVE_err {α : Type} {m : M α} {c : Cls} (h : catchValueError m = .error c) :
    c = .sshException ∨ (m = .error c ∧ c.isValueError = false) := by
  unfold catchValueError at h
  split at h
  · cases h
  · rcases ite_cases h with ⟨_, h⟩ | ⟨hv, h⟩
    · cases h; exact Or.inl rfl
    · cases h; exact Or.inr ⟨rfl, Bool.eq_false_iff.mpr hv⟩

/-- `_unpad_openssh` only ever fails with SSHException (it used to raise IndexError on empty/short blobs) -/
theorem unpad_only_ssh (d : Bytes) (c : Cls) (h : unpadOpenssh d = .error c) : c.isSSH = true := by
  rw [unpad_err h]; rfl

/-! ## OpenSSH container read by RSAKey / ECDSAKey -/

private theorem kdf_decrypt_cls (P : Prims) (S : PrimSpec P) (pw salt blob : Bytes) (n rounds a : Nat) (md : Mode)
    (f g : Bytes → Bytes) (c : Cls)
    (h : (match P.kdf pw salt n rounds with
          | .error e => .error e
          | .ok kiv => P.decrypt a md (f kiv) (g kiv) blob) = Except.error c) : c.isValueError = true := by
  split at h
  · next e he => cases h; exact S.kdf_cls _ _ _ _ _ he
  · exact S.decrypt_cls _ _ _ _ _ _ h

private theorem osshDecrypt_outcome (P : Prims) (S : PrimSpec P) (cipher kdfname kdfopts blob : Bytes)
    (pw : Option Bytes) (c : Cls) (h : osshDecrypt false P cipher kdfname kdfopts blob pw = .error c) :
    c.isSSH = true := by
  unfold osshDecrypt at h
  rcases ite_either h with h | h
  · simp only at h
    split at h
    · next e hm =>
      -- the cipher dispatch: with `legacy = false` an unknown name is SSHException
      cases h
      rcases ite_either hm with hm | hm
      · cases hm
      rcases ite_either hm with hm | hm
      · cases hm
      rcases ite_cases hm with ⟨hl, hm⟩ | ⟨_, hm⟩
      · exact absurd hl.1 Bool.false_ne_true
      · cases hm; rfl
    split at h
    next => cases h; rfl
    split at h
    next e he => cases h; exact cStr_err he ▸ rfl
    split at h
    next e he => cases h; exact cU32_err he ▸ rfl
    rcases catchVE_err h with h1 | ⟨h1, h2⟩
    · exact h1 ▸ rfl
    · rw [kdf_decrypt_cls P S _ _ _ _ _ _ _ _ _ c h1] at h2; cases h2
  · rcases ite_either h with h | h
    · cases h
    · cases h; rfl

/-- every failure of the container reader is SSHException / PasswordRequiredException -/
theorem readOpenssh_outcome (P : Prims) (S : PrimSpec P) (data : Bytes) (pw : Option Bytes) (c : Cls)
    (h : readOpenssh false P data pw = .error c) : c.isSSH = true := by
  unfold readOpenssh at h
  -- one step per line of the reader; each failing branch is closed on the spot
  rcases ite_either h with h | h
  · cases h; rfl
  dsimp only at h
  split at h
  next e he => cases h; exact cStr_err he ▸ rfl
  split at h
  next e he => cases h; exact cStr_err he ▸ rfl
  split at h
  next e he => cases h; exact cStr_err he ▸ rfl
  split at h
  next e he => cases h; exact cU32_err he ▸ rfl
  rcases ite_either h with h | h
  · cases h; rfl
  split at h
  next e he => cases h; exact cStr_err he ▸ rfl
  split at h
  next e he => cases h; exact cStr_err he ▸ rfl
  split at h
  next e he => cases h; exact osshDecrypt_outcome P S _ _ _ _ _ _ he
  split at h
  next e he => cases h; exact cU32_err he ▸ rfl
  split at h
  next e he => cases h; exact cU32_err he ▸ rfl
  split at h
  next e he => cases h; exact cStr_err he ▸ rfl
  rcases ite_either h with h | h
  · cases h; rfl
  · exact unpad_err h ▸ rfl

/-- RSAKey / ECDSAKey reading an OpenSSH-format container: only the target outcomes -/
theorem openssh_outcome (P : Prims) (S : PrimSpec P) (k : PKeyFile.Kind) (data : Bytes) (pw : Option Bytes) (c : Cls)
    (h : loadOpenssh false P k data pw = .error c) : c.isSSH = true := by
  unfold loadOpenssh at h
  split at h
  · next e he => cases h; exact readOpenssh_outcome P S data pw _ he
  · cases k <;> dsimp only at h
    · exact catchAll_err h ▸ rfl
    · exact catchAll_err h ▸ rfl
    · cases h; rfl

/-! toy primitives: make the witnesses and the examples executable -/

def toyP : Prims where
  kdf := fun pw salt n rounds => if pw = [] ∨ salt = [] ∨ rounds = 0 then .error .valueError else .ok (zeros n)
  decrypt := fun _ md _ _ d => if md = .cbc ∧ d.length % 16 ≠ 0 then .error .valueError else .ok d
  md5kdf := fun _ _ n => zeros n
  rsaPriv := fun l => if l.all (· ≠ 0) then .ok () else .error (.other "ZeroDivisionError")
  ecDerive := fun _ z => if z > 0 then .ok () else .error .valueError
  edSeed := fun s => if s.length = 32 then .ok s else .error .valueError
  loadDer := fun d => if d = [] then .error .valueError else .ok (d.length % 4)

theorem toyP_spec : PrimSpec toyP where
  kdf_cls := by
    intro a b n r c h
    rcases ite_either h with h | h
    · cases h; rfl
    · cases h
  decrypt_cls := by
    intro a m k iv d c h
    rcases ite_either h with h | h
    · cases h; rfl
    · cases h
  seed_cls := by
    intro s c h
    rcases ite_either h with h | h
    · cases h
    · cases h; rfl
  der_cls := by
    intro d c h
    rcases ite_either h with h | h
    · cases h; exact Or.inl rfl
    · cases h

/-- container: magic, cipher `FF`, kdf `bcrypt`, empty options, one key, empty public and private blobs -/
def nonUtf8CipherFile : Bytes :=
  magic ++ encStr [0xff] ++ encStr nBcrypt ++ encStr [] ++ be32 1 ++ encStr [] ++ encStr []

/-- before `fix: … non-UTF-8 cipher name …` the strict decode inside the error message let
    `UnicodeDecodeError` escape; now the file is refused with SSHException -/
theorem legacy_openssh_nonutf8_cipher_witness :
    loadOpenssh true toyP .rsa nonUtf8CipherFile (some [120]) = .error .unicodeDecodeError ∧
    loadOpenssh true toyP .ec nonUtf8CipherFile none = .error .unicodeDecodeError ∧
    loadOpenssh false toyP .rsa nonUtf8CipherFile (some [120]) = .error .sshException ∧
    loadOpenssh false toyP .ec nonUtf8CipherFile none = .error .sshException := by
  decide +kernel

/-! ## Ed25519 reader -/

private theorem getTextM_err {r : Rd} {c : Cls} (h : getTextM r = .error c) : c = .unicodeDecodeError := by
  unfold getTextM at h
  rcases ite_either h with h | h
  · cases h
  · cases h; rfl

section reads
/- The `Message` reads stay folded while the Ed25519 reader is walked.  Its `let (a, b) := m.getString`
   lines invite the unifier to evaluate a read on a reader that is a variable, which is very slow to
   check.  Lean's own unfolding equations for `edPublics` / `edPrivates` are derived by such an
   evaluation too, hence the two step equations stated here (the bodies, with the pairs projected). -/
attribute [local irreducible] Rd.getBytes Rd.getInt Rd.getString

private theorem edPublics_succ (n : Nat) (m : Rd) (acc : List Bytes) :
    edPublics (n + 1) m acc =
      match getTextM { content := m.getString.1, pos := 0 } with
      | .error e => .error e
      | .ok (t, p1) =>
        if t ≠ nSshEd25519 then .error .sshException
        else edPublics n m.getString.2 (p1.getString.1 :: acc) := by
  exact rfl

private theorem edPrivates_succ (P : Prims) (n i : Nat) (m : Rd) (pubs : List Bytes) (acc : List (Bytes × Bytes)) :
    edPrivates P (n + 1) i m pubs acc =
      match getTextM m with
      | .error e => .error e
      | .ok (t, m1) =>
        if t ≠ nSshEd25519 then .error .sshException else
        match P.edSeed (m1.getString.2.getString.1.take 32) with
        | .error e => .error e
        | .ok vk =>
          if vk = m1.getString.1 ∧ m1.getString.1 = pubs.getD i [] ∧
              pubs.getD i [] = m1.getString.2.getString.1.drop 32 then
            edPrivates P n (i + 1) m1.getString.2.getString.2.getString.2 pubs
              ((m1.getString.2.getString.1.take 32, vk) :: acc)
          else .error .sshException := by
  exact rfl

private theorem edPublics_err (n : Nat) (m : Rd) (acc : List Bytes) (c : Cls)
    (h : edPublics n m acc = .error c) : c.isSSH = true ∨ c.isValueError = true := by
  induction n generalizing m acc with
  | zero => cases h
  | succ n ih =>
    rw [edPublics_succ] at h
    split at h
    next e he => cases h; exact Or.inr (getTextM_err he ▸ rfl)
    rcases ite_either h with h | h
    · cases h; exact Or.inl rfl
    · exact ih _ _ h

private theorem edPrivates_err (P : Prims) (S : PrimSpec P) (n i : Nat) (m : Rd) (pubs : List Bytes)
    (acc : List (Bytes × Bytes)) (c : Cls)
    (h : edPrivates P n i m pubs acc = .error c) : c.isSSH = true ∨ c.isValueError = true := by
  induction n generalizing i m acc with
  | zero => cases h
  | succ n ih =>
    rw [edPrivates_succ] at h
    split at h
    next e he => cases h; exact Or.inr (getTextM_err he ▸ rfl)
    rcases ite_either h with h | h
    · cases h; exact Or.inl rfl
    split at h
    next e he => cases h; exact Or.inr (S.seed_cls _ _ he)
    rcases ite_either h with h | h
    · exact ih _ _ _ h
    · cases h; exact Or.inl rfl

private theorem edPrivates_ok (P : Prims) (n i : Nat) (m : Rd) (pubs : List Bytes)
    (acc res : List (Bytes × Bytes)) (hacc : ∀ p ∈ acc, P.edSeed p.1 = .ok p.2)
    (h : edPrivates P n i m pubs acc = .ok res) : ∀ p ∈ res, P.edSeed p.1 = .ok p.2 := by
  induction n generalizing i m acc with
  | zero =>
    cases h
    intro p hp; exact hacc p (List.mem_reverse.mp hp)
  | succ n ih =>
    rw [edPrivates_succ] at h
    split at h
    next => cases h
    rcases ite_either h with h | h
    · cases h
    split at h
    next => cases h
    next vk hvk =>
    rcases ite_either h with h | h
    · refine ih _ _ _ ?_ h
      intro p hp
      rcases List.mem_cons.mp hp with rfl | hp
      · exact hvk
      · exact hacc p hp
    · cases h

private theorem edKdfPart_err {cipher kdfname kdfopts : Bytes} {pw : Option Bytes} {c : Cls}
    (h : edKdfPart cipher kdfname kdfopts pw = .error c) : c.isSSH = true := by
  unfold edKdfPart at h
  rcases ite_either h with h | h
  · rcases ite_either h with h | h
    · cases h; rfl
    · cases h
  rcases ite_either h with h | h
  · split at h
    next => cases h; rfl
    rcases ite_either h with h | h
    · cases h; rfl
    · cases h
  · cases h; rfl

private theorem edPlain_err (P : Prims) (S : PrimSpec P) {cipher ct salt : Bytes} {rounds : Nat}
    {pw : Option Bytes} {c : Cls} (h : edPlain P cipher ct salt rounds pw = .error c) :
    c = .sshException ∨ c.isValueError = true ∨
      (c = .keyError ∧ ∃ a ks bs, cipherLookup cipher = some (a, ks, bs, none)) := by
  unfold edPlain at h
  rcases ite_either h with h | h
  · cases h
  split at h
  next => cases h; exact Or.inl rfl
  next alg ks bs mode hl =>
  split at h
  next e he => cases h; exact Or.inr (Or.inl (S.kdf_cls _ _ _ _ _ he))
  split at h
  · cases h; exact Or.inr (Or.inr ⟨rfl, _, _, _, hl⟩)
  · exact Or.inr (Or.inl (S.decrypt_cls _ _ _ _ _ _ h))

private theorem edHeader_err (lg : Bool) (data : Bytes) (pw : Option Bytes) (c : Cls)
    (h : edHeader lg data pw = .error c) : c.isSSH = true ∨ c.isValueError = true := by
  unfold edHeader at h
  dsimp only at h
  rcases ite_either h with h | h
  · cases h; exact Or.inl rfl
  split at h
  next e he => cases h; exact Or.inr (getTextM_err he ▸ rfl)
  split at h
  next e he => cases h; exact Or.inr (getTextM_err he ▸ rfl)
  split at h
  next e he => cases h; exact Or.inl (edKdfPart_err he)
  rcases ite_either h with h | h
  · cases h; exact Or.inl rfl
  split at h
  next e he => cases h; exact edPublics_err _ _ _ _ he
  cases h

/-- a header that parses names no cipher, or one that has a mode -/
private theorem edHeader_cipher (data : Bytes) (pw : Option Bytes)
    (cipher salt : Bytes) (rounds nkeys : Nat) (pubs : List Bytes) (ct : Bytes)
    (h : edHeader false data pw = .ok (cipher, salt, rounds, nkeys, pubs, ct)) :
    cipher = nNone ∨ cipherUsable false cipher = true := by
  unfold edHeader at h
  dsimp only at h
  rcases ite_either h with h | h
  · cases h
  split at h
  next => cases h
  split at h
  next => cases h
  split at h
  next => cases h
  rcases ite_cases h with ⟨_, h⟩ | ⟨hcu, h⟩
  · cases h
  split at h
  next => cases h
  cases h
  exact Decidable.or_iff_not_not_and_not.mpr hcu

private theorem edBody_err (P : Prims) (S : PrimSpec P) (pd : Bytes) (nkeys : Nat) (pubs : List Bytes) (c : Cls)
    (h : edBody P pd nkeys pubs = .error c) : c.isSSH = true ∨ c.isValueError = true := by
  unfold edBody at h
  dsimp only at h
  split at h
  next e he => cases h; exact Or.inl (unpad_err he ▸ rfl)
  rcases ite_either h with h | h
  · cases h; exact Or.inl rfl
  split at h
  next e he => cases h; exact edPrivates_err P S _ _ _ _ _ _ he
  split at h
  next => cases h
  cases h; exact Or.inl rfl

private theorem edBody_ok (P : Prims) (pd : Bytes) (nkeys : Nat) (pubs : List Bytes) (k : Bytes × Bytes)
    (h : edBody P pd nkeys pubs = .ok k) : P.edSeed k.1 = .ok k.2 := by
  unfold edBody at h
  dsimp only at h
  split at h
  next => cases h
  rcases ite_either h with h | h
  · cases h
  split at h
  next => cases h
  next keys hk =>
  split at h
  next => cases h; exact edPrivates_ok P _ _ _ _ [] _ (fun _ hp => nomatch hp) hk k (List.mem_singleton.mpr rfl)
  cases h

private theorem edParse_err (P : Prims) (S : PrimSpec P) (data : Bytes) (pw : Option Bytes) (c : Cls)
    (h : edParse false P data pw = .error c) : c.isSSH = true ∨ c.isValueError = true := by
  unfold edParse at h
  split at h
  · next e he => cases h; exact edHeader_err _ data pw _ he
  · next cipher salt rounds nkeys pubs ct hh =>
    split at h
    · next e he =>
      cases h
      rcases edPlain_err P S he with h3 | h3 | ⟨_, a, ks, bs, h4⟩
      · exact Or.inl (h3 ▸ rfl)
      · exact Or.inr h3
      · -- `cipher["mode"]` cannot fail: the header check refused ciphers without a mode
        exfalso
        rcases edHeader_cipher data pw _ _ _ _ _ _ hh with hn | hu
        · have h0 : cipherLookup nNone = none := by decide
          rw [hn, h0] at h4; cases h4
        · unfold cipherUsable at hu; rw [h4] at hu; cases hu
    · exact edBody_err P S _ _ _ _ h

/-- the Ed25519 reader: only the target outcomes -/
theorem ed_outcome (P : Prims) (S : PrimSpec P) (data : Bytes) (pw : Option Bytes) (c : Cls)
    (h : loadEd false P data pw = .error c) : c.isSSH = true := by
  unfold loadEd at h
  rcases catchVE_err h with h1 | ⟨h1, h2⟩
  · subst h1; rfl
  · rcases edParse_err P S data pw c h1 with h3 | h3
    · exact h3
    · rw [h3] at h2; cases h2

/-- a key that loads: its verify key is the one derived from its seed (the reader also compared it
    with both public copies stored in the file) -/
theorem ed_ok_halves_agree (P : Prims) (data : Bytes) (pw : Option Bytes) (seed vk : Bytes)
    (h : loadEd false P data pw = .ok (seed, vk)) : P.edSeed seed = .ok vk := by
  unfold loadEd catchValueError at h
  split at h
  · next a ha =>
    cases h
    unfold edParse at ha
    split at ha
    next => cases ha
    split at ha
    next => cases ha
    exact edBody_ok P _ _ _ _ ha
  · split at h <;> cases h

end reads

/-- container: cipher `aes256-gcm@openssh.com`, kdf `bcrypt` (salt `s`, 1 round), no keys -/
def aeadCipherFile : Bytes :=
  magic ++ encStr [97, 101, 115, 50, 53, 54, 45, 103, 99, 109, 64, 111, 112, 101, 110, 115, 115, 104, 46, 99, 111, 109]
    ++ encStr nBcrypt ++ encStr (encStr [115] ++ be32 1) ++ be32 0 ++ encStr []

/-- before `fix: … rejects AEAD ciphers …` the lookup `cipher["mode"]` raised KeyError; now the
    container is refused with SSHException -/
theorem legacy_ed_aead_cipher_witness :
    loadEd true toyP aeadCipherFile (some [120]) = .error .keyError ∧
    loadEd false toyP aeadCipherFile (some [120]) = .error .sshException := by
  decide +kernel

/-! ## PEM / DER route -/

private theorem pkcs7_err {b : Nat} {d : Bytes} {c : Cls} (h : pkcs7Unpad b d = .error c) : c = .valueError := by
  unfold pkcs7Unpad at h
  split at h
  · cases h; rfl
  · rcases ite_either h with h | h
    · cases h; rfl
    rcases ite_either h with h | h
    · cases h
    · cases h; rfl

private theorem pemBody_err (P : Prims) (S : PrimSpec P) (procType dekInfo : Option Bytes)
    (body : Bytes) (pw : Option Bytes) (c : Cls)
    (h : pemBody P procType dekInfo body pw = .error c) : c.isSSH = true := by
  unfold pemBody at h
  split at h
  next => cases h
  rcases ite_either h with h | h
  · cases h; rfl
  split at h
  next => cases h; rfl
  split at h
  case h_2 => cases h; rfl
  split at h
  next => cases h; rfl
  split at h
  next => cases h; rfl
  split at h
  next => cases h; rfl
  -- decrypt and unpad raise ValueError only, which the `except ValueError` turns into SSHException
  rcases catchVE_err h with h1 | ⟨h1, h2⟩
  · exact h1 ▸ rfl
  · split at h1
    · next e he => cases h1; rw [S.decrypt_cls _ _ _ _ _ _ he] at h2; cases h2
    · rw [pkcs7_err h1] at h2; cases h2

private theorem fromDer_err (P : Prims) (S : PrimSpec P) (k : PKeyFile.Kind) (der : Bytes) (c : Cls)
    (h : fromDer P k der = .error c) : c.isSSH = true := by
  unfold fromDer at h
  split at h
  · next c' hc =>
    rcases ite_cases h with ⟨_, h⟩ | ⟨hn, h⟩
    · cases h; rfl
    · rcases S.der_cls _ _ hc with h1 | h1 | h1
      · exact absurd (Or.inl h1) hn
      · exact absurd (Or.inr (Or.inl h1)) hn
      · exact absurd (Or.inr (Or.inr (Or.inl h1))) hn
  · cases k <;> dsimp only at h
    · rcases ite_either h with h | h
      · cases h
      · cases h; rfl
    · rcases ite_either h with h | h
      · cases h
      · cases h; rfl
    · cases h; rfl

/-- the PEM / DER route meets the target in full -/
theorem pem_outcome (P : Prims) (S : PrimSpec P) (k : PKeyFile.Kind) (procType dekInfo : Option Bytes)
    (body : Bytes) (pw : Option Bytes) (c : Cls)
    (h : loadPem P k procType dekInfo body pw = .error c) : c.isSSH = true := by
  unfold loadPem at h
  split at h
  · next e he => cases h; exact pemBody_err P S _ _ _ _ _ he
  · exact fromDer_err P S _ _ _ h

/-- non-vacuity: an unencrypted PEM body that the toy `load_der` classifies as an RSA key loads,
    the same body under an EC armor is refused with SSHException -/
example : loadPem toyP .rsa none none [1, 2, 3, 4] none = .ok () ∧
    loadPem toyP .ec none none [1, 2, 3, 4] none = .error .sshException := by decide +kernel

/-! ## the text level: `_read_private_key` on the lines of the file -/

private theorem b64ssh_err (T : TextPrims) (S : TextSpec T) {t : Line} {c : Cls}
    (h : b64ssh T t = .error c) : c = .sshException := by
  unfold b64ssh at h
  split at h
  · cases h
  · next c' hc =>
    rw [S.b64_cls _ _ hc, if_pos rfl] at h
    cases h; rfl

private theorem readPem_err (T : TextPrims) (S : TextSpec T) (lines : List Line) (e : Nat) (pw : Option Bytes)
    (c : Cls) (h : readPem T lines e pw = .error c) : c.isSSH = true := by
  unfold readPem at h
  dsimp only at h
  split at h
  · next c' hc => cases h; exact b64ssh_err T S hc ▸ rfl
  · exact pemBody_err T.toPrims S.toPrimSpec _ _ _ _ _ h

private theorem readKey_err (T : TextPrims) (S : TextSpec T) (tag : Tag) (lines : List Line) (pw : Option Bytes)
    (c : Cls) (h : readKey T tag lines pw = .error c) : c.isSSH = true := by
  unfold readKey at h
  dsimp only at h
  rcases ite_either h with h | h
  · cases h; rfl
  split at h
  next => cases h; rfl
  rcases ite_either h with h | h
  · cases h; rfl
  rcases ite_either h with h | h
  · -- the tag of the class: PEM
    split at h
    · next c' hc => cases h; exact readPem_err T S _ _ _ _ hc
    · cases h
  rcases ite_either h with h | h
  · -- `OPENSSH`
    split at h
    next c' hc => cases h; exact b64ssh_err T S hc ▸ rfl
    split at h
    · next c' hc => cases h; exact readOpenssh_outcome T.toPrims S.toPrimSpec _ _ _ hc
    · cases h
  · cases h; rfl

/-- FULL STATEMENT at the level of the file's lines: for every list of lines, every class, every
    passphrase and every behaviour of base64 / bcrypt / the ciphers / the key constructors allowed by
    `TextSpec`, `Class.from_private_key` ends in ok, SSHException or PasswordRequiredException -/
theorem text_outcome (T : TextPrims) (S : TextSpec T) (k : PKeyFile.Kind) (lines : List Line) (pw : Option Bytes)
    (c : Cls) (h : loadText T k lines pw = .error c) : c.isSSH = true := by
  unfold loadText at h
  cases k <;> dsimp only at h
  · split at h
    next c' hc => cases h; exact readKey_err T S _ _ _ _ hc
    rcases ite_either h with h | h
    · exact catchAll_err h ▸ rfl
    · exact fromDer_err _ S.toPrimSpec _ _ _ h
  · split at h
    next c' hc => cases h; exact readKey_err T S _ _ _ _ hc
    rcases ite_either h with h | h
    · exact catchAll_err h ▸ rfl
    · exact fromDer_err _ S.toPrimSpec _ _ _ h
  · split at h
    next c' hc => cases h; exact readKey_err T S _ _ _ _ hc
    split at h
    · next c' hc => cases h; exact ed_outcome _ S.toPrimSpec _ _ _ hc
    · cases h

/-- toy text primitives: base64 is "drop everything that is not a letter A–P, pair up as nibbles" -/
def toyT : TextPrims where
  toPrims := toyP
  b64 := fun t =>
    let ds := t.filter (fun c => 65 ≤ c ∧ c ≤ 80)
    if ds.length % 2 = 1 then .error .binasciiError
    else .ok ((List.range (ds.length / 2)).map fun i => UInt8.ofNat ((ds.getD (2 * i) 65 - 65) * 16 + (ds.getD (2 * i + 1) 65 - 65)))

theorem toyT_spec : TextSpec toyT where
  toPrimSpec := toyP_spec
  b64_cls := by
    intro t c h
    rcases ite_either h with h | h
    · cases h; rfl
    · cases h

/-- non-vacuity: a three-line RSA-armored file whose body the toy `load_der` calls an RSA key loads;
    read as an EC key it is refused; without the END line the last line is dropped and it still loads -/
example :
    loadText toyT .rsa [dashes ++ wBegin ++ [32] ++ Tag.rsa.text ++ PKeyText.tail ++ [10], [65, 66, 65, 67, 65, 68, 65, 69, 10],
      dashes ++ wEnd ++ [32] ++ Tag.rsa.text ++ PKeyText.tail ++ [10]] none = .ok () ∧
    loadText toyT .ec [dashes ++ wBegin ++ [32] ++ Tag.rsa.text ++ PKeyText.tail ++ [10], [65, 66, 65, 67, 65, 68, 65, 69, 10],
      dashes ++ wEnd ++ [32] ++ Tag.rsa.text ++ PKeyText.tail ++ [10]] none = .error .sshException := by
  decide +kernel

end PV.Props.C37
