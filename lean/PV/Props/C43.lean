/-
  C43 — Group-exchange modulus selection honours the client's size range.
  Model: PV/Model/Primes.lean; kernels generated from the source AST:
  PV/Generated/C43.lean (get_modulus selection, KexGex clamps, KexGex class constants).
-/
import PV.Model.Primes
namespace PV.Props.C43
open PV.Primes

/-! ## the hand-written selection is what the source says -/

/-- the selection kernel translated from the AST of `ModulusPack.get_modulus` is `pickSize` -/
theorem pickSize_eq_generated (bs : List Int) (mn pf mx : Int) :
    PV.Generated.C43.getModulusGood bs mn pf mx = pickSize bs mn pf mx := by
  simp only [PV.Generated.C43.getModulusGood, pickSize]
  have h1 : (fun good b => if b ≥ pf ∧ b ≥ mn ∧ b ≤ mx ∧ (b < good ∨ good = -1) then b else good)
      = pass1 mn pf mx := by funext g b; rfl
  have h2 : (fun good b => if b ≥ mn ∧ b ≤ mx ∧ b > good then b else good) = pass2 mn mx := by
    funext g b; rfl
  rw [h1, h2]

/-! ## the statement, for the selection -/

/-- a size is *in range* / *in range and at least the preferred size* -/
def InRange (mn mx b : Int) : Prop := mn ≤ b ∧ b ≤ mx
def Preferred (mn pf mx b : Int) : Prop := mn ≤ b ∧ b ≤ mx ∧ pf ≤ b

/-! Both passes start from the sentinel -1.  A left fold is a right fold over the reversed list
(`List.foldl_eq_foldr_reverse`), so the inductions below add the size looked at *last* and never have to speak of an
arbitrary intermediate `good`. -/

theorem pass1_spec (mn pf mx : Int) (bs : List Int) (hb : ∀ b ∈ bs, 0 ≤ b) :
    (bs.foldl (pass1 mn pf mx) (-1) = -1 ∧ ∀ b ∈ bs, ¬ Preferred mn pf mx b) ∨
    (bs.foldl (pass1 mn pf mx) (-1) ∈ bs ∧ Preferred mn pf mx (bs.foldl (pass1 mn pf mx) (-1)) ∧
      ∀ b ∈ bs, Preferred mn pf mx b → bs.foldl (pass1 mn pf mx) (-1) ≤ b) := by
  rw [List.foldl_eq_foldr_reverse]
  have hb' : ∀ b ∈ bs.reverse, 0 ≤ b := fun b h => hb b (List.mem_reverse.mp h)
  simp only [← List.mem_reverse (as := bs)]
  generalize bs.reverse = l at hb' ⊢
  induction l with
  | nil => exact Or.inl ⟨rfl, fun _ h => nomatch h⟩
  | cons b l ih =>
    have ih := ih fun c hc => hb' c (List.mem_cons_of_mem _ hc)
    simp only [List.foldr_cons, List.mem_cons, forall_eq_or_imp]
    generalize l.foldr (fun x y => pass1 mn pf mx y x) (-1) = r at ih ⊢
    unfold pass1 Preferred at *
    split
    · rename_i hc
      refine Or.inr ⟨Or.inl rfl, ⟨hc.2.1, hc.2.2.1, hc.1⟩, fun _ => Int.le_refl _, fun c hc' hp => ?_⟩
      rcases ih with ⟨_, hn⟩ | ⟨hm, _, hle⟩
      · exact absurd hp (hn c hc')
      · have := hle c hc' hp
        have := hb' r (List.mem_cons_of_mem _ hm)
        omega
    · rename_i hc
      rcases ih with ⟨h1, hn⟩ | ⟨hm, hp, hle⟩
      · exact Or.inl ⟨h1, fun hp => hc ⟨hp.2.2, hp.1, hp.2.1, Or.inr h1⟩, hn⟩
      · exact Or.inr ⟨Or.inr hm, hp, fun hp' => by omega, hle⟩

theorem pass2_spec (mn mx : Int) (bs : List Int) (hb : ∀ b ∈ bs, 0 ≤ b) :
    (bs.foldl (pass2 mn mx) (-1) = -1 ∧ ∀ b ∈ bs, ¬ InRange mn mx b) ∨
    (bs.foldl (pass2 mn mx) (-1) ∈ bs ∧ InRange mn mx (bs.foldl (pass2 mn mx) (-1)) ∧
      ∀ b ∈ bs, InRange mn mx b → b ≤ bs.foldl (pass2 mn mx) (-1)) := by
  rw [List.foldl_eq_foldr_reverse]
  have hb' : ∀ b ∈ bs.reverse, 0 ≤ b := fun b h => hb b (List.mem_reverse.mp h)
  simp only [← List.mem_reverse (as := bs)]
  generalize bs.reverse = l at hb' ⊢
  induction l with
  | nil => exact Or.inl ⟨rfl, fun _ h => nomatch h⟩
  | cons b l ih =>
    have ih := ih fun c hc => hb' c (List.mem_cons_of_mem _ hc)
    have hb0 := hb' b List.mem_cons_self
    simp only [List.foldr_cons, List.mem_cons, forall_eq_or_imp]
    generalize l.foldr (fun x y => pass2 mn mx y x) (-1) = r at ih ⊢
    unfold pass2 InRange at *
    split
    · rename_i hc
      refine Or.inr ⟨Or.inl rfl, ⟨hc.1, hc.2.1⟩, fun _ => Int.le_refl _, fun c hc' hp => ?_⟩
      rcases ih with ⟨_, hn⟩ | ⟨_, _, hle⟩
      · exact absurd hp (hn c hc')
      · have := hle c hc' hp; omega
    · rename_i hc
      rcases ih with ⟨h1, hn⟩ | ⟨hm, hp, hle⟩
      · exact Or.inl ⟨h1, fun hp => hc ⟨hp.1, hp.2, by omega⟩, hn⟩
      · exact Or.inr ⟨Or.inr hm, hp, fun hp' => by omega, hle⟩

/-- **The selection, in one statement.**  Over non-negative sizes `pickSize` is: the least preferred size if there is
one; else the greatest in-range size if there is one; else the smallest size on the list, unless that is below `min`, in
which case the largest (the list is sorted). -/
theorem pickSize_spec (bs : List Int) (hb : ∀ b ∈ bs, 0 ≤ b) (mn pf mx : Int) :
    (pickSize bs mn pf mx ∈ bs ∧ Preferred mn pf mx (pickSize bs mn pf mx) ∧
      ∀ b ∈ bs, Preferred mn pf mx b → pickSize bs mn pf mx ≤ b) ∨
    ((∀ b ∈ bs, ¬ Preferred mn pf mx b) ∧ pickSize bs mn pf mx ∈ bs ∧ InRange mn mx (pickSize bs mn pf mx) ∧
      ∀ b ∈ bs, InRange mn mx b → b ≤ pickSize bs mn pf mx) ∨
    ((∀ b ∈ bs, ¬ InRange mn mx b) ∧
      pickSize bs mn pf mx = if mn > bs.headD 0 then bs.getLastD 0 else bs.headD 0) := by
  unfold pickSize
  rcases pass1_spec mn pf mx bs hb with ⟨h1, hn1⟩ | ⟨hm, hp, hle⟩
  · simp only [h1, if_true]
    rcases pass2_spec mn mx bs hb with ⟨h2, hn2⟩ | ⟨hm, hp, hle⟩
    · simp only [h2, if_true]
      exact Or.inr (Or.inr ⟨hn2, trivial⟩)
    · have hne : bs.foldl (pass2 mn mx) (-1) ≠ -1 := fun h => by have := hb _ hm; omega
      simp only [hne, if_false]
      exact Or.inr (Or.inl ⟨hn1, hm, hp, hle⟩)
  · have hne : bs.foldl (pass1 mn pf mx) (-1) ≠ -1 := fun h => by have := hb _ hm; omega
    simp only [hne, if_false]
    exact Or.inl ⟨hm, hp, hle⟩

/-- the selected size is always one of the available sizes -/
theorem pickSize_mem (bs : List Int) (hne : bs ≠ []) (hb : ∀ b ∈ bs, 0 ≤ b) (mn pf mx : Int) :
    pickSize bs mn pf mx ∈ bs := by
  rcases pickSize_spec bs hb mn pf mx with h | h | ⟨_, h⟩
  · exact h.1
  · exact h.2.1
  · rw [h]
    cases bs with
    | nil => exact absurd rfl hne
    | cons x xs =>
      split
      · rw [List.getLastD_cons]; exact List.getLastD_mem_cons
      · exact List.mem_cons_self

/-- **Clause 1.** If some available size is in `[min, max]` and at least the preferred size, the selected
size is the smallest such size. -/
theorem pickSize_preferred (bs : List Int) (hb : ∀ b ∈ bs, 0 ≤ b) (mn pf mx : Int)
    (h : ∃ b ∈ bs, Preferred mn pf mx b) :
    pickSize bs mn pf mx ∈ bs ∧ Preferred mn pf mx (pickSize bs mn pf mx) ∧
      ∀ b ∈ bs, Preferred mn pf mx b → pickSize bs mn pf mx ≤ b := by
  obtain ⟨b0, hb0, p0⟩ := h
  rcases pickSize_spec bs hb mn pf mx with h | ⟨hn, _⟩ | ⟨hn, _⟩
  · exact h
  · exact absurd p0 (hn b0 hb0)
  · exact absurd ⟨p0.1, p0.2.1⟩ (hn b0 hb0)

/-- **Clause 2.** Otherwise, if some available size is in `[min, max]`, the selected size is the largest
in-range size. -/
theorem pickSize_largest (bs : List Int) (hb : ∀ b ∈ bs, 0 ≤ b) (mn pf mx : Int)
    (hno : ¬ ∃ b ∈ bs, Preferred mn pf mx b) (h : ∃ b ∈ bs, InRange mn mx b) :
    pickSize bs mn pf mx ∈ bs ∧ InRange mn mx (pickSize bs mn pf mx) ∧
      ∀ b ∈ bs, InRange mn mx b → b ≤ pickSize bs mn pf mx := by
  obtain ⟨b0, hb0, p0⟩ := h
  rcases pickSize_spec bs hb mn pf mx with h | ⟨_, h⟩ | ⟨hn, _⟩
  · exact absurd ⟨_, h.1, h.2.1⟩ hno
  · exact h
  · exact absurd p0 (hn b0 hb0)

/-! ## the old first pass (before the fix) and why `KexGex` never triggered the defect -/

/-- first pass as it was before the fix (no `b ≥ min`) -/
def pass1Old (prefer max : Int) (good b : Int) : Int :=
  if b ≥ prefer ∧ b ≤ max ∧ (b < good ∨ good = -1) then b else good

def pickSizeOld (bitsizes : List Int) (min prefer max : Int) : Int :=
  let good := bitsizes.foldl (pass1Old prefer max) (-1)
  let good := if good = -1 then bitsizes.foldl (pass2 min max) good else good
  if good = -1 then
    let good := bitsizes.headD 0
    if min > good then bitsizes.getLastD 0 else good
  else good

/-- the defect: a size below `min` was selected although an in-range size existed -/
theorem old_first_pass_witness : pickSizeOld [1024, 2048] 1500 1000 3000 = 1024 ∧
    pickSize [1024, 2048] 1500 1000 3000 = 2048 := by decide

/-- whenever `min ≤ prefer` (always the case for the triple `KexGex` passes on) the old and the fixed
selection agree: the fix changes nothing on the key-exchange path -/
theorem pickSizeOld_eq_of_le (bs : List Int) (mn pf mx : Int) (h : mn ≤ pf) :
    pickSizeOld bs mn pf mx = pickSize bs mn pf mx := by
  have : pass1Old pf mx = pass1 mn pf mx := by
    funext g b
    unfold pass1Old pass1
    by_cases hc : b ≥ pf ∧ b ≤ mx ∧ (b < g ∨ g = -1)
    · have : b ≥ pf ∧ b ≥ mn ∧ b ≤ mx ∧ (b < g ∨ g = -1) := ⟨hc.1, by omega, hc.2.1, hc.2.2⟩
      rw [if_pos hc, if_pos this]
    · have : ¬ (b ≥ pf ∧ b ≥ mn ∧ b ≤ mx ∧ (b < g ∨ g = -1)) := fun hx => hc ⟨hx.1, hx.2.2.1, hx.2.2.2⟩
      rw [if_neg hc, if_neg this]
  unfold pickSizeOld pickSize
  rw [this]

/-! ## `_parse_modulus` / `read_file`: what gets into the pack -/

/-- the statement's "primality-testing and bit-length requirements" on a moduli line's fields -/
def MeetsRequirements (f : Fields) : Prop :=
  f.modType ≥ 2 ∧ f.tests ≥ 4 ∧ ¬ (f.tests.toNat.testBit 2 = true ∧ f.tests < 8 ∧ f.tries < 100) ∧
    ((bitLength f.modulus : Int) = f.size ∨ (bitLength f.modulus : Int) = f.size + 1)

private theorem meets_iff (f : Fields) :
    MeetsRequirements f ↔ failsBasic f = false ∧ failsBitLength f = false := by
  simp only [MeetsRequirements, failsBasic, failsBitLength, Bool.or_eq_false_iff, Bool.and_eq_false_iff,
    decide_eq_false_iff_not, bne_eq_false_iff_eq, Int.not_lt, ge_iff_le, not_and, and_assoc]
  constructor
  · rintro ⟨a, b, c, d⟩
    refine ⟨a, b, ?_, by omega⟩
    by_cases ht : f.tests.toNat.testBit 2 = true
    · by_cases h8 : f.tests < 8
      · exact .inr (c ht h8)
      · exact .inl (.inr (by omega))
    · exact .inl (.inl (by simpa using ht))
  · rintro ⟨a, b, c, d⟩
    refine ⟨a, b, fun ht h8 => ?_, by omega⟩
    rcases c with (c | c) | c
    · rw [c] at ht; cases ht
    · omega
    · exact c

/-- a line is kept exactly when its fields meet the requirements; it is filed under the modulus' bit length -/
theorem classify_added_iff (f : Fields) (bl : Nat) (g m : Int) :
    classify f = .added bl g m ↔
      MeetsRequirements f ∧ bl = bitLength f.modulus ∧ m = f.modulus ∧
        g = (if f.generator = 0 then 2 else f.generator) := by
  rw [meets_iff, classify]
  cases failsBasic f <;> cases failsBitLength f <;> simp [eq_comm, and_comm]

/-- `line` (a physical line of the moduli file) contributes the group `(g, m)` under size `bl` -/
def LineOffers (line : List Char) (bl : Nat) (g m : Int) : Prop :=
  ∃ c rest f, strip line = c :: rest ∧ (c == '#') = false ∧ parseFields (strip line) = some f ∧
    classify f = .added bl g m

/-- every offered line meets the requirements, and `bl` is its modulus' bit length -/
theorem lineOffers_meets (line : List Char) (bl : Nat) (g m : Int) (h : LineOffers line bl g m) :
    ∃ f, parseFields (strip line) = some f ∧ MeetsRequirements f ∧ f.modulus = m ∧ bitLength m = bl := by
  obtain ⟨c, rest, f, _, _, hp, hc⟩ := h
  obtain ⟨hm, hbl, hmod, _⟩ := (classify_added_iff f bl g m).mp hc
  exact ⟨f, hp, hm, hmod.symm, by rw [hmod, hbl]⟩

/-- `(g, m)` is stored under key `k` -/
def MemD (d : PackDict) (k : Nat) (x : Group) : Prop := ∃ l, (k, l) ∈ d ∧ x ∈ l

private theorem memD_cons (k0 : Nat) (v0 : List Group) (rest : PackDict) (k : Nat) (y : Group) :
    MemD ((k0, v0) :: rest) k y ↔ (k = k0 ∧ y ∈ v0) ∨ MemD rest k y := by
  simp only [MemD, List.mem_cons, Prod.mk.injEq]
  constructor
  · rintro ⟨l, ⟨rfl, rfl⟩ | h, hy⟩
    · exact .inl ⟨rfl, hy⟩
    · exact .inr ⟨l, h, hy⟩
  · rintro (⟨rfl, hy⟩ | ⟨l, h, hy⟩)
    · exact ⟨v0, .inl ⟨rfl, rfl⟩, hy⟩
    · exact ⟨l, .inr h, hy⟩

private theorem dictAppend_mem (d : PackDict) (bl : Nat) (x : Group) (k : Nat) (y : Group) :
    MemD (dictAppend d bl x) k y ↔ MemD d k y ∨ (k = bl ∧ y = x) := by
  induction d with
  | nil => rw [dictAppend, memD_cons]; simp [MemD]
  | cons e rest ih =>
    obtain ⟨k0, v0⟩ := e
    simp only [dictAppend]
    split
    · next hk =>
      subst hk
      simp only [memD_cons, List.mem_append, List.mem_singleton, and_or_left, or_right_comm]
    · simp only [memD_cons, ih, or_assoc]

private theorem dictAppend_nonempty (d : PackDict) (bl : Nat) (x : Group)
    (h : ∀ e ∈ d, e.2 ≠ []) : ∀ e ∈ dictAppend d bl x, e.2 ≠ [] := by
  induction d with
  | nil => intro e he; simp [dictAppend] at he; subst he; simp
  | cons e0 rest ih =>
    obtain ⟨k0, v0⟩ := e0
    simp only [dictAppend]
    split
    · intro e he
      rcases List.mem_cons.mp he with rfl | he
      · simp
      · exact h e (List.mem_cons_of_mem _ he)
    · intro e he
      rcases List.mem_cons.mp he with rfl | he
      · exact h _ List.mem_cons_self
      · exact ih (fun e' he' => h e' (List.mem_cons_of_mem _ he')) e he

/-- a line offers nothing (blank, comment, `_parse_modulus` raised, group discarded) or exactly one group, which is filed -/
private theorem readLine_pack (p : Pack) (line : List Char) :
    ((p.readLine line).pack = p.pack ∧ ∀ bl g m, ¬ LineOffers line bl g m) ∨
    ∃ bl g m, (p.readLine line).pack = dictAppend p.pack bl (g, m) ∧
      ∀ bl' g' m', LineOffers line bl' g' m' ↔ bl' = bl ∧ g' = g ∧ m' = m := by
  unfold Pack.readLine LineOffers
  simp only
  cases strip line with
  | nil => exact .inl ⟨rfl, fun _ _ _ ⟨_, _, _, h, _⟩ => nomatch h⟩
  | cons c rest =>
    simp only [List.cons.injEq, Pack.parseModulus]
    cases hc : c == '#' with
    | true =>
      refine .inl ⟨rfl, ?_⟩
      rintro _ _ _ ⟨_, _, _, ⟨rfl, _⟩, h, _⟩
      rw [hc] at h; cases h
    | false =>
      cases parseFields (c :: rest) with
      | none => exact .inl ⟨rfl, fun _ _ _ ⟨_, _, _, _, _, h, _⟩ => nomatch h⟩
      | some f =>
        simp only [Option.map_some, Pack.addFields, Option.some.injEq]
        cases hv : classify f with
        | discarded m why =>
          refine .inl ⟨rfl, ?_⟩
          rintro _ _ _ ⟨_, _, _, _, _, rfl, h⟩
          rw [hv] at h; cases h
        | added bl g m =>
          refine .inr ⟨bl, g, m, rfl, fun bl' g' m' => ⟨?_, ?_⟩⟩
          · rintro ⟨_, _, _, _, _, rfl, h⟩
            rw [hv] at h; cases h; exact ⟨rfl, rfl, rfl⟩
          · rintro ⟨rfl, rfl, rfl⟩
            exact ⟨c, rest, f, ⟨rfl, rfl⟩, hc, rfl, hv⟩

private theorem readLine_mem (p : Pack) (line : List Char) (k : Nat) (y : Group) :
    MemD (p.readLine line).pack k y ↔ MemD p.pack k y ∨ LineOffers line k y.1 y.2 := by
  rcases readLine_pack p line with ⟨h, hno⟩ | ⟨bl, g, m, h, hoff⟩
  · rw [h]; exact ⟨.inl, fun h' => h'.resolve_right (hno _ _ _)⟩
  · rw [h, dictAppend_mem, hoff, Prod.ext_iff]

private theorem readLine_nonempty (p : Pack) (line : List Char) (h : ∀ e ∈ p.pack, e.2 ≠ []) :
    ∀ e ∈ (p.readLine line).pack, e.2 ≠ [] := by
  rcases readLine_pack p line with ⟨hp, _⟩ | ⟨bl, g, m, hp, _⟩
  · rw [hp]; exact h
  · rw [hp]; exact dictAppend_nonempty _ _ _ h

private theorem foldl_readLine (lines : List (List Char)) (k : Nat) (y : Group) :
    ∀ p : Pack, (MemD (lines.foldl Pack.readLine p).pack k y ↔
      MemD p.pack k y ∨ ∃ line ∈ lines, LineOffers line k y.1 y.2) := by
  induction lines with
  | nil => intro p; simp
  | cons l ls ih =>
    intro p
    simp only [List.foldl_cons]
    rw [ih (p.readLine l), readLine_mem]
    simp only [List.mem_cons, exists_eq_or_imp]
    constructor
    · rintro ((h | h) | h)
      · exact Or.inl h
      · exact Or.inr (Or.inl h)
      · exact Or.inr (Or.inr h)
    · rintro (h | h | h)
      · exact Or.inl (Or.inl h)
      · exact Or.inl (Or.inr h)
      · exact Or.inr h

private theorem foldl_nonempty (lines : List (List Char)) :
    ∀ p : Pack, (∀ e ∈ p.pack, e.2 ≠ []) → ∀ e ∈ (lines.foldl Pack.readLine p).pack, e.2 ≠ [] := by
  induction lines with
  | nil => intro p h; exact h
  | cons l ls ih => intro p h; exact ih _ (readLine_nonempty p l h)

/-- **What `read_file` stores**: a group is in the pack under size `k` exactly when some line of the file that
meets the requirements offers it with bit length `k` (whatever was loaded before). -/
theorem readFile_mem_iff (old : Pack) (lines : List (List Char)) (k : Nat) (g m : Int) :
    MemD (old.readFile lines).pack k (g, m) ↔ ∃ line ∈ lines, LineOffers line k g m := by
  unfold Pack.readFile
  rw [foldl_readLine]
  simp [MemD]

/-- every size list in a pack built by `read_file` is non-empty -/
theorem readFile_nonempty (old : Pack) (lines : List (List Char)) :
    ∀ e ∈ (old.readFile lines).pack, e.2 ≠ [] := by
  unfold Pack.readFile
  exact foldl_nonempty lines _ (by simp)

/-! ## `get_modulus` -/

/-- the law assumed of `_roll_random(n)`: an index into a list of length `n` -/
def RollLaw (roll : Nat → Nat) : Prop := ∀ n, 0 < n → roll n < n

/-- the law is satisfiable: the deterministic stand-in used by the harness and the driver -/
theorem rollLaw_mod (k : Nat) : RollLaw (fun n => k % n) := fun _ hn => Nat.mod_lt _ hn

/-- `sorted(self.pack.keys())` as integers -/
def sizesOf (d : PackDict) : List Int := (sortedKeys d).map Int.ofNat

private theorem perm_insertSorted (a : Nat) (l : List Nat) : (insertSorted a l).Perm (a :: l) := by
  induction l with
  | nil => exact .refl _
  | cons b l ih =>
    simp only [insertSorted]
    split
    · exact .refl _
    · exact (ih.cons b).trans (.swap a b l)

private theorem perm_sortNat (l : List Nat) : (sortNat l).Perm l := by
  induction l with
  | nil => exact .refl _
  | cons a l ih => exact (perm_insertSorted a (sortNat l)).trans (ih.cons a)

private theorem mem_sizesOf (d : PackDict) (b : Int) :
    b ∈ sizesOf d ↔ ∃ k l, (k, l) ∈ d ∧ (k : Int) = b := by
  simp only [sizesOf, sortedKeys, List.mem_map, (perm_sortNat _).mem_iff]
  constructor
  · rintro ⟨k, ⟨⟨k', l⟩, h1, h2⟩, h3⟩
    simp only at h2
    subst h2
    exact ⟨k', l, h1, h3⟩
  · rintro ⟨k, l, h1, h2⟩
    exact ⟨k, ⟨(k, l), h1, rfl⟩, h2⟩

theorem getModulus_empty (roll : Nat → Nat) (p : Pack) (h : p.pack = []) (mn pf mx : Int) :
    p.getModulus roll mn pf mx = .error .noModuli := by
  simp [Pack.getModulus, sortedKeys, sortNat, h]

/-- `get_modulus` on a non-empty pack returns a stored group whose size is the one `pickSize` selects; the
`KeyError`/`IndexError` paths are unreachable. -/
theorem getModulus_ok (roll : Nat → Nat) (hroll : RollLaw roll) (p : Pack)
    (hwf : ∀ e ∈ p.pack, e.2 ≠ []) (hne : p.pack ≠ []) (mn pf mx : Int) :
    ∃ k x, p.getModulus roll mn pf mx = .ok x ∧ MemD p.pack k x ∧
      (k : Int) = pickSize (sizesOf p.pack) mn pf mx := by
  have hlen : (sortedKeys p.pack).length ≠ 0 := by
    simp only [sortedKeys, (perm_sortNat _).length_eq, List.length_map]
    intro h; exact hne (List.eq_nil_of_length_eq_zero h)
  have hsz_ne : sizesOf p.pack ≠ [] := by
    intro h
    have := congrArg List.length h
    simp only [sizesOf, List.length_map, List.length_nil] at this
    exact hlen this
  have hsz_nonneg : ∀ b ∈ sizesOf p.pack, (0 : Int) ≤ b := by
    intro b hb
    obtain ⟨k, _, _, h⟩ := (mem_sizesOf _ _).mp hb
    rw [← h]; exact Int.natCast_nonneg k
  have hmem := pickSize_mem (sizesOf p.pack) hsz_ne hsz_nonneg mn pf mx
  obtain ⟨k, l, hkl, hk⟩ := (mem_sizesOf _ _).mp hmem
  unfold Pack.getModulus
  simp only [hlen, if_false]
  rw [pickSize_eq_generated]
  change ∃ k x, (match dictGet p.pack (pickSize (sizesOf p.pack) mn pf mx) with
    | none => Except.error Err.internal
    | some l => match l[roll l.length]? with
      | none => Except.error Err.internal
      | some x => Except.ok x) = Except.ok x ∧ _
  generalize pickSize (sizesOf p.pack) mn pf mx = good at hk ⊢
  unfold dictGet
  cases hf : List.find? (fun e => decide ((e.1 : Int) = good)) p.pack with
  | none =>
    have := List.find?_eq_none.mp hf (k, l) hkl
    simp [hk] at this
  | some e =>
    have he := List.mem_of_find?_eq_some hf
    have hp := List.find?_some hf
    simp only [decide_eq_true_eq] at hp
    have hnon := hwf e he
    have hpos : 0 < e.2.length := List.length_pos_iff.mpr hnon
    have hr := hroll e.2.length hpos
    simp only [Option.map_some]
    rw [List.getElem?_eq_getElem hr]
    exact ⟨e.1, e.2[roll e.2.length], rfl, ⟨e.2, he, List.getElem_mem hr⟩, hp⟩

/-! ## the statement, end to end: moduli file → `read_file` → `get_modulus` -/

/-- size `b` is available: some line of the file that meets the requirements has a modulus of `b` bits -/
def Avail (lines : List (List Char)) (b : Nat) : Prop := ∃ line ∈ lines, ∃ g m, LineOffers line b g m

private theorem mem_sizesOf_readFile (old : Pack) (lines : List (List Char)) (b : Int) :
    b ∈ sizesOf (old.readFile lines).pack ↔ ∃ k, Avail lines k ∧ (k : Int) = b := by
  rw [mem_sizesOf]
  constructor
  · rintro ⟨k, l, hkl, hk⟩
    have hne := readFile_nonempty old lines (k, l) hkl
    cases l with
    | nil => exact absurd rfl hne
    | cons x xs =>
      obtain ⟨g, m⟩ := x
      have : MemD (old.readFile lines).pack k (g, m) := ⟨(g, m) :: xs, hkl, by simp⟩
      obtain ⟨line, hl, ho⟩ := (readFile_mem_iff old lines k g m).mp this
      exact ⟨k, ⟨line, hl, g, m, ho⟩, hk⟩
  · rintro ⟨k, ⟨line, hl, g, m, ho⟩, hk⟩
    obtain ⟨l, hkl, _⟩ := (readFile_mem_iff old lines k g m).mpr ⟨line, hl, ho⟩
    exact ⟨k, l, hkl, hk⟩

/-- **C43, full statement.** For every moduli file (`lines`), whatever the pack held before, every request
`(min, prefer, max)` — inverted and out-of-range ones included — and every `_roll_random` obeying its law:
if the file has at least one valid line, `get_modulus` returns a group `(g, m)` that a valid line of the file
offers (so it meets the primality-testing and bit-length requirements and `m` has `k` bits), and
 * if some available size lies in `[min, max]` and is `≥ prefer`, `k` is the smallest such size;
 * otherwise, if some available size lies in `[min, max]`, `k` is the largest in-range size. -/
theorem get_modulus_statement (roll : Nat → Nat) (hroll : RollLaw roll) (old : Pack)
    (lines : List (List Char)) (mn pf mx : Int) (hav : ∃ b, Avail lines b) :
    ∃ k g m, (old.readFile lines).getModulus roll mn pf mx = .ok (g, m) ∧
      (∃ line ∈ lines, LineOffers line k g m) ∧
      ((∃ b, Avail lines b ∧ Preferred mn pf mx b) →
        Preferred mn pf mx k ∧ ∀ b, Avail lines b → Preferred mn pf mx b → (k : Int) ≤ b) ∧
      ((¬ ∃ b, Avail lines b ∧ Preferred mn pf mx b) → (∃ b, Avail lines b ∧ InRange mn mx b) →
        InRange mn mx k ∧ ∀ b, Avail lines b → InRange mn mx b → (b : Int) ≤ k) := by
  have hwf := readFile_nonempty old lines
  have hne : (old.readFile lines).pack ≠ [] := by
    obtain ⟨b, line, hl, g, m, ho⟩ := hav
    obtain ⟨l, hkl, _⟩ := (readFile_mem_iff old lines b g m).mpr ⟨line, hl, ho⟩
    intro h; rw [h] at hkl; simp at hkl
  obtain ⟨k, ⟨g, m⟩, hget, hmem, hk⟩ := getModulus_ok roll hroll _ hwf hne mn pf mx
  have hnonneg : ∀ b ∈ sizesOf (old.readFile lines).pack, (0 : Int) ≤ b := by
    intro b hb
    obtain ⟨k', _, h⟩ := (mem_sizesOf_readFile old lines b).mp hb
    rw [← h]; exact Int.natCast_nonneg k'
  refine ⟨k, g, m, hget, (readFile_mem_iff old lines k g m).mp hmem, ?_, ?_⟩
  · rintro ⟨b, hb, hp⟩
    have hex : ∃ c ∈ sizesOf (old.readFile lines).pack, Preferred mn pf mx c :=
      ⟨(b : Int), (mem_sizesOf_readFile old lines _).mpr ⟨b, hb, rfl⟩, hp⟩
    obtain ⟨_, h2, h3⟩ := pickSize_preferred _ hnonneg mn pf mx hex
    rw [hk]
    refine ⟨h2, ?_⟩
    intro c hc hpc
    exact h3 (c : Int) ((mem_sizesOf_readFile old lines _).mpr ⟨c, hc, rfl⟩) hpc
  · intro hno ⟨b, hb, hr⟩
    have hno' : ¬ ∃ c ∈ sizesOf (old.readFile lines).pack, Preferred mn pf mx c := by
      rintro ⟨c, hc, hpc⟩
      obtain ⟨k', hk', hkc⟩ := (mem_sizesOf_readFile old lines c).mp hc
      exact hno ⟨k', hk', by rw [hkc]; exact hpc⟩
    have hex : ∃ c ∈ sizesOf (old.readFile lines).pack, InRange mn mx c :=
      ⟨(b : Int), (mem_sizesOf_readFile old lines _).mpr ⟨b, hb, rfl⟩, hr⟩
    obtain ⟨_, h2, h3⟩ := pickSize_largest _ hnonneg mn pf mx hno' hex
    rw [hk]
    refine ⟨h2, ?_⟩
    intro c hc hrc
    exact h3 (c : Int) ((mem_sizesOf_readFile old lines _).mpr ⟨c, hc, rfl⟩) hrc

/-- **Never offered**: whatever `get_modulus` returns from a file comes from a line whose fields meet the
primality-testing and bit-length requirements. -/
theorem offered_meets_requirements (roll : Nat → Nat) (hroll : RollLaw roll) (old : Pack)
    (lines : List (List Char)) (mn pf mx : Int) (g m : Int)
    (h : (old.readFile lines).getModulus roll mn pf mx = .ok (g, m)) :
    ∃ line ∈ lines, ∃ f, parseFields (strip line) = some f ∧ MeetsRequirements f ∧ f.modulus = m := by
  by_cases hne : (old.readFile lines).pack = []
  · rw [getModulus_empty roll _ hne] at h; cases h
  · obtain ⟨k, x, hget, hmem, _⟩ := getModulus_ok roll hroll _ (readFile_nonempty old lines) hne mn pf mx
    rw [hget] at h
    simp only [Except.ok.injEq] at h
    subst h
    obtain ⟨line, hl, ho⟩ := (readFile_mem_iff old lines k g m).mp hmem
    obtain ⟨f, hp, hm, hmod, _⟩ := lineOffers_meets line k g m ho
    exact ⟨line, hl, f, hp, hm, hmod⟩

/-- a file without any valid line: `SSHException("no moduli available")` -/
theorem no_valid_line (roll : Nat → Nat) (old : Pack) (lines : List (List Char)) (mn pf mx : Int)
    (h : ¬ ∃ b, Avail lines b) : (old.readFile lines).getModulus roll mn pf mx = .error .noModuli := by
  apply getModulus_empty
  cases hp : (old.readFile lines).pack with
  | nil => rfl
  | cons e rest =>
    exfalso
    obtain ⟨k, l⟩ := e
    have hmem : (k, l) ∈ (old.readFile lines).pack := by rw [hp]; simp
    have := (mem_sizesOf_readFile old lines (k : Int)).mp ((mem_sizesOf _ _).mpr ⟨k, l, hmem, rfl⟩)
    obtain ⟨k', hk', _⟩ := this
    exact h ⟨k', hk'⟩

/-! ## the `KexGex` path: every wire triple -/

/-- a conditional update of one variable of the triple, as the translator writes it -/
private theorem ite_triple {α β γ : Type} (p : Prop) [Decidable p] (a1 a2 : α) (b1 b2 : β) (c1 c2 : γ) :
    (if p then (a1, b1, c1) else (a2, b2, c2)) =
      (if p then a1 else a2, if p then b1 else b2, if p then c1 else c2) := by
  split <;> rfl

private theorem gexClamp_closed (lo hi a b c : Int) :
    PV.Generated.C43.gexClamp lo hi a b c =
      (let p1 := if b > hi then hi else b
       let p := if p1 < lo then lo else p1
       (if a > p then p else a, p, if c < p then p else c)) := by
  simp only [PV.Generated.C43.gexClamp, ite_triple, ite_self]

private theorem gexClamp_spec (lo hi a b c : Int) (h : lo ≤ hi) :
    let t := PV.Generated.C43.gexClamp lo hi a b c
    t.1 ≤ t.2.1 ∧ t.2.1 ≤ t.2.2 ∧ lo ≤ t.2.1 ∧ t.2.1 ≤ hi ∧
    t.2.1 = (if b > hi then hi else if b < lo then lo else b) ∧
    t.1 = (if a > t.2.1 then t.2.1 else a) ∧ t.2.2 = (if c < t.2.1 then t.2.1 else c) := by
  simp only [gexClamp_closed]
  generalize hp : (if (if b > hi then hi else b) < lo then lo else if b > hi then hi else b) = p
  have hpv : lo ≤ p ∧ p ≤ hi ∧ p = (if b > hi then hi else if b < lo then lo else b) := by omega
  exact ⟨by omega, by omega, hpv.1, hpv.2.1, hpv.2.2, trivial, trivial⟩

/-- `_parse_kexdh_gex_request`: for **every** wire triple the triple handed to `get_modulus` is ordered,
its preferred size is the client's clamped into the server's [1024, 8192], min/max are widened to contain it. -/
theorem gexTriple_spec (a b c : Int) :
    (gexTriple a b c).1 ≤ (gexTriple a b c).2.1 ∧ (gexTriple a b c).2.1 ≤ (gexTriple a b c).2.2 ∧
    1024 ≤ (gexTriple a b c).2.1 ∧ (gexTriple a b c).2.1 ≤ 8192 ∧
    (gexTriple a b c).2.1 = (if b > 8192 then 8192 else if b < 1024 then 1024 else b) ∧
    (gexTriple a b c).1 = (if a > (gexTriple a b c).2.1 then (gexTriple a b c).2.1 else a) ∧
    (gexTriple a b c).2.2 = (if c < (gexTriple a b c).2.1 then (gexTriple a b c).2.1 else c) :=
  gexClamp_spec 1024 8192 a b c (by decide)

/-- a consistent request inside the server's limits is passed on unchanged -/
theorem gexTriple_id (a b c : Int) (h1 : a ≤ b) (h2 : b ≤ c) (h3 : 1024 ≤ b) (h4 : b ≤ 8192) :
    gexTriple a b c = (a, b, c) := by
  simp only [gexTriple, PV.Generated.C43.kexMinBits, PV.Generated.C43.kexMaxBits, gexClamp_closed]
  have hb : (if (if b > 8192 then 8192 else b) < (1024 : Int) then 1024 else if b > 8192 then 8192 else b) = b := by
    omega
  rw [hb, if_neg (by omega), if_neg (by omega)]

/-- `_parse_kexdh_gex_request_old` -/
theorem gexTripleOld_spec (b : Int) :
    gexTripleOld b = (1024, (if b > 8192 then 8192 else if b < 1024 then 1024 else b), 8192) ∧
    1024 ≤ (gexTripleOld b).2.1 ∧ (gexTripleOld b).2.1 ≤ 8192 := by
  simp only [gexTripleOld, PV.Generated.C43.gexClampOld, PV.Generated.C43.kexMinBits,
    PV.Generated.C43.kexMaxBits]
  by_cases h1 : b > 8192 <;> by_cases h2 : b < 1024 <;> simp [h1, h2] <;> omega

/-- **KexGex, every wire triple**: the server's answer to a group-exchange request obeys the statement with
respect to the (ordered) triple `gexTriple a b c` it derives from the wire values — with the old first pass
as well as with the fixed one (`pickSizeOld_eq_of_le`). -/
theorem gex_request_statement (roll : Nat → Nat) (hroll : RollLaw roll) (old : Pack)
    (lines : List (List Char)) (a b c : Int) (hav : ∃ s, Avail lines s) :
    let t := gexTriple a b c
    ∃ k g m, (old.readFile lines).gexRequest roll a b c = .ok (g, m) ∧
      (∃ line ∈ lines, LineOffers line k g m) ∧
      ((∃ s, Avail lines s ∧ Preferred t.1 t.2.1 t.2.2 s) →
        Preferred t.1 t.2.1 t.2.2 k ∧ ∀ s, Avail lines s → Preferred t.1 t.2.1 t.2.2 s → (k : Int) ≤ s) ∧
      ((¬ ∃ s, Avail lines s ∧ Preferred t.1 t.2.1 t.2.2 s) → (∃ s, Avail lines s ∧ InRange t.1 t.2.2 s) →
        InRange t.1 t.2.2 k ∧ ∀ s, Avail lines s → InRange t.1 t.2.2 s → (s : Int) ≤ k) := by
  exact get_modulus_statement roll hroll old lines _ _ _ hav

/-- the fix leaves the key-exchange path untouched: for every wire triple the old selection equals the new -/
theorem gex_unaffected_by_fix (bs : List Int) (a b c : Int) :
    pickSizeOld bs (gexTriple a b c).1 (gexTriple a b c).2.1 (gexTriple a b c).2.2
      = pickSize bs (gexTriple a b c).1 (gexTriple a b c).2.1 (gexTriple a b c).2.2 :=
  pickSizeOld_eq_of_le _ _ _ _ (gexTriple_spec a b c).1

/-! ## history independence: several requests on one ModulusPack -/

/-- **Every answer depends on its own request only.**  For every pack and every history of requests on the same
object, the k-th answer is the one-shot answer to the k-th request (so `get_modulus_statement` applies to each of
them), and the object is unchanged. -/
theorem getSession_spec (p : Pack) (reqs : List Request) :
    p.getSession reqs =
      (p, reqs.map fun r => p.getModulus (fun n => r.2.2.2 % n) r.1 r.2.1 r.2.2.1) := by
  induction reqs with
  | nil => rfl
  | cons r rs ih => simp [Pack.getSession, Pack.getStep, ih]

/-- sizes {1024, 8192}: (2048, 2048, 4096) has nothing in range (closest offered), the following
(1024, 2048, 4096) on the same object must still be answered with the in-range 1024-bit group -/
example : (Pack.getSession ⟨[(1024, [(2, 11)]), (8192, [(2, 13)])], []⟩ [(2048, 2048, 4096, 0), (1024, 2048, 4096, 0)]).2
    = [.ok (2, 13), .ok (2, 11)] := by rfl

/-! ## non-vacuity -/

/-- a two-line moduli file: an 8-bit and a 12-bit group, plus a comment and a line failing the tests field -/
def demoFile : List (List Char) :=
  ["# comment".toList, "20240101000000 2 6 100 7 2 FF".toList, "20240101000000 2 6 100 12 5 0x0fff".toList,
   "20240101000000 2 2 100 9 2 1FF".toList]

private theorem demo_line : LineOffers "20240101000000 2 6 100 7 2 FF".toList 8 2 255 :=
  ⟨'2', "0240101000000 2 6 100 7 2 FF".toList, ⟨2, 6, 100, 7, 2, 255⟩, by decide +kernel, by decide +kernel,
    by decide +kernel, by decide +kernel⟩

/-- `demoFile` read once, for the examples below -/
private theorem demo_read :
    Pack.empty.readFile demoFile = ⟨[(8, [(2, 255)]), (12, [(5, 4095)])], [(511, .basic)]⟩ := by
  decide +kernel

example : LineOffers "20240101000000 2 6 100 7 2 FF".toList 8 2 255 := demo_line
example : Avail demoFile 8 :=
  ⟨"20240101000000 2 6 100 7 2 FF".toList, List.mem_cons_of_mem _ List.mem_cons_self, 2, 255, demo_line⟩
example : (Pack.empty.readFile demoFile).pack = [(8, [(2, 255)]), (12, [(5, 4095)])] := by rw [demo_read]
example : (Pack.empty.readFile demoFile).getModulus (fun n => 0 % n) 9 10 16 = .ok (5, 4095) := by
  rw [demo_read]; rfl
example : (Pack.empty.readFile demoFile).getModulus (fun n => 0 % n) 1 20 16 = .ok (5, 4095) := by
  rw [demo_read]; rfl
example : gexTriple 4096 2048 8192 = (2048, 2048, 8192) := by decide
example : gexTriple 1024 1000000 2000 = (1024, 8192, 8192) := by decide
/-- the defect fixed by `b >= min` in the first pass: with the old first pass the request
(min 1500, prefer 1000, max 3000) over sizes {1024, 2048} selected 1024; now 2048 -/
example : pickSize [1024, 2048] 1500 1000 3000 = 2048 := by decide
example : pickSize [1024, 2048, 4096] 1024 2000 8192 = 2048 := by decide
example : pickSize [1024, 2048, 4096] 1024 5000 4500 = 4096 := by decide

end PV.Props.C43
