/-
  C33 — SFTP file attributes survive encoding and decoding.
  Model: PV/Model/SftpAttr.lean (helpers: PV/Model/SftpAttrLemmas.lean)
  (`SFTPAttributes._pack` / `_unpack`), flag constants generated from the source.
-/
import PV.Model.SftpAttrLemmas
namespace PV.Props.C33
open PV PV.Wire PV.SftpAttr PV.Generated.C33

/-- **Flags = presence set.** The flags word `_pack` writes has the bit of a field set exactly when the
field is present (uid/gid and atime/mtime count as pairs, `attr` when non-empty), it is the plain
sum of the present fields' constants (no other bit), and it fits 32 bits.  Decided over all
2^5 presence combinations with the constants taken from the source. -/
theorem flags_exact (a : Attrs) :
    has (packFlags a) FLAG_SIZE = a.size.isSome ∧
    has (packFlags a) FLAG_UIDGID = (a.uid.isSome && a.gid.isSome) ∧
    has (packFlags a) FLAG_PERMISSIONS = a.mode.isSome ∧
    has (packFlags a) FLAG_AMTIME = (a.atime.isSome && a.mtime.isSome) ∧
    has (packFlags a) FLAG_EXTENDED = !a.ext.isEmpty ∧
    packFlags a < 4294967296 ∧
    packFlags a = bit a.size.isSome FLAG_SIZE + bit (a.uid.isSome && a.gid.isSome) FLAG_UIDGID
      + bit a.mode.isSome FLAG_PERMISSIONS + bit (a.atime.isSome && a.mtime.isSome) FLAG_AMTIME
      + bit (!a.ext.isEmpty) FLAG_EXTENDED :=
  flags_table _ _ _ _ _

/-- `_pack` accepts every in-range attribute set (no `struct.error`, no `TypeError`). -/
theorem pack_total (a : Attrs) (h : a.WF) : ∃ bs, pack a = .ok bs := ⟨_, pack_eq a h⟩

/-- **Round trip.** For every presence combination, every 64-bit size, 32-bit uid/gid/mode/times and every
extended dict of byte strings: what `_pack` appended to a message, `_unpack` reads back — same
fields, absent ones absent, same extended pairs in the same order, `_flags` equal to the flags
written — consuming exactly the packed bytes, whatever precedes or follows them. -/
theorem roundtrip (a : Attrs) (h : a.WF) (pre rest bs : Bytes) (hp : pack a = .ok bs) :
    unpack { content := pre ++ bs ++ rest, pos := pre.length }
      = (packFlags a, a, { content := pre ++ bs ++ rest, pos := pre.length + bs.length }) := by
  rw [pack_eq a h] at hp
  injection hp with hp
  subst hp
  obtain ⟨f1, f2, f3, f4, f5, flt⟩ := packFlags_has a
  generalize hr : ({ content := pre ++ packBytes a ++ rest, pos := pre.length } : Rd) = r
  -- what lies ahead of the reader before each of the six reads
  have h0 : r.remainder = be32 (packFlags a) ++ (opt64 a.size ++ (segPair a.uid a.gid ++ (opt32 a.mode ++
      (segPair a.atime a.mtime ++ (segExt a ++ rest))))) := by
    simp [← hr, Rd.remainder, packBytes]
  have h1 := adv_remainder h0 (be32_length _)
  have h2 := adv_remainder h1 rfl
  have h3 := adv_remainder h2 rfl
  have h4 := adv_remainder h3 rfl
  have h5 := adv_remainder h4 rfl
  unfold unpack
  simp only [getInt_at flt h0, f1, f2, f3, f4, f5, read_size a.size h.size h1,
    read_pair a.uid a.gid h.uid h.gid h.ugPair h2, read_u32 a.mode h.mode h3,
    read_pair a.atime a.mtime h.atime h.mtime h.amPair h4, read_ext a h h5]
  simp [← hr, adv, packBytes, Nat.add_assoc]

/-- What `_pack` wrote, `_unpack` reads back from the start of the bytes: the same attributes, the flags word
`_pack` computed, and nothing left over. -/
theorem roundtrip_fields (a : Attrs) (h : a.WF) (bs : Bytes) (hp : pack a = .ok bs) :
    (unpack { content := bs, pos := 0 }).2.1 = a ∧ (unpack { content := bs, pos := 0 }).1 = packFlags a
    ∧ (unpack { content := bs, pos := 0 }).2.2.remainder = [] := by
  have := roundtrip a h [] [] bs hp
  simp only [List.nil_append, List.append_nil, List.length_nil, Nat.zero_add] at this
  rw [this]
  simp [Rd.remainder]

/-- what `_pack` actually transmits of an arbitrary object: a lone uid (or gid, atime, mtime) without its
partner cannot be expressed on the wire and is left out -/
def normalize (a : Attrs) : Attrs :=
  { a with uid := if a.uid.isSome && a.gid.isSome then a.uid else none,
           gid := if a.uid.isSome && a.gid.isSome then a.gid else none,
           atime := if a.atime.isSome && a.mtime.isSome then a.atime else none,
           mtime := if a.atime.isSome && a.mtime.isSome then a.mtime else none }

/-- `normalize` keeps a complete pair and the presence of the pair as a whole -/
private theorem pair_kept (x y : Option Nat) :
    ((if x.isSome && y.isSome then x else none).isSome && (if x.isSome && y.isSome then y else none).isSome)
      = (x.isSome && y.isSome) := by
  cases x <;> cases y <;> rfl

private theorem pair_id {x y : Option Nat} (h : x.isSome = y.isSome) :
    (if x.isSome && y.isSome then x else none) = x ∧ (if x.isSome && y.isSome then y else none) = y := by
  cases x <;> cases y <;> simp_all

/-- **Half-present pairs.** `_pack` writes the same flags word for `a` and `normalize a`; on objects whose pairs are
complete `normalize` is the identity (so `roundtrip` loses nothing there). -/
theorem flags_normalize (a : Attrs) : packFlags (normalize a) = packFlags a := by
  simp only [packFlags, normalize, pair_kept]

private theorem whenFlag_congr {flags f : Nat} {x y : Except Err Bytes} (h : has flags f = true → x = y) :
    whenFlag flags f x = whenFlag flags f y := by
  unfold whenFlag
  cases hf : has flags f
  · rfl
  · exact h hf

/-- … and the bytes are the same too: the harmless half of a pair is simply not transmitted -/
theorem pack_normalize (a : Attrs) : pack (normalize a) = pack a := by
  obtain ⟨_, f2, _, f4, _⟩ := flags_exact a
  -- where the flag of a pair is set the pair is complete, and `normalize` leaves it alone
  have e2 : whenFlag (packFlags a) FLAG_UIDGID
        (do let x ← u32 (normalize a).uid; let y ← u32 (normalize a).gid; pure (x ++ y))
      = whenFlag (packFlags a) FLAG_UIDGID (do let x ← u32 a.uid; let y ← u32 a.gid; pure (x ++ y)) :=
    whenFlag_congr fun h => by simp only [normalize, f2 ▸ h, if_true]
  have e4 : whenFlag (packFlags a) FLAG_AMTIME
        (do let x ← u32 (normalize a).atime; let y ← u32 (normalize a).mtime; pure (x ++ y))
      = whenFlag (packFlags a) FLAG_AMTIME (do let x ← u32 a.atime; let y ← u32 a.mtime; pure (x ++ y)) :=
    whenFlag_congr fun h => by simp only [normalize, f4 ▸ h, if_true]
  simp only [pack, flags_normalize, e2, e4]
  rfl

theorem normalize_of_pairs (a : Attrs) (h1 : a.uid.isSome = a.gid.isSome) (h2 : a.atime.isSome = a.mtime.isSome) :
    normalize a = a := by
  unfold normalize
  rw [(pair_id h1).1, (pair_id h1).2, (pair_id h2).1, (pair_id h2).2]

/-- **Decoded objects are well-formed and re-encode to the same bytes**: whatever `_pack` accepted, decoding its
output and packing again yields the identical byte string (`_pack ∘ _unpack ∘ _pack = _pack`). -/
theorem repack (a : Attrs) (h : a.WF) (bs : Bytes) (hp : pack a = .ok bs) :
    pack (unpack { content := bs, pos := 0 }).2.1 = .ok bs := by
  rw [(roundtrip_fields a h bs hp).1, hp]

/-! ## non-vacuity -/

def sample : Attrs :=
  { size := some 18446744073709551615, uid := some 0, gid := some 4294967295, mode := none,
    atime := some 1, mtime := some 2, ext := [([107], [118, 49]), ([], [])] }

example : sample.WF := by
  refine ⟨?_, ?_, ?_, ?_, ?_, ?_, rfl, rfl, by decide, by decide, ?_⟩ <;>
    simp [sample] <;> omega

example : pack sample = .ok [128, 0, 0, 11, 255, 255, 255, 255, 255, 255, 255, 255, 0, 0, 0, 0,
    255, 255, 255, 255, 0, 0, 0, 1, 0, 0, 0, 2, 0, 0, 0, 2, 0, 0, 0, 1, 107, 0, 0, 0, 2, 118, 49,
    0, 0, 0, 0, 0, 0, 0, 0] := by rfl

example : Attrs.empty.WF := by
  refine ⟨?_, ?_, ?_, ?_, ?_, ?_, rfl, rfl, by decide, by decide, ?_⟩ <;> simp [Attrs.empty]

end PV.Props.C33
