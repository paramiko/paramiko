/-
  C30 — Every SFTP request completes with exactly one well-formed response.
  Server: PV/Model/SftpServer.lean over the table generated from the source (PV/Generated/C30.lean: command
  numbers, CMD_NAMES keys, the branches of `_process` and — from the AST — every packet type a responder call in each
  branch can emit).  Client: PV/Model/SftpClient.lean (invariant proofs in PV/Model/SftpClientInv.lean), the
  read-ahead rounds of listdir_iter (PV/Model/ListdirIter.lean) and the lock under back-pressure
  (PV/Model/ClientLock.lean, proofs in ClientLockLemmas.lean), both instantiated here with what the AST says.
-/
import PV.Model.SftpServer
import PV.Model.SftpClientInv
import PV.Model.ClientLockLemmas
import PV.Model.ListdirIter
namespace PV.Props.C30
open PV PV.SftpServer PV.Generated.C30

def allHk : List HandleKind := [.file, .folder, .none]
def allExt : List ExtTag := [.checkFile, .posixRename, .other]
def allCf : List CfCase := [.badHandle, .noAlg, .statFails, .smallBlock, .readFails, .ok]

private theorem mem_allHk (x : HandleKind) : x ∈ allHk := by cases x <;> decide
private theorem mem_allExt (x : ExtTag) : x ∈ allExt := by cases x <;> decide
private theorem mem_allCf (x : CfCase) : x ∈ allCf := by cases x <;> decide
private theorem mem_allBool (x : Bool) : x ∈ allBool := by cases x <;> decide

private theorem dispatch_unhandled (t : Nat) (a : Abs) (h : t ∉ handled) : dispatch t a = status sftpOpUnsupported := by
  simp only [handled, List.mem_cons, List.not_mem_nil, or_false, not_or] at h
  unfold dispatch
  simp only [cmdOpen, cmdClose, cmdRead, cmdWrite, cmdRemove, cmdRename, cmdMkdir, cmdRmdir, cmdOpendir,
    cmdReaddir, cmdStat, cmdLstat, cmdFstat, cmdSetstat, cmdFsetstat, cmdReadlink, cmdSymlink, cmdRealpath,
    cmdExtended]
  simp [h]

/-- Every packet type that a responder call in a branch of the *source* of `_process` (or of a helper it calls)
    can emit is valid for that branch's command (table regenerated from the AST on every run). -/
theorem source_branches_emit_valid_types :
    ∀ p ∈ branchTypes, ∀ ty ∈ p.2, validFor p.1 ty = true := by decide +kernel

/-- The hand-written dispatcher only emits, for each command, a packet type that the source's branch for that
    command contains (model ⊆ AST table), for every abstract input. -/
theorem model_within_source_table (c : Nat) (hc : c ∈ handled) (a : Abs) :
    (branchTypes.lookup c).any (fun ts => ts.contains (dispatch c a).1) = true := by
  -- `dispatch` never looks at `raises` (`serve` does), so the sweep fixes it
  have table : ∀ c ∈ handled, ∀ hk ∈ allHk, ∀ ok ∈ allBool, ∀ ext ∈ allExt, ∀ em ∈ allBool, ∀ cf ∈ allCf,
      (branchTypes.lookup c).any (fun ts => ts.contains (dispatch c ⟨hk, ok, false, ext, em, cf⟩).1) = true := by
    decide +kernel
  obtain ⟨hk, ok, rs, ext, em, cf⟩ := a
  exact table c hc hk (mem_allHk hk) ok (mem_allBool ok) ext (mem_allExt ext) em (mem_allBool em) cf (mem_allCf cf)

/-- model ⊆ source table, and every type in the source table is valid for its command -/
private theorem dispatch_valid (t : Nat) (a : Abs) : validFor t (dispatch t a).1 = true := by
  by_cases h : t ∈ handled
  · have hm := model_within_source_table t h a
    cases hl : branchTypes.lookup t with
    | none => simp [hl] at hm
    | some ts =>
      obtain ⟨l₁, l₂, hb, _⟩ := List.lookup_eq_some_iff.mp hl
      rw [hl, Option.any_some, List.contains_iff_mem] at hm
      exact source_branches_emit_valid_types (t, ts) (by simp [hb]) _ hm
  · rw [dispatch_unhandled t a h]; simp [validFor, status]

/-- **Exactly one response, same id, valid type** — for every command byte 0..255 and beyond, every request id,
    every handle kind, every callback outcome (result, error code, exception), every extended tag, every exit of
    check-file. -/
theorem one_response_same_id_valid_type (t id : Nat) (a : Abs) :
    ∃ ty code, serve t id a = [(ty, id, code)] ∧ validFor t ty = true := by
  unfold serve
  split
  · exact ⟨_, _, rfl, by simp [validFor]⟩
  · split
    · exact ⟨_, _, rfl, by simp [validFor]⟩
    · exact ⟨_, _, rfl, dispatch_valid t a⟩

/-- Failures are reported with STATUS: unknown command numbers, commands without a branch, and any exception
    raised while a request is processed. -/
theorem failures_answer_with_status (t id : Nat) (a : Abs) (h : t ∉ handled ∨ a.raises = true) :
    ∃ code, serve t id a = [(cmdStatus, id, code)] := by
  unfold serve
  split
  · exact ⟨_, rfl⟩
  · split
    · exact ⟨_, rfl⟩
    · rename_i hn hr
      rcases h with h | h
      · refine ⟨.fixed sftpOpUnsupported, ?_⟩
        have : dispatch t a = status sftpOpUnsupported := dispatch_unhandled t a h
        rw [this]; rfl
      · exact absurd h hr

/-- **Exactly one send on every control-flow path of the source**: for every branch of `_process`, the final else
    and every helper a branch may call, each path through the statements (loops taken zero times or once, `break`
    and for-else honoured, early `return`s) calls a responder exactly once (table regenerated from the AST on every
    run).  Exceptions are the dispatcher model's `raises` case. -/
theorem source_paths_send_exactly_once :
    (∀ p ∈ branchSendCounts, p.2 = [1]) ∧ elseSendCounts = [1] ∧ (∀ h ∈ helperSendCounts, h = [1]) ∧
    branchSendCounts.map (·.1) = handled := by decide +kernel

/-- **Exactly one send on every exception path of the source**: when any statement of a branch of `_process` (or of
    a helper it calls) raises, the responder calls already made on that path, those of every enclosing `finally`
    block, and the catch-all `_send_status(request_number, SFTP_FAILURE)` in `start_subsystem` add up to exactly one
    — nothing is sent before a statement that can still raise, and no `finally` block answers on its own.  This is
    what the dispatcher model's `raises` case (a single STATUS FAILURE) stands on. -/
theorem source_exception_paths_send_exactly_once :
    ∀ p ∈ branchExcSendCounts, p.2 = [1] ∨ p.2 = [] := by decide +kernel

/-- **The READDIR answer is well-formed by construction**: in `_read_folder` the entry count written into the NAME
    packet and the entries that follow come from the same list — one (filename, longname, attributes) triple per
    element, with nothing in the loop that could drop or add an entry (read from the AST every run).  An entry that
    cannot be encoded therefore raises before anything is sent and is answered by the catch-all (model: `raises`). -/
theorem source_readdir_count_matches_entries : readdirCountMatchesEntries = true := by decide

/-- **The request id comes back as it went out, for every 32-bit value**: no response builder of the source uses
    `Message.add()` / `add_adaptive_int()` — which encode an integer ≥ 0xff000000 as `ff` + mpint — so the id (and
    every count and status code) is a plain 4-byte field (read from the AST every run).  The dispatcher model's
    "same id" (`one_response_same_id_valid_type`, all `id : Nat`) stands on this for ids near 2^32. -/
theorem source_responses_use_fixed_width_fields : responsesUseFixedWidthFields = true := by decide

theorem source_else_branch_emits_status : ∀ ty ∈ elseTypes, ty = cmdStatus := by decide +kernel

/-- **The client never waits for ever** when its server answers every request: any program interleaving pipelined
    writes, plain writes, other requests (stat/listdir/…), set_pipelined and closes on any number of files, the
    server answering at any time. -/
theorem client_never_waits_forever (maxReq nfiles : Nat) (wfaults sfaults : List Nat) (ops : List SftpClient.Op)
    (hops : ∀ op ∈ ops, SftpClient.OpOK nfiles op) :
    ∀ r ∈ (SftpClient.runOps (SftpClient.init maxReq nfiles wfaults sfaults) ops).2, r ≠ .hang :=
  (SftpClient.runOps_init_good maxReq nfiles wfaults sfaults ops hops).1

/-- **Every answer for an outstanding request completes exactly that request, in whatever order answers arrive**:
    the model's `asyncResponse` removes the answered number from the file's `_reqs` wherever it stands, and
    `client_never_waits_forever` quantifies over programs in which answered requests overtake each other
    (`Op.deliver k`).  That the code does the same — `if num in self._reqs: self._reqs.remove(num)`, membership in
    the whole collection, not a comparison with the oldest entry — is read from the AST of
    `SFTPFile._async_response` on every run. -/
theorem source_write_status_matched_by_id : writeStatusMatchedById = true := by decide

/-! ## listdir_iter: read-ahead rounds -/

/-- the rounds model instantiated with what the AST of `SFTPClient.listdir_iter` says about the batch list -/
def listdirCfg (readAheads perReply : Nat) : ListdirIter.Cfg := ⟨readAheads, perReply, listdirIterResetsBatch⟩

/-- **listdir_iter ends and yields every entry exactly once**: for every `read_aheads` ≥ 1, every batch size of the
    server's answers ≥ 1 and every directory size, each round awaits exactly the answers to the requests it sent
    (the pending set is empty again after the round), so the iteration never waits for an answer that is not coming,
    and it stops at the EOF status having yielded all `entries` entries and nothing else.  Depends on the source fact
    that the list of awaited ids is re-initialised inside the round loop (read from the AST every run). -/
theorem listdir_iter_complete (readAheads perReply entries fuel : Nat) (hk : 0 < readAheads) (hp : 0 < perReply)
    (hf : entries < fuel) :
    ListdirIter.listdirIter (listdirCfg readAheads perReply) entries fuel = .done entries := by
  have hsrc : listdirIterResetsBatch = true := by decide
  have := ListdirIter.run_complete (listdirCfg readAheads perReply) hsrc hk hp fuel entries 0 0 hf
  simpa [ListdirIter.listdirIter] using this

/-- why the source fact matters: without the reset (40 entries, `read_aheads` = 2, 16 per answer) the second round
    awaits four answers for two requests: the iteration hangs (having yielded only what it read so far). -/
theorem listdir_iter_without_reset_hangs_witness :
    ListdirIter.listdirIter ⟨2, 16, false⟩ 40 100 = .hang 40 := by decide

/-! ## the client's lock under channel back-pressure -/

/-- the lock/back-pressure model instantiated with what the AST of `SFTPClient._async_request` says about where the
    packet is sent (`sendUnderLock` is false iff `_send_packet` is called outside the `self._lock` region) -/
def srcCfg (capReq ta capAns tb : Nat) : ClientLock.Cfg := ⟨capReq, ta, capAns, tb, sendUnderLock⟩

/-- **No deadlock under back-pressure.**  A background sender (prefetch thread), the reader and the server over a
    flow-controlled channel: for all window sizes and adjustment thresholds (threshold ≤ window, as in paramiko),
    any number of requests and any schedule — as long as not everything has been sent, answered and collected, some
    party can move: the sender never blocks in `send()` while it holds `_lock`, so the reader can always take the
    lock for the packet it has read, which re-opens the windows.  Depends on the source fact "the packet is sent
    outside the lock region" (regenerated from the AST every run). -/
theorem client_never_blocks_under_backpressure (capReq ta capAns tb n : Nat)
    (hc : ClientLock.CfgOK (srcCfg capReq ta capAns tb)) (acts : List ClientLock.Act)
    (hnd : ¬ ClientLock.Done (ClientLock.run (srcCfg capReq ta capAns tb) (ClientLock.init (srcCfg capReq ta capAns tb) n) acts)) :
    ∃ a, (ClientLock.step (srcCfg capReq ta capAns tb)
      (ClientLock.run (srcCfg capReq ta capAns tb) (ClientLock.init (srcCfg capReq ta capAns tb) n) acts) a).isSome = true := by
  have hsrc : sendUnderLock = false := by decide
  have hns : (srcCfg capReq ta capAns tb).sendUnderLock = false := hsrc
  exact ClientLock.not_done_enabled hc hns (ClientLock.run_wf hns (ClientLock.init_wf hc n) acts) hnd

/-- …and every step uses up work (8 per request not yet issued, 5 per request queued at the server, 4 for the answer
    the server holds, 3 per queued answer, 1–2 for lock phases): the session finishes within `mu` steps. -/
theorem backpressure_steps_decrease_work (capReq ta capAns tb n : Nat)
    (hc : ClientLock.CfgOK (srcCfg capReq ta capAns tb)) (acts : List ClientLock.Act) (a : ClientLock.Act) (s' : ClientLock.St)
    (h : ClientLock.step (srcCfg capReq ta capAns tb)
      (ClientLock.run (srcCfg capReq ta capAns tb) (ClientLock.init (srcCfg capReq ta capAns tb) n) acts) a = some s') :
    ClientLock.mu s' < ClientLock.mu
      (ClientLock.run (srcCfg capReq ta capAns tb) (ClientLock.init (srcCfg capReq ta capAns tb) n) acts) := by
  have hsrc : sendUnderLock = false := by decide
  have hns : (srcCfg capReq ta capAns tb).sendUnderLock = false := hsrc
  exact ClientLock.step_decreases hns (ClientLock.run_wf hns (ClientLock.init_wf hc n) acts) h

/-- why the source fact matters: with the packet sent while the lock is held (windows 3 and 2 packets, thresholds 2,
    8 requests) this schedule ends in a state where nothing is done and nobody can move — the sender sits in
    `send()` holding the lock, the server cannot deliver its answer, the reader has a packet and waits for the lock. -/
theorem send_under_lock_deadlocks_witness :
    let cfg : ClientLock.Cfg := ⟨3, 2, 2, 2, true⟩
    let s := ClientLock.run cfg (ClientLock.init cfg 8)
      [.sAcquire, .sSend, .sAcquire, .sSend, .sAcquire, .sSend, .sAcquire, .srvTake, .srvSend, .srvTake, .sSend,
       .sAcquire, .sSend, .sAcquire, .srvSend, .srvTake, .rRecv]
    ClientLock.stuck cfg s = true ∧ s.remaining = 3 ∧ s.lock = some .sender ∧ s.rpc = .needLock := by decide

/-- non-vacuity: the same schedule with the send outside the lock is not stuck -/
example :
    let cfg : ClientLock.Cfg := ⟨3, 2, 2, 2, false⟩
    ClientLock.stuck cfg (ClientLock.run cfg (ClientLock.init cfg 8)
      [.sAcquire, .sRelease, .sSend, .sAcquire, .sRelease, .sSend, .sAcquire, .sRelease, .sSend, .sAcquire, .srvTake,
       .srvSend, .srvTake, .rRecv]) = false := by decide

/-- non-vacuity: FSETSTAT on an unknown handle (answered with packet type 5 before the fix) -/
example : serve cmdFsetstat 7 ⟨.none, true, false, .other, false, .ok⟩ = [(cmdStatus, 7, .fixed sftpBadMessage)] := by
  decide

example : serve 77 9 ⟨.none, true, false, .other, false, .ok⟩ = [(cmdStatus, 9, .fixed sftpFailure)] := by decide

end PV.Props.C30
