/-
  C40 — SSH config lookup follows OpenSSH first-obtained-value semantics.
  Model: PV/Model/Config.lean (helpers: PV/Model/ConfigLemmas.lean);
  token table / replacement order generated from config.py: PV/Generated/C40.lean.

  First obtained is proved in two readings.  For every config without `Match exec`: first in the order in which
  `_lookup` visits the blocks that apply when visited (`Match host` / `user` / `final` depend on the options obtained
  so far and on the pass).  For configs all of whose blocks are `Host` blocks or `Match` blocks with pass-invariant
  criteria (all / originalhost / localuser / canonical, negations included) — `StaticBlock` — that order is the file
  order.  `Match exec` and hostname canonicalisation are not modelled.
-/
import PV.Model.ConfigLemmas
namespace PV.Props.C40
open PV.Config

/-! ## Host patterns: "some pattern matches and no negated pattern does" -/

private theorem patternLoop_iff (t : String) (ps : List String) (m : Bool) :
    patternLoop t ps m = true ↔
      (m = true ∨ ∃ p ∈ ps, fnmatch t p = true) ∧
      ¬ ∃ p ∈ ps, startsWithChar p '!' = true ∧ fnmatch t (dropFirst p) = true := by
  induction ps generalizing m with
  | nil => simp [patternLoop]
  | cons p ps ih =>
    -- a negated pattern that matches decides at once; otherwise `p` only adds to "some pattern matched"
    simp only [patternLoop, List.mem_cons, exists_eq_or_imp, not_or, Bool.and_eq_true]
    by_cases hneg : startsWithChar p '!' = true ∧ fnmatch t (dropFirst p) = true
    · rw [if_pos hneg]
      exact iff_of_false Bool.false_ne_true fun h => h.2.1 hneg
    · rw [if_neg hneg]
      by_cases hpos : fnmatch t p = true
      · rw [if_pos hpos, ih]
        exact ⟨fun h => ⟨.inr (.inl hpos), hneg, h.2⟩, fun h => ⟨.inl rfl, h.2.2⟩⟩
      · rw [if_neg hpos, ih]
        exact ⟨fun h => ⟨h.1.imp_right .inr, hneg, h.2⟩,
          fun h => ⟨h.1.imp_right fun h' => h'.resolve_left hpos, h.2.2⟩⟩

/-- **A `Host` block applies exactly when some pattern matches and no negated pattern does.** -/
theorem host_applies_iff (patterns : List String) (target : String) :
    patternMatches patterns target = true ↔
      (∃ p ∈ patterns, fnmatch target p = true) ∧
      ¬ ∃ p ∈ patterns, startsWithChar p '!' = true ∧ fnmatch target (dropFirst p) = true := by
  unfold patternMatches
  rw [patternLoop_iff]
  simp

theorem glob_star (n : List Char) : globMatch ['*'] n = true := by
  have : ∀ n : List Char, starMatch (fun m : List Char => m.isEmpty) n = true := by
    intro n
    induction n with
    | nil => simp [starMatch]
    | cons c cs ih => simp [starMatch, ih]
  simp [globMatch, this]

theorem glob_literal (p n : List Char) (hp : ∀ c ∈ p, c ≠ '*' ∧ c ≠ '?') :
    globMatch p n = true ↔ p = n := by
  induction p generalizing n with
  | nil => cases n <;> simp [globMatch]
  | cons a as ih =>
    have ha := hp a (by simp)
    have has : ∀ c ∈ as, c ≠ '*' ∧ c ≠ '?' := fun c hc => hp c (by simp [hc])
    have h1 : (a == '*') = false := by simpa using ha.1
    have h2 : (a == '?') = false := by simpa using ha.2
    cases n with
    | nil => simp [globMatch, h1]
    | cons c cs =>
      simp only [globMatch, h1, h2, Bool.false_eq_true, if_false, Bool.false_or, Bool.and_eq_true, beq_iff_eq,
        ih cs has, List.cons.injEq]

example : fnmatch "web1.example.com" "*.example.com" = true := by decide +kernel
example : fnmatch "web10" "web?" = false := by decide +kernel
example : patternMatches ["web*", "!web2"] "web2" = false ∧ patternMatches ["web*", "!web2"] "web1" = true := by
  decide +kernel

/-! ## inside one block: the first value of a keyword counts (`ProxyCommand none` included) -/

/-- the option lines of one block, parsed -/
def blockConfig (kvs : List (String × String)) : Dict := kvs.foldl (fun c kv => addKV c kv.1 kv.2) []

/-- what a line contributes for an ordinary (single-valued) keyword -/
def scalarVal (k v : String) : Val :=
  if k == "proxycommand" && lower v == "none" then .none else .str (unquote v)

private theorem addKV_cases (cfg : Dict) (key value : String) :
    addKV cfg key value = cfg ∨ ∃ x, addKV cfg key value = cfg.set (lower key) x := by
  unfold addKV
  simp only
  split
  · split
    · exact Or.inl rfl
    · exact Or.inr ⟨_, rfl⟩
  · split
    · split <;> exact Or.inr ⟨_, rfl⟩
    · split
      · exact Or.inl rfl
      · exact Or.inr ⟨_, rfl⟩

private theorem addKV_get_other (cfg : Dict) (key value k : String) (h : k ≠ lower key) :
    (addKV cfg key value).get k = cfg.get k := by
  rcases addKV_cases cfg key value with h' | ⟨x, h'⟩ <;> rw [h']
  exact Dict.get_set_other _ _ _ _ h

private theorem addKV_get_scalar (cfg : Dict) (key value : String) (hk : listKeys.contains (lower key) = false) :
    (addKV cfg key value).get (lower key) =
      if cfg.has (lower key) then cfg.get (lower key) else some (scalarVal (lower key) value) := by
  unfold addKV scalarVal
  simp only [hk, Bool.false_eq_true, if_false]
  split
  · split
    · rfl
    · exact Dict.get_set_same _ _ _
  · split
    · rfl
    · exact Dict.get_set_same _ _ _

/-- **Within a block the first value of a keyword is the one that counts** — for every ordinary keyword, including
`ProxyCommand` whose value `none` (any case) is stored as `None` only when it is the first ProxyCommand of the block
(the defect fixed in 080715c: a later `ProxyCommand none` used to overwrite an earlier command). -/
theorem block_first_value (kvs : List (String × String)) (k : String) (hk : listKeys.contains k = false) :
    (blockConfig kvs).get k = (kvs.find? (fun kv => lower kv.1 == k)).map (fun kv => scalarVal k kv.2) := by
  unfold blockConfig
  rw [List.find?_eq_findSome?_guard, List.map_findSome?]
  refine (get_foldl_first _ _ k kvs (fun d kv _ => ?_) []).trans Option.none_or
  by_cases hkey : lower kv.1 = k
  · subst hkey
    rw [addKV_get_scalar _ _ _ hk, Dict.get_or]
    simp [Option.guard]
  · rw [addKV_get_other _ _ _ _ (Ne.symm hkey)]
    simp [Option.guard, hkey]

private theorem addKV_get_list (cfg : Dict) (key value : String) (hk : listKeys.contains (lower key) = true) :
    (addKV cfg key value).get (lower key) = some (.list (listOf (cfg.get (lower key)) ++ [unquote value])) := by
  have hpc : (lower key == "proxycommand") = false := by
    simp only [listKeys, List.contains_cons, List.contains_nil, Bool.or_false, Bool.or_eq_true, beq_iff_eq] at hk
    rcases hk with h | h | h <;> rw [h] <;> decide
  unfold addKV
  simp only [hpc, Bool.false_and, Bool.false_eq_true, if_false, hk, if_true]
  cases hc : cfg.get (lower key) with
  | none => simp [Dict.get_set_same, listOf]
  | some v =>
    cases v with
    | list l => simp [Dict.get_set_same, listOf]
    | str s => simp [Dict.get_set_same, listOf]
    | none => simp [Dict.get_set_same, listOf]

private theorem foldl_addKV_list (kvs : List (String × String)) (acc : Dict) (k : String)
    (hk : listKeys.contains k = true) :
    (kvs.foldl (fun c kv => addKV c kv.1 kv.2) acc).get k =
      if (kvs.filter (fun kv => lower kv.1 == k)).isEmpty then acc.get k
      else some (.list (listOf (acc.get k) ++ (kvs.filter (fun kv => lower kv.1 == k)).map (fun kv => unquote kv.2))) := by
  induction kvs generalizing acc with
  | nil => simp
  | cons kv rest ih =>
    simp only [List.foldl_cons, ih]
    by_cases hkey : lower kv.1 = k
    · subst hkey
      rw [addKV_get_list _ _ _ hk]
      simp only [List.filter_cons, BEq.rfl, if_true, List.isEmpty_cons, Bool.false_eq_true, if_false, listOf,
        List.map_cons, List.append_assoc, List.singleton_append]
      split
      · rename_i he
        rw [List.isEmpty_iff] at he
        simp [he]
      · rfl
    · have hne : k ≠ lower kv.1 := fun e => hkey e.symm
      rw [addKV_get_other _ _ _ _ hne]
      have : (lower kv.1 == k) = false := by simpa using hkey
      simp only [List.filter_cons, this, Bool.false_eq_true, if_false]

/-- the multi-valued keywords (IdentityFile, LocalForward, RemoteForward) keep every value of the block, in order -/
theorem block_list_values (kvs : List (String × String)) (k : String) (hk : listKeys.contains k = true) :
    (blockConfig kvs).get k =
      if (kvs.filter (fun kv => lower kv.1 == k)).isEmpty then none
      else some (.list ((kvs.filter (fun kv => lower kv.1 == k)).map (fun kv => unquote kv.2))) := by
  unfold blockConfig
  rw [foldl_addKV_list kvs [] k hk]
  simp [Dict.get_nil, listOf]

example : blockConfig [("ProxyCommand", "ssh gw"), ("User", "\"bob\""), ("PROXYCOMMAND", "None"), ("user", "eve")]
    = [("proxycommand", .str "ssh gw"), ("user", .str "bob")] := by decide +kernel
example : blockConfig [("ProxyCommand", "NONE"), ("proxycommand", "ssh gw"), ("IdentityFile", "a"), ("identityfile", "a")]
    = [("proxycommand", .none), ("identityfile", .list ["a", "a"])] := by decide +kernel

/-! ## the parse loop; parsed configs have duplicate-free keys (a hypothesis of the lookup theorems) -/

private theorem addKV_nodup (cfg : Dict) (key value : String) (h : NodupKeys cfg) : NodupKeys (addKV cfg key value) := by
  rcases addKV_cases cfg key value with h' | ⟨x, h'⟩ <;> rw [h']
  · exact h
  · exact h.set _ _

/-- the Host patterns a line contributes -/
def hostPatterns : Line → List String
  | .host ps => ps
  | _ => []

private theorem parseLoop_cons_ok {l : Line} {ls : List Line} {st st' : ParseState}
    (h : parseLoop (l :: ls) st = .ok st') : ∃ st1, parseStep st l = .ok st1 ∧ parseLoop ls st1 = .ok st' := by
  rw [parseLoop] at h
  split at h
  · cases h
  · exact ⟨_, ‹_›, h⟩

private theorem parseStep_ok {st st1 : ParseState} {l : Line} (h : parseStep st l = .ok st1) :
    (∃ k v, hostPatterns l = [] ∧ st1.done = st.done ∧ st1.context.host = st.context.host ∧
      st1.context.config = addKV st.context.config k v) ∨
    (st1.done = st.done ++ [st.context] ∧ st1.context.config = [] ∧
      st1.context.host.getD [] = hostPatterns l) := by
  cases l with
  | host ps => cases h; exact Or.inr ⟨rfl, rfl, rfl⟩
  | mtch toks =>
    rw [parseStep] at h
    split at h
    · cases h
    · cases h; exact Or.inr ⟨rfl, rfl, rfl⟩
  | kv k v =>
    cases h
    -- `rfl` at default transparency would unfold `addKV` before it reduces the projection
    exact Or.inl ⟨k, v, rfl, rfl, rfl, by with_reducible rfl⟩

private theorem parse_ok {lines : List Line} {blocks : List Block} (h : parse lines = .ok blocks) :
    ∃ st, parseLoop lines { done := [], context := { host := some ["*"], crits := none, config := [] } } = .ok st ∧
      blocks = st.done ++ [st.context] := by
  rw [parse] at h
  split at h
  · cases h
  · cases h; exact ⟨_, ‹_›, rfl⟩

private theorem parseLoop_nodup (lines : List Line) (st st' : ParseState) (h : parseLoop lines st = .ok st')
    (hst : ∀ b ∈ st.done ++ [st.context], NodupKeys b.config) :
    ∀ b ∈ st'.done ++ [st'.context], NodupKeys b.config := by
  induction lines generalizing st with
  | nil => cases h; exact hst
  | cons l ls ih =>
    obtain ⟨st1, hs, hl⟩ := parseLoop_cons_ok h
    refine ih st1 hl fun b hb => ?_
    rcases parseStep_ok hs with ⟨k, v, _, hd, _, hc⟩ | ⟨hd, hc, _⟩
    · rcases List.mem_append.mp hb with hb | hb
      · exact hst b (List.mem_append_left _ (hd ▸ hb))
      · rw [List.mem_singleton.mp hb, hc]
        exact addKV_nodup _ _ _ (hst _ (List.mem_append_right _ List.mem_cons_self))
    · rcases List.mem_append.mp hb with hb | hb
      · exact hst b (hd ▸ hb)
      · rw [List.mem_singleton.mp hb, hc]; exact NodupKeys.nil

theorem parse_nodup (lines : List Line) (blocks : List Block) (h : parse lines = .ok blocks) :
    ∀ b ∈ blocks, NodupKeys b.config := by
  obtain ⟨st, hl, rfl⟩ := parse_ok h
  refine parseLoop_nodup lines _ st hl fun b hb => ?_
  rw [List.mem_singleton.mp hb]; exact NodupKeys.nil

/-! ## what `lookup` obtains, for every config: first value in visiting order

`Match host`, `Match user` and `Match final` are evaluated against the options obtained *so far* and depend on the
pass, so "the first block that applies" has to be read dynamically: `appliedIn` lists the configs of the blocks that
apply **at the moment they are visited**.  Both passes and the HostName default then amount to one merge, in the
order: first pass, the default `HostName = <looked-up name>`, second pass. -/

/-- the configs of the blocks that apply when `_lookup` visits them (options evolve as blocks are merged) -/
def appliedIn (env : Env) (hostname : String) (canonical final : Bool) : List Block → Dict → Except Err (List Dict)
  | [], _ => .ok []
  | b :: bs, opts =>
    match blockApplies env b hostname canonical final opts with
    | .error e => .error e
    | .ok true =>
      match appliedIn env hostname canonical final bs (mergeBlock opts b.config) with
      | .error e => .error e
      | .ok cfgs => .ok (b.config :: cfgs)
    | .ok false => appliedIn env hostname canonical final bs opts

/-- a `_lookup` pass merges exactly the configs of the blocks that applied when visited, in order -/
theorem lookupPass_eq_applied (env : Env) (hostname : String) (canonical final : Bool) (blocks : List Block)
    (opts : Dict) :
    lookupPass env hostname canonical final blocks opts =
      match appliedIn env hostname canonical final blocks opts with
      | .error e => .error e
      | .ok cfgs => .ok (mergeAll opts cfgs) := by
  induction blocks generalizing opts with
  | nil => rfl
  | cons b bs ih =>
    simp only [lookupPass, appliedIn]
    cases hb : blockApplies env b hostname canonical final opts with
    | error e => rfl
    | ok r =>
      cases r with
      | false => exact ih opts
      | true =>
        simp only
        rw [ih]
        cases appliedIn env hostname canonical final bs (mergeBlock opts b.config) <;> rfl

private theorem appliedIn_mem (env : Env) (hostname : String) (canonical final : Bool) (blocks : List Block)
    (opts : Dict) (cfgs : List Dict) (h : appliedIn env hostname canonical final blocks opts = .ok cfgs) :
    ∀ c ∈ cfgs, ∃ b ∈ blocks, c = b.config := by
  induction blocks generalizing opts cfgs with
  | nil => cases h; simp
  | cons b bs ih =>
    simp only [appliedIn] at h
    split at h
    · cases h
    · split at h
      · cases h
      · rename_i cfgs' hr
        cases h
        intro c hc
        rcases List.mem_cons.mp hc with rfl | hc
        · exact ⟨b, List.mem_cons_self, rfl⟩
        · obtain ⟨b', hb', he⟩ := ih _ cfgs' hr c hc
          exact ⟨b', List.mem_cons_of_mem b hb', he⟩
    · intro c hc
      obtain ⟨b', hb', he⟩ := ih opts cfgs h c hc
      exact ⟨b', List.mem_cons_of_mem b hb', he⟩

/-- the statement's rule for an ordinary option: the value from the first applying block that has it -/
def firstObtained (cfgs : List Dict) (k : String) : Option Val := cfgs.findSome? (fun c => c.get k)

/-- the statement's rule for IdentityFile: every file named by an applying block, first occurrences only -/
def identityFiles (cfgs : List Dict) : List String :=
  extendDedup [] (cfgs.flatMap fun c => listOf (c.get "identityfile"))

theorem identityFiles_nodup (cfgs : List Dict) : (identityFiles cfgs).Nodup :=
  nodup_extendDedup _ _ List.nodup_nil

theorem mem_identityFiles (cfgs : List Dict) (x : String) :
    x ∈ identityFiles cfgs ↔ ∃ c ∈ cfgs, x ∈ listOf (c.get "identityfile") := by
  simp [identityFiles, mem_extendDedup]

private theorem get_mergeAll_nil (cfgs : List Dict) (hn : ∀ c ∈ cfgs, NodupKeys c) (k : String)
    (hk : k ≠ "identityfile") : (mergeAll [] cfgs).get k = firstObtained cfgs k :=
  (mergeAll_get [] cfgs k hk hn).trans Option.none_or

/-- the options after the first pass and the HostName default -/
def afterFirstPass (a1 : List Dict) (hostname : String) : Dict :=
  let o1 := mergeAll [] a1
  if o1.has "hostname" then o1 else o1.set "hostname" (.str hostname)

private theorem afterFirstPass_eq (a1 : List Dict) (hostname : String) :
    afterFirstPass a1 hostname = mergeAll [] (a1 ++ [[("hostname", .str hostname)]]) := by
  rw [mergeAll_append]; rfl

private theorem afterFirstPass_get (a1 : List Dict) (hostname : String) (hn : ∀ c ∈ a1, NodupKeys c) (k : String)
    (hk : k ≠ "identityfile") (hkh : k ≠ "hostname") : (afterFirstPass a1 hostname).get k = firstObtained a1 k := by
  have : afterFirstPass a1 hostname = mergeKey (mergeAll [] a1) "hostname" (.str hostname) := rfl
  rw [this, mergeKey_get_other _ _ _ _ hkh, get_mergeAll_nil a1 hn k hk]

/-- the two passes of `lookup` and the HostName default between them are one merge -/
theorem lookupOptions_eq_merge (env : Env) (blocks : List Block) (hostname : String) (a1 a2 : List Dict)
    (h1 : appliedIn env hostname false false blocks [] = .ok a1)
    (hcanon : canonRequested (afterFirstPass a1 hostname) = false)
    (hdots : (afterFirstPass a1 hostname).has "canonicalizemaxdots" = false)
    (h2 : appliedIn env hostname false true blocks (afterFirstPass a1 hostname) = .ok a2) :
    lookupOptions env blocks hostname = .ok (mergeAll [] (a1 ++ [[("hostname", .str hostname)]] ++ a2)) := by
  rw [mergeAll_append, ← afterFirstPass_eq]
  unfold lookupOptions
  rw [lookupPass_eq_applied, h1]
  simp only
  rw [show (if (mergeAll [] a1).has "hostname" then mergeAll [] a1
        else (mergeAll [] a1).set "hostname" (.str hostname)) = afterFirstPass a1 hostname from rfl]
  rw [hcanon, hdots]
  simp only [Bool.or_self, Bool.false_eq_true, if_false]
  rw [lookupPass_eq_applied, h2]

private theorem nodupKeys_merged {a1 a2 : List Dict} (hostname : String) (hn1 : ∀ c ∈ a1, NodupKeys c)
    (hn2 : ∀ c ∈ a2, NodupKeys c) : ∀ c ∈ a1 ++ [[("hostname", .str hostname)]] ++ a2, NodupKeys c := by
  intro c hc
  simp only [List.mem_append, List.mem_singleton] at hc
  rcases hc with (hc | rfl) | hc
  · exact hn1 c hc
  · exact NodupKeys.nil.set _ _
  · exact hn2 c hc

/-- IdentityFile after the merge: the HostName default names none -/
private theorem identityfile_merged (a1 a2 : List Dict) (hostname : String) (hn1 : ∀ c ∈ a1, NodupKeys c)
    (hn2 : ∀ c ∈ a2, NodupKeys c) :
    (mergeAll [] (a1 ++ [[("hostname", .str hostname)]] ++ a2)).get "identityfile" =
      (if (a1 ++ a2).all (fun c => (c.get "identityfile").isNone) then none
       else some (.list (identityFiles (a1 ++ a2)))) := by
  rw [mergeAll_get_identityfile [] _ (nodupKeys_merged hostname hn1 hn2)]
  simp only [identityFiles, List.all_append, List.flatMap_append, List.all_cons, List.all_nil, List.flatMap_cons,
    List.flatMap_nil, show Dict.get [("hostname", Val.str hostname)] "identityfile" = none from rfl,
    show listOf none = [] from rfl, Option.isNone_none, Bool.and_true, List.append_nil]
  rfl

/-- **First obtained, every config.**  Let `a1` be the configs of the blocks that apply when the first pass visits
them and `a2` those of the second (`final`) pass, which starts from the first pass' options plus the HostName
default.  Then for every ordinary key the dict that `lookup` expands holds the value of the first config that has the
key in the order  `a1`, the default `HostName = <looked-up name>`, `a2`;  `identityfile` is the duplicate-free
accumulation over `a1 ++ a2`.  Holds for all Match criteria except `exec` (for which the model has no verdict). -/
theorem lookup_first_obtained_visiting (env : Env) (blocks : List Block) (hostname : String)
    (hn : ∀ b ∈ blocks, NodupKeys b.config) (a1 a2 : List Dict)
    (h1 : appliedIn env hostname false false blocks [] = .ok a1)
    (hcanon : canonRequested (afterFirstPass a1 hostname) = false)
    (hdots : (afterFirstPass a1 hostname).has "canonicalizemaxdots" = false)
    (h2 : appliedIn env hostname false true blocks (afterFirstPass a1 hostname) = .ok a2) :
    ∃ opts, lookupOptions env blocks hostname = .ok opts ∧
      (∀ k, k ≠ "identityfile" →
        opts.get k = firstObtained (a1 ++ [[("hostname", .str hostname)]] ++ a2) k) ∧
      opts.get "identityfile" =
        (if (a1 ++ a2).all (fun c => (c.get "identityfile").isNone) then none
         else some (.list (identityFiles (a1 ++ a2)))) := by
  have hn1 : ∀ c ∈ a1, NodupKeys c := by
    intro c hc
    obtain ⟨b, hb, rfl⟩ := appliedIn_mem env hostname false false blocks [] a1 h1 c hc
    exact hn b hb
  have hn2 : ∀ c ∈ a2, NodupKeys c := by
    intro c hc
    obtain ⟨b, hb, rfl⟩ := appliedIn_mem env hostname false true blocks _ a2 h2 c hc
    exact hn b hb
  exact ⟨_, lookupOptions_eq_merge env blocks hostname a1 a2 h1 hcanon hdots h2,
    get_mergeAll_nil _ (nodupKeys_merged hostname hn1 hn2), identityfile_merged a1 a2 hostname hn1 hn2⟩

/-! ## first obtained in file order, for configs whose blocks are Host blocks or pass-invariant Match blocks -/

/-- a Match criterion whose verdict depends neither on the options obtained so far nor on the pass -/
def StaticCrit (c : Crit) : Prop :=
  c.type = "all" ∨ c.type = "originalhost" ∨ c.type = "localuser" ∨ c.type = "canonical"

/-- a Host block, or a Match block with pass-invariant criteria only -/
def StaticBlock (b : Block) : Prop := ∀ c ∈ b.crits.getD [], StaticCrit c

/-- whether a static block applies to `hostname` (evaluated with no options, first pass) -/
def applies (env : Env) (hostname : String) (canonical : Bool) (b : Block) : Bool :=
  match blockApplies env b hostname canonical false [] with
  | .ok r => r
  | .error _ => false

private theorem doesMatchLoop_static (env : Env) (target : String) (canonical final : Bool) (options : Dict)
    (cs : List Crit) (hs : ∀ c ∈ cs, StaticCrit c) (m : Bool) :
    doesMatchLoop env target canonical final options cs m = doesMatchLoop env target canonical false [] cs m ∧
    ∃ r, doesMatchLoop env target canonical false [] cs m = .ok r := by
  induction cs generalizing m with
  | nil => exact ⟨rfl, m, rfl⟩
  | cons c cs ih =>
    have hc := hs c (by simp)
    have ih' := fun m => ih (fun c' hc' => hs c' (by simp [hc'])) m
    rcases hc with h | h | h | h
    · simp [doesMatchLoop, h]
    all_goals
      simp only [doesMatchLoop, h, String.reduceBEq, Bool.false_and, Bool.true_and, Bool.false_eq_true, if_false,
        if_true]
      split
      · exact ⟨rfl, false, rfl⟩
      · exact ih' true

/-- applicability of a static block is the same in both passes and whatever has been obtained so far -/
theorem blockApplies_static (env : Env) (b : Block) (hb : StaticBlock b) (hostname : String)
    (canonical final : Bool) (options : Dict) :
    blockApplies env b hostname canonical final options = .ok (applies env hostname canonical b) := by
  unfold applies blockApplies
  split
  · rfl
  · obtain ⟨h1, r, h2⟩ := doesMatchLoop_static env hostname canonical final options (b.crits.getD []) hb false
    unfold doesMatch
    rw [h1, h2]

/-- a static block applies when visited iff it applies at all, so the visiting order is the file order -/
theorem appliedIn_static (env : Env) (hostname : String) (canonical final : Bool) (blocks : List Block)
    (hs : ∀ b ∈ blocks, StaticBlock b) (opts : Dict) :
    appliedIn env hostname canonical final blocks opts =
      .ok ((blocks.filter (applies env hostname canonical)).map (·.config)) := by
  induction blocks generalizing opts with
  | nil => rfl
  | cons b bs ih =>
    have ihb := ih (fun b' hb' => hs b' (List.mem_cons_of_mem b hb'))
    simp only [appliedIn, blockApplies_static env b (hs b List.mem_cons_self), List.filter_cons]
    cases applies env hostname canonical b with
    | true => simp only [ihb, if_true, List.map_cons]
    | false => simp only [ihb, Bool.false_eq_true, if_false]

/-- one `_lookup` pass over static blocks merges the configs of exactly the applying blocks, in file order -/
theorem lookupPass_static (env : Env) (hostname : String) (canonical final : Bool) (blocks : List Block)
    (hs : ∀ b ∈ blocks, StaticBlock b) (opts : Dict) :
    lookupPass env hostname canonical final blocks opts =
      .ok (mergeAll opts ((blocks.filter (applies env hostname canonical)).map (·.config))) := by
  rw [lookupPass_eq_applied, appliedIn_static env hostname canonical final blocks hs]

/-- the configs of the blocks that apply to `hostname`, in file order -/
def applicable (env : Env) (hostname : String) (blocks : List Block) : List Dict :=
  (blocks.filter (applies env hostname false)).map (·.config)

private theorem canonRequested_eq_false (o : Dict)
    (h1 : o.get "canonicalizehostname" ≠ some (.str "yes"))
    (h2 : o.get "canonicalizehostname" ≠ some (.str "always")) : canonRequested o = false := by
  unfold canonRequested
  split
  · rename_i s hs
    rw [hs] at h1 h2
    simp only [ne_eq, Option.some.injEq, Val.str.injEq] at h1 h2
    simp [h1, h2]
  · rfl

/-- both passes see the same blocks, and the second adds nothing new -/
private theorem identityFiles_append_self (A : List Dict) : identityFiles (A ++ A) = identityFiles A := by
  unfold identityFiles
  rw [List.flatMap_append, extendDedup_append]
  exact extendDedup_of_subset _ _ fun x hx => (mem_extendDedup _ _ _).mpr (Or.inr hx)

/-- **First obtained value.**  For a config of static blocks (canonicalisation not requested), the options dict
that `lookup` expands holds, for every ordinary key, the value of the first applying block (file order) that
has the key; `hostname` defaults to the looked-up name; `identityfile` is the duplicate-free accumulation over all
applying blocks.  (Both passes and the HostName default included.) -/
theorem lookup_first_obtained (env : Env) (blocks : List Block) (hostname : String)
    (hs : ∀ b ∈ blocks, StaticBlock b) (hn : ∀ b ∈ blocks, NodupKeys b.config)
    (hcanon1 : firstObtained (applicable env hostname blocks) "canonicalizehostname" ≠ some (.str "yes"))
    (hcanon2 : firstObtained (applicable env hostname blocks) "canonicalizehostname" ≠ some (.str "always"))
    (hcanon3 : firstObtained (applicable env hostname blocks) "canonicalizemaxdots" = none) :
    ∃ opts, lookupOptions env blocks hostname = .ok opts ∧ NodupKeys opts ∧
      (∀ k, k ≠ "identityfile" → k ≠ "hostname" → opts.get k = firstObtained (applicable env hostname blocks) k) ∧
      opts.get "hostname" = some ((firstObtained (applicable env hostname blocks) "hostname").getD (.str hostname)) ∧
      opts.get "identityfile" =
        (if (applicable env hostname blocks).all (fun c => (c.get "identityfile").isNone) then none
         else some (.list (identityFiles (applicable env hostname blocks)))) := by
  have hnA : ∀ c ∈ applicable env hostname blocks, NodupKeys c := by
    intro c hc
    simp only [applicable, List.mem_map, List.mem_filter] at hc
    obtain ⟨b, ⟨hb, _⟩, rfl⟩ := hc
    exact hn b hb
  -- both passes visit the applying blocks in file order
  have hA : ∀ final o, appliedIn env hostname false final blocks o = .ok (applicable env hostname blocks) :=
    fun final o => appliedIn_static env hostname false final blocks hs o
  generalize applicable env hostname blocks = A at *
  have hget := fun k hk => get_mergeAll_nil _ (nodupKeys_merged hostname hnA hnA) k hk
  refine ⟨_, lookupOptions_eq_merge env blocks hostname A A (hA _ _) ?_ ?_ (hA _ _),
    mergeAll_nodup _ _ NodupKeys.nil, ?_, ?_, ?_⟩
  · apply canonRequested_eq_false <;>
      rwa [afterFirstPass_get A hostname hnA _ (by decide) (by decide)]
  · rw [Dict.has_false_iff, afterFirstPass_get A hostname hnA _ (by decide) (by decide), hcanon3]
  · intro k hk hkh
    rw [hget k hk]
    unfold firstObtained
    simp only [List.findSome?_append, List.findSome?_cons, List.findSome?_nil, Dict.get_cons, hkh, if_false,
      Dict.get_nil, Option.or_none, Option.or_self]
  · rw [hget "hostname" (by decide)]
    unfold firstObtained
    rw [List.findSome?_append, List.findSome?_append]
    cases List.findSome? (fun c => c.get "hostname") A <;> rfl
  · rw [identityfile_merged A A hostname hnA hnA, List.all_append, Bool.and_self, identityFiles_append_self]

/-- **The statement, from the config text's logical lines to the options `lookup` expands**: for every config
that parses into static blocks and every hostname (canonicalisation not requested). -/
theorem lookupLines_first_obtained (env : Env) (lines : List Line) (blocks : List Block) (hostname : String)
    (hp : parse lines = .ok blocks) (hs : ∀ b ∈ blocks, StaticBlock b)
    (hcanon1 : firstObtained (applicable env hostname blocks) "canonicalizehostname" ≠ some (.str "yes"))
    (hcanon2 : firstObtained (applicable env hostname blocks) "canonicalizehostname" ≠ some (.str "always"))
    (hcanon3 : firstObtained (applicable env hostname blocks) "canonicalizemaxdots" = none) :
    ∃ opts, lookupLines env lines hostname = .ok (expandVariables env opts hostname) ∧
      (∀ k, k ≠ "identityfile" → k ≠ "hostname" → opts.get k = firstObtained (applicable env hostname blocks) k) ∧
      opts.get "hostname" = some ((firstObtained (applicable env hostname blocks) "hostname").getD (.str hostname)) ∧
      opts.get "identityfile" =
        (if (applicable env hostname blocks).all (fun c => (c.get "identityfile").isNone) then none
         else some (.list (identityFiles (applicable env hostname blocks)))) := by
  obtain ⟨opts, h1, _, h3, h4, h5⟩ :=
    lookup_first_obtained env blocks hostname hs (parse_nodup lines blocks hp) hcanon1 hcanon2 hcanon3
  refine ⟨opts, ?_, h3, h4, h5⟩
  simp only [lookupLines, hp, lookup, h1]

/-! ### non-vacuity: a static config with a negated pattern, a Match block and repeated keys -/

def demoLines : List Line :=
  [.kv "User" "global", .host ["web*", "!web2"], .kv "User" "deploy", .kv "IdentityFile" "k1", .kv "IdentityFile" "k1",
   .mtch ["originalhost", "web1,db"], .kv "Port" "2222", .kv "IdentityFile" "k2", .kv "User" "late",
   .host ["*"], .kv "IdentityFile" "k1", .kv "ProxyCommand" "ssh gw", .kv "ProxyCommand" "none"]

def demoEnv : Env := { localUser := "lu", localHost := "lh", fqdn := "lh.example", home := "/home/lu", hashC := fun s => s }

def demoBlocks : List Block :=
  [⟨some ["*"], none, [("user", .str "global")]⟩,
   ⟨some ["web*", "!web2"], none, [("user", .str "deploy"), ("identityfile", .list ["k1", "k1"])]⟩,
   ⟨none, some [⟨"originalhost", some "web1,db", false⟩],
     [("port", .str "2222"), ("identityfile", .list ["k2"]), ("user", .str "late")]⟩,
   ⟨some ["*"], none, [("identityfile", .list ["k1"]), ("proxycommand", .str "ssh gw")]⟩]

/- The concrete instances in this file are checked by evaluating the decision procedure for equality in the
kernel; for `Except` there is none in core. -/
deriving instance DecidableEq for Except

private theorem demo_parse : parse demoLines = .ok demoBlocks := by decide +kernel

example : parse demoLines = .ok demoBlocks := demo_parse
example : ∀ b ∈ demoBlocks, StaticBlock b := by
  intro b hb
  simp only [demoBlocks, List.mem_cons, List.not_mem_nil, or_false] at hb
  rcases hb with rfl | rfl | rfl | rfl <;> simp [StaticBlock, StaticCrit]
example : (applicable demoEnv "web1" demoBlocks).length = 4 ∧ (applicable demoEnv "web2" demoBlocks).length = 2 := by
  decide +kernel
example : lookupLines demoEnv demoLines "web1" = .ok
    [("user", .str "global"), ("identityfile", .list ["k1", "k2"]), ("port", .str "2222"),
     ("proxycommand", .str "ssh gw"), ("hostname", .str "web1")] := by
  rw [lookupLines, demo_parse]; decide +kernel
example : lookupLines demoEnv demoLines "web2" = .ok
    [("user", .str "global"), ("identityfile", .list ["k1"]), ("proxycommand", .str "ssh gw"),
     ("hostname", .str "web2")] := by
  rw [lookupLines, demo_parse]; decide +kernel

/-! ## what the pass-dependent criteria are tested against -/

/-- a block with one criterion that passes iff `p`: it applies iff `p` differs from the criterion's negation flag -/
private theorem ite_shouldFail (p neg : Bool) :
    (if shouldFail p neg = true then (.ok false : Except Err Bool) else .ok true) = .ok (p != neg) := by
  cases p <;> cases neg <;> rfl

/-- `Match [!]host P` is tested against the HostName obtained **so far** (else the looked-up name) -/
theorem match_host_applies (env : Env) (hostname : String) (canonical final : Bool) (opts cfg : Dict)
    (param : String) (neg : Bool) :
    blockApplies env ⟨none, some [⟨"host", some param, neg⟩], cfg⟩ hostname canonical final opts =
      .ok (patternMatchesStr param (orElse (strOf (opts.get "hostname")) hostname) != neg) := by
  simp only [blockApplies, Option.getD_none, patternMatches, patternLoop, Bool.false_eq_true, if_false,
    Option.getD_some, doesMatch, doesMatchLoop,
    show ("host" == "canonical") = false by decide, show ("host" == "final") = false by decide,
    show ("host" == "all") = false by decide, BEq.rfl, if_true, Bool.false_and]
  exact ite_shouldFail _ _

/-- `Match [!]user P` is tested against the User obtained **so far** (else the local user) -/
theorem match_user_applies (env : Env) (hostname : String) (canonical final : Bool) (opts cfg : Dict)
    (param : String) (neg : Bool) :
    blockApplies env ⟨none, some [⟨"user", some param, neg⟩], cfg⟩ hostname canonical final opts =
      .ok (patternMatchesStr param (orElse (strOf (opts.get "user")) env.localUser) != neg) := by
  simp only [blockApplies, Option.getD_none, patternMatches, patternLoop, Bool.false_eq_true, if_false,
    Option.getD_some, doesMatch, doesMatchLoop,
    show ("user" == "canonical") = false by decide, show ("user" == "final") = false by decide,
    show ("user" == "all") = false by decide, show ("user" == "host") = false by decide,
    show ("user" == "originalhost") = false by decide, BEq.rfl, if_true, Bool.false_and]
  exact ite_shouldFail _ _

/-- `Match final` applies in the second pass only (`Match !final` in the first only) -/
theorem match_final_applies (env : Env) (hostname : String) (canonical final : Bool) (opts cfg : Dict) (neg : Bool) :
    blockApplies env ⟨none, some [⟨"final", none, neg⟩], cfg⟩ hostname canonical final opts = .ok (final != neg) := by
  simp only [blockApplies, Option.getD_none, patternMatches, patternLoop, Bool.false_eq_true, if_false,
    Option.getD_some, doesMatch, doesMatchLoop,
    show ("final" == "canonical") = false by decide, BEq.rfl, if_true, Bool.false_and]
  exact ite_shouldFail _ _

/-! ### non-vacuity: a `Match host` block that applies only once HostName is known, and a `Match final` block -/

def dynBlocks : List Block :=
  [⟨some ["*"], none, []⟩,
   ⟨none, some [⟨"host", some "*.example.com", false⟩], [("user", .str "corp")]⟩,
   ⟨some ["web1"], none, [("hostname", .str "web1.example.com"), ("user", .str "late")]⟩,
   ⟨none, some [⟨"final", none, false⟩], [("port", .str "2222"), ("user", .str "final")]⟩]

example : appliedIn demoEnv "web1" false false dynBlocks [] =
    .ok [[], [("hostname", .str "web1.example.com"), ("user", .str "late")]] := by decide +kernel
example : appliedIn demoEnv "web1" false true dynBlocks (afterFirstPass
      [[], [("hostname", .str "web1.example.com"), ("user", .str "late")]] "web1") =
    .ok [[], [("user", .str "corp")], [("hostname", .str "web1.example.com"), ("user", .str "late")],
         [("port", .str "2222"), ("user", .str "final")]] := by decide +kernel
/-- so `user` is "late" (obtained in pass 1) although the `Match host` block stands earlier in the file -/
example : lookupOptions demoEnv dynBlocks "web1" =
    .ok [("hostname", .str "web1.example.com"), ("user", .str "late"), ("port", .str "2222")] := by decide +kernel

/-! ## token expansion: HostName first, every other option sees the expanded HostName -/

/-- the options with HostName expanded (what every other option's `%h` refers to) -/
def withExpandedHostname (env : Env) (cfg : Dict) (target : String) : Dict :=
  match cfg.get "hostname" with
  | some v => cfg.set "hostname" (expandVal env cfg target "hostname" v)
  | none => cfg

/-- HostName admits exactly `%h`, which stands for the looked-up name -/
theorem tokenize_hostname (env : Env) (cfg : Dict) (target value : String) :
    tokenize env cfg target "hostname" value
      = String.ofList (replaceAll "%h".toList target.toList value.toList) := by
  simp [tokenize, allowedTokens, PV.Generated.C40.tokensByConfigKey, PV.Generated.C40.replacementOrder, List.lookup]

/-- **Expansion.**  Whatever the order of the options in the dict: `hostname` is expanded against the looked-up
name, and every other option `k` is expanded by `_tokenize` against the options *with the expanded HostName*
(so `%h` is never replaced by an unexpanded HostName — the defect fixed in 35b26ba); `None` stays `None`,
list values are expanded element-wise, keys without documented tokens are untouched. -/
theorem expandVariables_get (env : Env) (cfg : Dict) (target : String) (hn : NodupKeys cfg) :
    (expandVariables env cfg target).get "hostname"
        = (cfg.get "hostname").map (expandVal env cfg target "hostname") ∧
    ∀ k, k ≠ "hostname" →
      (expandVariables env cfg target).get k
        = (cfg.get k).map (expandVal env (withExpandedHostname env cfg target) target k) := by
  unfold expandVariables
  simp only
  rw [expandKeys_append]
  have hnd : (cfg.map (·.1)).Nodup := hn
  have hfil : (cfg.map (·.1)).filter (· == "hostname")
      = if "hostname" ∈ cfg.map (·.1) then ["hostname"] else [] := filter_eq_of_nodup _ _ hnd
  have hR : expandKeys env target ((cfg.map (·.1)).filter (· == "hostname")) cfg
      = withExpandedHostname env cfg target := by
    rw [hfil]
    unfold withExpandedHostname
    cases hc : cfg.get "hostname" with
    | none =>
      have : "hostname" ∉ cfg.map (·.1) := by
        intro hm
        obtain ⟨v, hv⟩ := (mem_keys_iff cfg "hostname").mp hm
        rw [hc] at hv; cases hv
      simp [this, expandKeys]
    | some v =>
      have : "hostname" ∈ cfg.map (·.1) := (mem_keys_iff cfg "hostname").mpr ⟨v, hc⟩
      simp [this, expandKeys, hc]
  rw [hR]
  have hnd2 : ((cfg.map (·.1)).filter (· != "hostname")).Nodup := hnd.filter _
  have hnh : "hostname" ∉ (cfg.map (·.1)).filter (· != "hostname") := by simp
  have hspec := expandKeys_spec env target (withExpandedHostname env cfg target) _ hnd2 hnh
    (withExpandedHostname env cfg target) ⟨rfl, rfl, rfl⟩
  refine ⟨?_, ?_⟩
  · rw [hspec "hostname"]
    simp only [hnh, if_false]
    unfold withExpandedHostname
    cases hc : cfg.get "hostname" with
    | none => simp [hc]
    | some v => simp [Dict.get_set_same]
  · intro k hk
    rw [hspec k]
    have hget : (withExpandedHostname env cfg target).get k = cfg.get k := by
      unfold withExpandedHostname
      cases cfg.get "hostname" with
      | none => rfl
      | some v => exact Dict.get_set_other _ _ _ _ hk
    rw [hget]
    split
    · rfl
    · rename_i hnot
      have : cfg.get k = none := by
        cases hc : cfg.get k with
        | none => rfl
        | some v =>
          exfalso; apply hnot
          simp only [List.mem_filter, bne_iff_ne, ne_eq]
          exact ⟨(mem_keys_iff cfg k).mpr ⟨v, hc⟩, hk⟩
      simp [this]

/-- the value `%h` gets in every option other than HostName: the expanded HostName -/
theorem percent_h_is_expanded_hostname (env : Env) (cfg : Dict) (target v : String)
    (hv : cfg.get "hostname" = some (.str v)) :
    (withExpandedHostname env cfg target).get "hostname"
      = some (.str (String.ofList (replaceAll "%h".toList target.toList v.toList))) := by
  simp [withExpandedHostname, hv, Dict.get_set_same, expandVal, tokenize_hostname]

example : expandVariables demoEnv
    [("proxycommand", .str "ssh -W %h:%p ~/x"), ("hostname", .str "%h.example.com"), ("port", .str "2222"),
     ("identityfile", .list ["~/.ssh/id_%h", "%d/%u-%r"]), ("user", .str "bob"), ("compression", .str "%h")] "web1"
    = [("proxycommand", .str "ssh -W web1.example.com:2222 /home/lu/x"), ("hostname", .str "web1.example.com"),
       ("port", .str "2222"), ("identityfile", .list ["/home/lu/.ssh/id_web1.example.com", "/home/lu/lu-bob"]),
       ("user", .str "bob"), ("compression", .str "%h")] := by decide +kernel

/-! ## history independence: several lookups on one SSHConfig object -/

/-- **Every lookup depends on its own hostname only.**  For every parsed config and every history of lookups on the
same object — including lookups that raise — the k-th answer is the one-shot answer for the k-th hostname, and the
object is unchanged. -/
theorem lookupSession_spec (env : Env) (blocks : List Block) (hosts : List String) :
    lookupSession env blocks hosts = (blocks, hosts.map (lookup env blocks)) := by
  induction hosts with
  | nil => rfl
  | cons h hs ih => simp [lookupSession, lookupStep, ih]

/-- a lookup that raises (CanonicalizeMaxDots present) between two ordinary ones changes nothing for them -/
example : (lookupSession demoEnv
      [⟨some ["*"], none, [("user", .str "global")]⟩, ⟨some ["bad"], none, [("canonicalizemaxdots", .str "x")]⟩]
      ["a", "bad", "a"]).2
    = [.ok [("user", .str "global"), ("hostname", .str "a")], .error .canonUnsupported,
       .ok [("user", .str "global"), ("hostname", .str "a")]] := by decide +kernel

/-! ## get_hostnames: every Host pattern, for every parseable config -/

private theorem parseLoop_hosts (lines : List Line) (st st' : ParseState)
    (h : parseLoop lines st = .ok st') :
    (st'.done ++ [st'.context]).flatMap (fun b => b.host.getD []) =
      (st.done ++ [st.context]).flatMap (fun b => b.host.getD []) ++ lines.flatMap hostPatterns := by
  induction lines generalizing st with
  | nil => cases h; simp
  | cons l ls ih =>
    obtain ⟨st1, hs, hl⟩ := parseLoop_cons_ok h
    rw [ih st1 hl, List.flatMap_cons, ← List.append_assoc]
    congr 1
    rcases parseStep_ok hs with ⟨k, v, hp, hd, hh, _⟩ | ⟨hd, _, hp⟩
    · simp [hp, hd, hh]
    · simp [hp, hd]

/-- **`get_hostnames()` reports exactly the Host patterns of the file (plus the implicit global `*`), for every
config that parses — Match blocks included; it is a total function (cannot raise).** -/
theorem getHostnames_spec (lines : List Line) (blocks : List Block) (h : parse lines = .ok blocks) (p : String) :
    p ∈ getHostnames blocks ↔ p = "*" ∨ ∃ ps, Line.host ps ∈ lines ∧ p ∈ ps := by
  obtain ⟨st, hl, rfl⟩ := parse_ok h
  unfold getHostnames
  rw [List.mem_eraseDups, parseLoop_hosts lines _ st hl]
  simp only [List.nil_append, List.flatMap_cons, List.flatMap_nil, Option.getD_some, List.append_nil,
    List.mem_append, List.mem_singleton, List.mem_flatMap]
  constructor
  · rintro (h1 | ⟨l, hl1, hl2⟩)
    · exact Or.inl h1
    · cases l with
      | host ps => exact Or.inr ⟨ps, hl1, hl2⟩
      | mtch t => simp [hostPatterns] at hl2
      | kv k v => simp [hostPatterns] at hl2
  · rintro (h1 | ⟨ps, h1, h2⟩)
    · exact Or.inl h1
    · exact Or.inr ⟨Line.host ps, h1, h2⟩

example : parse [.host ["a", "b*"], .mtch ["all"], .kv "User" "u", .host ["!c"]] =
    .ok [⟨some ["*"], none, []⟩, ⟨some ["a", "b*"], none, []⟩, ⟨none, some [⟨"all", none, false⟩], [("user", .str "u")]⟩,
         ⟨some ["!c"], none, []⟩] := by decide +kernel

end PV.Props.C40
