/-
  C23 — Live channel IDs are unique within a transport.
  Model: PV/Model/ChanIds.lean; generated kernel: PV/Generated/C23.lean (translated from the source of
  Transport._next_channel on every run).
-/
import PV.Model.ChanIdsLemmas
import PV.Generated.C23
import PV.Generated.ChanLock
namespace PV.Props.C23
open PV.ChanIds

/-! ## the model is the translated source -/

private theorem loop1_eq_scan (live : Nat → Bool) (fuel c : Nat) :
    PV.Generated.C23.loop1 live fuel c c = (scan live fuel c).map fun id => (id, id) := by
  induction fuel generalizing c with
  | zero => simp [PV.Generated.C23.loop1, scan]
  | succ n ih =>
    simp only [PV.Generated.C23.loop1, scan]
    split
    · exact ih _
    · simp

/-- The hand-written `nextChannel` equals the kernel translated from `Transport._next_channel`
    (result pair in the generated order: new counter, chanid). -/
theorem model_eq_generated (live : Nat → Bool) (c : Nat) :
    PV.Generated.C23.next_channel live M c = (nextChannel live c).map fun r => (r.2, r.1) := by
  unfold PV.Generated.C23.next_channel nextChannel
  simp only [loop1_eq_scan]
  cases scan live M c <;> simp [M]

/-! ## `_next_channel` alone -/

/-- the scan only returns ids that are not live, below 2^24 when it started below 2^24 -/
theorem scan_sound (live : Nat → Bool) (fuel c id : Nat) (h : scan live fuel c = some id) :
    live id = false ∧ (c < M → id < M) := by
  induction fuel generalizing c with
  | zero => simp [scan] at h
  | succ n ih =>
    simp only [scan] at h
    split at h
    · have := ih _ h
      exact ⟨this.1, fun _ => this.2 (Nat.mod_lt _ (by decide))⟩
    · cases h; simp_all

/-- counter arithmetic: from a count that is `c` mod `m`, `(id + m - c) % m` further steps land on `id` -/
private theorem lands (m t c id : Nat) (hid : id < m) (ht : t % m = c) : (t + (id + m - c) % m) % m = id := by
  have hc : c < m := ht ▸ Nat.mod_lt _ (by omega)
  rw [Nat.add_mod, ht, Nat.mod_mod, Nat.add_mod_mod, show c + (id + m - c) = id + m by omega,
    Nat.add_mod_right, Nat.mod_eq_of_lt hid]

private theorem scan_finds (live : Nat → Bool) (fuel : Nat) :
    ∀ (k c : Nat), k < fuel → live ((c + k) % M) = false → c < M → (scan live fuel c).isSome := by
  induction fuel with
  | zero => intro k c hk; omega
  | succ f ih =>
    intro k c hk hl hc
    simp only [scan]
    split
    · rename_i hlive
      cases k with
      | zero => rw [Nat.add_zero, Nat.mod_eq_of_lt hc, hlive] at hl; cases hl
      | succ k =>
        refine ih k _ (by omega) ?_ (Nat.mod_lt _ (by decide))
        rwa [Nat.mod_add_mod, Nat.add_assoc, Nat.add_comm 1 k]
    · rfl

private theorem pigeon : ∀ (n : Nat) (l : List Nat), l.length < n → ∃ x, x < n ∧ x ∉ l := by
  intro n
  induction n with
  | zero => intro l h; omega
  | succ n ih =>
    intro l h
    by_cases hn : n ∈ l
    · have hlen : (l.erase n).length < n := by
        rw [List.length_erase_of_mem hn]
        have : 0 < l.length := List.length_pos_of_mem hn
        omega
      obtain ⟨x, hx, hxl⟩ := ih (l.erase n) hlen
      refine ⟨x, by omega, fun hmem => hxl ?_⟩
      exact (List.mem_erase_of_ne (by omega)).2 hmem
    · exact ⟨n, by omega, hn⟩

/-- sufficient fuel: with a counter below 2^24 and some id below 2^24 not live, 2^24 iterations of the
    `while` loop are enough (the loop of the real code terminates) -/
theorem scan_complete (live : Nat → Bool) (c x : Nat) (hc : c < M) (hx : x < M) (hl : live x = false) :
    (scan live M c).isSome := by
  apply scan_finds live M ((x + M - c) % M) c (Nat.mod_lt _ (by decide)) _ hc
  rw [lands M c c x hx (Nat.mod_eq_of_lt hc)]; exact hl

/-- `_next_channel` terminates whenever fewer than 2^24 ids are live -/
theorem nextChannel_total (s : St) (hc : s.counter < M) (hlen : s.live.length < M) :
    (nextChannel (isLive s) s.counter).isSome := by
  obtain ⟨x, hx, hxl⟩ := pigeon M s.live hlen
  have hl : isLive s x = false := by simp [isLive, hxl]
  have := scan_complete (isLive s) s.counter x hc hx hl
  unfold nextChannel
  cases h : scan (isLive s) M s.counter with
  | none => simp [h] at this
  | some id => simp

/-- the id `_next_channel` returns is not in the channel map and fits in 24 bits; so does the new counter -/
theorem nextChannel_fresh (s : St) (id c' : Nat) (hc : s.counter < M)
    (h : nextChannel (isLive s) s.counter = some (id, c')) :
    id ∉ s.live ∧ id < M ∧ c' < M ∧ c' = (id + 1) % M := by
  unfold nextChannel at h
  cases hs : scan (isLive s) M s.counter with
  | none => simp [hs] at h
  | some i =>
    simp only [hs, Option.some.injEq, Prod.mk.injEq] at h
    obtain ⟨h1, h2⟩ := h
    subst h1
    have := scan_sound _ _ _ _ hs
    refine ⟨by simpa [isLive] using this.1, this.2 hc, ?_, h2.symm⟩
    rw [← h2]; exact Nat.mod_lt _ (by decide)

example : nextChannel (isLive { init 16777214 with live := [16777214, 16777215, 0, 1, 3] }) 16777214 = some (2, 3) := by
  decide +kernel

/-! ## every history of opens, peer opens and closes -/

/-- The invariant of the map.  `ticks` counts every advance of the counter without reduction mod 2^24, so the counter
    is `ticks % M`.  The clause that carries the file is the fifth: an id held between the two lock regions of
    `_parse_channel_open` is the stamp `tp % M` of the tick that produced it, and as long as at most `M` ticks have
    passed since, no allocation can have come round to it — it is not live. -/
def Inv (s : St) : Prop :=
  s.counter < M ∧ s.ticks % M = s.counter ∧ s.live.Nodup ∧ (∀ id ∈ s.live, id < M) ∧
  (∀ p tp, s.pending = some (p, tp) → p = tp % M ∧ tp < s.ticks ∧ p < M ∧ (s.ticks - tp ≤ M → p ∉ s.live)) ∧
  (s.late = false → s.collisions = 0)

private theorem inv_init (c : Nat) (hc : c < M) : Inv (init c) := by
  refine ⟨hc, Nat.mod_eq_of_lt hc, List.nodup_nil, ?_, ?_, ?_⟩ <;> simp [init]

private theorem alloc_arith (ticks c id : Nat) (hc : c < M) (hid : id < M) (ht : ticks % M = c) :
    (ticks + advance c id) % M = (id + 1) % M ∧ (ticks + advance c id - 1) % M = id ∧
    ticks < ticks + advance c id := by
  have h := lands M ticks c id hid ht
  rw [advance, Nat.mod_eq_of_lt hc, ← Nat.add_assoc]
  exact ⟨by rw [Nat.add_mod, h, Nat.add_mod_mod], by rw [Nat.add_sub_cancel, h], by omega⟩

private theorem stamp_ne (tp tq : Nat) (h1 : tp < tq) (h2 : tq - tp < M) : tp % M ≠ tq % M := by
  unfold M at *; omega

private theorem inv_remove (s : St) (id : Nat) (h : Inv s) : Inv (remove s id) :=
  let ⟨hc, ht, hnd, hlt, hp, hcol⟩ := h
  ⟨hc, ht, hnd.erase id, fun i hi => hlt i (List.mem_of_mem_erase hi),
    fun p tp hpend => let ⟨e1, e2, e3, e4⟩ := hp p tp hpend
      ⟨e1, e2, e3, fun hle hm => e4 hle (List.mem_of_mem_erase hm)⟩, hcol⟩

/-- a pending stamp `tp`, an allocation moving the ticks from `t` to `t'`, and still at most `M` ticks apart -/
private theorem window (tp t t' : Nat) (h1 : tp < t) (h2 : t < t') (hle : t' - tp ≤ M) :
    tp < t' - 1 ∧ t' - 1 - tp < M ∧ t - tp ≤ M := by omega

private theorem Inv.step {s s' : St} {a : Act} (hs : Step s a s') (h : Inv s) : Inv s' := by
  have ⟨hc, ht, hnd, hlt, hp, hcol⟩ := h
  cases hs with
  | skip | hung => exact h
  | openLocal id c' hn =>
    obtain ⟨hfresh, hid, hc', hc'eq⟩ := nextChannel_fresh s id c' hc hn
    obtain ⟨a1, a2, a3⟩ := alloc_arith s.ticks s.counter id hc hid ht
    rw [put_fresh _ _ (by exact hfresh)]
    refine ⟨hc', a1.trans hc'eq.symm, List.nodup_cons.2 ⟨hfresh, hnd⟩,
      List.forall_mem_cons.2 ⟨hid, hlt⟩, ?_, hcol⟩
    intro p tp hpend
    obtain ⟨e1, e2, e3, e4⟩ := hp p tp hpend
    refine ⟨e1, Nat.lt_trans e2 a3, e3, fun hle => ?_⟩
    -- the new id carries the stamp of the last tick, fewer than `M` ticks after the pending one's
    obtain ⟨w1, w2, w3⟩ := window tp _ _ e2 a3 hle
    have hne := stamp_ne tp _ w1 w2
    rw [a2, ← e1] at hne
    exact fun hm => (List.mem_cons.1 hm).elim hne (e4 w3)
  | peerAlloc id c' hpd hn =>
    obtain ⟨hfresh, hid, hc', hc'eq⟩ := nextChannel_fresh s id c' hc hn
    obtain ⟨a1, a2, a3⟩ := alloc_arith s.ticks s.counter id hc hid ht
    refine ⟨hc', a1.trans hc'eq.symm, hnd, hlt, ?_, hcol⟩
    rintro p tp ⟨⟩
    exact ⟨a2.symm, Nat.sub_lt (Nat.zero_lt_of_lt a3) Nat.one_pos, hid, fun _ => hfresh⟩
  | peerPut p tp hpd =>
    obtain ⟨e1, e2, e3, e4⟩ := hp p tp hpd
    by_cases hmem : p ∈ s.live
    · -- a collision: only possible when late
      simp only [put, List.contains_eq_mem, hmem, decide_true, if_true]
      refine ⟨hc, ht, hnd, hlt, nofun, fun hl => ?_⟩
      simp only [Bool.or_eq_false_iff, decide_eq_false_iff_not] at hl
      exact absurd hmem (e4 (Nat.le_of_not_gt hl.2))
    · rw [put_fresh _ _ (by exact hmem)]
      exact ⟨hc, ht, List.nodup_cons.2 ⟨hmem, hnd⟩, List.forall_mem_cons.2 ⟨e3, hlt⟩, nofun,
        fun hl => hcol (Bool.or_eq_false_iff.1 hl).1⟩
  | peerReject => exact ⟨hc, ht, hnd, hlt, nofun, hcol⟩
  | remove _ id => exact inv_remove s id h

/-- the invariant holds after every history of local opens, peer opens (allocate / register / reject),
    deletions (close, open failure, unlink, weak reference dying) — started from any state satisfying it -/
theorem inv_run (s : St) (h : List Act) (hi : Inv s) : Inv (run s h) :=
  run_inv (fun s a h => h.step (step_sound s a)) s h hi

/-- **Uniqueness.** For every history from a fresh transport whose counter starts anywhere below 2^24
    (e.g. just before the wrap): no registration ever overwrites a live channel — unless a peer-opened
    channel was registered more than 2^24 counter advances after its id was allocated (`late`, i.e. ≥ 2^24
    other allocations squeezed between the two lock regions of one `_parse_channel_open`). -/
theorem no_collision (c : Nat) (hc : c < M) (h : List Act) (hl : (run (init c) h).late = false) :
    (run (init c) h).collisions = 0 :=
  (inv_run _ h (inv_init c hc)).2.2.2.2.2 hl

/-- live ids are pairwise distinct and fit in 24 bits, and so does the counter, after every history -/
theorem live_distinct_24bit (c : Nat) (hc : c < M) (h : List Act) :
    (run (init c) h).live.Nodup ∧ (∀ id ∈ (run (init c) h).live, id < M) ∧ (run (init c) h).counter < M := by
  obtain ⟨h1, _, h3, h4, _⟩ := inv_run _ h (inv_init c hc)
  exact ⟨h3, h4, h1⟩

/-- an id that `_parse_channel_open` holds between its two lock regions is not handed out again and is not
    live, for every history that advanced the counter at most 2^24 times since it was allocated -/
theorem pending_id_reserved (c : Nat) (hc : c < M) (h : List Act) (p tp : Nat)
    (hp : (run (init c) h).pending = some (p, tp)) (hle : (run (init c) h).ticks - tp ≤ M) :
    p ∉ (run (init c) h).live ∧ p < M :=
  let ⟨_, _, _, _, h5, _⟩ := inv_run _ h (inv_init c hc)
  ⟨(h5 p tp hp).2.2.2 hle, (h5 p tp hp).2.2.1⟩

/-- allocation never hangs while fewer than 2^24 channels are live -/
theorem never_hung_step (s : St) (a : Act) (hi : Inv s) (hlen : s.live.length < M) (hh : s.hung = false) :
    (step s a).hung = false := by
  have tot := nextChannel_total s hi.1 hlen
  generalize step s a = s', step_sound s a = hs
  cases hs with
  | hung _ hn => simp [hn] at tot
  | openLocal | peerPut => exact (put_hung _ _).trans hh
  | _ => exact hh

/-! ## the counter only moves forward -/

/-- **Only `_next_channel` (and the constructor) ever assign `_channel_counter`** (generated from the AST of
    transport.py on this run): nothing "hands an id back" by moving the counter. -/
theorem counter_written_only_by_next_channel :
    ∀ w ∈ PV.Generated.C23.counter_writers, w = "__init__" ∨ w = "_next_channel" := by
  decide

private theorem step_ticks_mono (s : St) (a : Act) : s.ticks ≤ (step s a).ticks := by
  generalize step s a = s', step_sound s a = hs
  cases hs with
  | openLocal => rw [put_ticks]; exact Nat.le_add_right ..
  | peerAlloc => exact Nat.le_add_right ..
  | peerPut => rw [put_ticks]; exact Nat.le_refl _
  | _ => exact Nat.le_refl _

/-- **The counter never moves backwards**: in every history — including refused local opens
    (`peerFailure id true`) and refused peer opens (`peerReject`) — the number of counter advances only grows, and
    the counter is that number mod 2^24.  This is what `pending_id_reserved` rests on: an id that
    `_parse_channel_open` holds between allocation and registration can only be reached again by going all the way
    round. -/
theorem counter_never_moves_backwards (c : Nat) (hc : c < M) (h1 h2 : List Act) :
    (run (init c) h1).ticks ≤ (run (init c) (h1 ++ h2)).ticks ∧
    (run (init c) (h1 ++ h2)).counter = (run (init c) (h1 ++ h2)).ticks % M := by
  refine ⟨?_, ((inv_run _ (h1 ++ h2) (inv_init c hc)).2.1).symm⟩
  have e : run (init c) (h1 ++ h2) = run (run (init c) h1) h2 := List.foldl_append ..
  rw [e]
  exact run_inv (P := fun s => (run (init c) h1).ticks ≤ s.ticks)
    (fun s a h => Nat.le_trans h (step_ticks_mono s a)) _ h2 (Nat.le_refl _)

/-- the model's `delete id` for a peer CLOSE removes the entry of the channel that was closed: in the source every
    `transport._unlink_channel(…)` call of class Channel passes `self.chanid`, the key of the channel map (AST of
    channel.py on this run; table shared with C22) -/
theorem unlink_uses_the_local_id :
    PV.Generated.ChanLock.unlinkArgs ≠ [] ∧ ∀ a ∈ PV.Generated.ChanLock.unlinkArgs, a = "self.chanid" := by
  decide

/-- **An entry leaves the channel map only through the close paths of the channel registered under it**: in class
    Channel `transport._unlink_channel(…)` is called from `_handle_close` and `_unlink` only — never from a finaliser,
    which runs for an object that may have been unlinked long ago while its id has since been given to another
    channel — and every `self._channels.delete(…)` in transport.py is inside `_unlink_channel` or guarded by "this
    open is still pending" (AST tables of channel.py / transport.py on this run).  These are the model's `delete`
    and `peerFailure id true`; garbage collection of a dead object is not an action that touches the map. -/
theorem entries_removed_only_by_close_paths :
    PV.Generated.ChanLock.unlinkCallers ≠ [] ∧
    (∀ c ∈ PV.Generated.ChanLock.unlinkCallers, c = "_handle_close" ∨ c = "_unlink") ∧
    PV.Generated.C23.mapDeletes ≠ [] ∧ (∀ d ∈ PV.Generated.C23.mapDeletes, d.2 = true) := by
  decide

/-! ## open channels stay registered -/

/-- every open Channel object is in the map under its id -/
def OpenInv (s : St) : Prop := ∀ id ∈ s.openIds, id ∈ s.live

private theorem open_put (s : St) (id : Nat) (h : OpenInv s) : OpenInv (put s id) := by
  unfold put
  split
  · rename_i hc
    intro x hx
    simp only [List.mem_cons] at hx
    rcases hx with rfl | hx
    · simpa using hc
    · exact h x hx
  · intro x hx
    simp only [List.mem_cons] at hx ⊢
    rcases hx with rfl | hx
    · exact .inl rfl
    · exact .inr (h x hx)

private theorem open_remove (s : St) (id : Nat) (h : OpenInv s) : OpenInv (remove s id) := by
  intro x hx
  simp only [remove, List.mem_filter, bne_iff_ne, ne_eq] at hx
  exact (List.mem_erase_of_ne hx.2).2 (h x hx.1)

private theorem step_open (s : St) (a : Act) (h : OpenInv s) : OpenInv (step s a) := by
  generalize step s a = s', step_sound s a = hs
  cases hs with
  | openLocal | peerPut => exact open_put _ _ h
  | remove _ id => exact open_remove s id h
  | _ => exact h

/-- **Every open channel stays in the channel map**, for every history of opens, peer opens, closes and of
    peer-sent CHANNEL_OPEN_FAILURE / CHANNEL_OPEN_CONFIRMATION messages naming ANY id (established, pending or
    unknown): a failure only removes a channel whose open is still pending. -/
theorem open_channels_registered (c : Nat) (h : List Act) :
    ∀ id ∈ (run (init c) h).openIds, id ∈ (run (init c) h).live := by
  exact run_inv step_open _ h (by intro id hid; simp [init] at hid)

/-- … hence **allocation never returns the id of an open channel**, wherever the counter has wrapped to -/
theorem alloc_never_returns_open_id (c : Nat) (hc : c < M) (h : List Act) (id c' : Nat)
    (ha : nextChannel (isLive (run (init c) h)) (run (init c) h).counter = some (id, c')) :
    id ∉ (run (init c) h).openIds := by
  have hi := inv_run _ h (inv_init c hc)
  have hf := (nextChannel_fresh _ id c' hi.1 ha).1
  exact fun hm => hf (open_channels_registered c h id hm)

/-- what goes wrong if an open channel is missing from the map (e.g. an OPEN_FAILURE that deletes an established
    channel's entry): the counter wraps onto its id and `_next_channel` hands it out again -/
theorem unregistered_open_channel_is_reallocated_witness :
    let s : St := { init 16777215 with openIds := [16777215] }
    nextChannel (isLive s) s.counter = some (16777215, 0) ∧ 16777215 ∈ s.openIds := by
  decide +kernel

/-- non-vacuity: a history across the wrap (counter starts at 2^24 - 2) with a peer open whose callback
    window contains two local opens, a close and a re-open; no collision, not late, ids as expected. -/
example :
    let s := run (init 16777214) [.openLocal, .peerAlloc, .openLocal, .openLocal, .delete 0, .peerPut,
                                  .openLocal, .delete 16777214, .openLocal]
    s.live = [3, 2, 16777215, 1] ∧ s.counter = 4 ∧ s.late = false ∧ s.collisions = 0 ∧ s.hung = false := by
  decide +kernel

/-! ## the atomic regions of the model are the ones the source locks -/

/-- **Every call of `_next_channel` holds the transport lock** (call sites generated from the AST of transport.py
    on this run): allocation (and, in `open_channel`, registration) is one atomic region, as `openLocal` /
    `peerAlloc` of the model assume.  `no_collision` is a statement about the code only together with this. -/
theorem next_channel_sites_locked :
    PV.Generated.C23.next_channel_sites ≠ [] ∧ ∀ s ∈ PV.Generated.C23.next_channel_sites, s.2 = true := by
  decide

private theorem gotIds_set_got (l : List APc) (t id : Nat) (old : APc) (h : l[t]? = some old)
    (ho : ∀ i, old ≠ .got i) : ∀ x, x ∈ gotIds (l.set t (.got id)) ↔ x = id ∨ x ∈ gotIds l := by
  induction l generalizing t with
  | nil => simp at h
  | cons y ys ih =>
    intro x
    cases t with
    | zero =>
      simp only [List.getElem?_cons_zero, Option.some.injEq] at h
      subst h
      cases y with
      | got i => exact absurd rfl (ho i)
      | ready b => simp [gotIds]
      | looked i => simp [gotIds]
    | succ t =>
      simp only [List.getElem?_cons_succ] at h
      have := ih t h x
      cases y with
      | got i => simp only [List.set_cons_succ, gotIds, List.mem_cons, this]; constructor <;> (intro h; rcases h with h | h | h <;> simp [h])
      | ready b => simpa [gotIds] using this
      | looked i => simpa [gotIds] using this

private theorem gotIds_nodup_set (l : List APc) (t id : Nat) (old : APc) (h : l[t]? = some old)
    (ho : ∀ i, old ≠ .got i) (hn : (gotIds l).Nodup) (hid : id ∉ gotIds l) :
    (gotIds (l.set t (.got id))).Nodup := by
  induction l generalizing t with
  | nil => simp at h
  | cons y ys ih =>
    cases t with
    | zero =>
      simp only [List.getElem?_cons_zero, Option.some.injEq] at h
      subst h
      cases y with
      | got i => exact absurd rfl (ho i)
      | ready b => exact List.nodup_cons.2 ⟨hid, hn⟩
      | looked i => exact List.nodup_cons.2 ⟨hid, hn⟩
    | succ t =>
      simp only [List.getElem?_cons_succ] at h
      cases y with
      | got i =>
        have hn' : i ∉ gotIds ys ∧ (gotIds ys).Nodup := List.nodup_cons.1 hn
        have hid' : id ≠ i ∧ id ∉ gotIds ys := by
          have : id ∉ i :: gotIds ys := hid
          simpa [List.mem_cons, not_or] using this
        show (i :: gotIds (ys.set t (.got id))).Nodup
        refine List.nodup_cons.2 ⟨?_, ih t h hn'.2 hid'.2⟩
        rw [gotIds_set_got ys t id old h ho]
        intro hc
        rcases hc with hc | hc
        · exact hid'.1 hc.symm
        · exact hn'.1 hc
      | ready b => exact ih t h hn hid
      | looked i => exact ih t h hn hid

private def AInv (s : ASt) : Prop :=
  (gotIds s.thr).Nodup ∧ (∀ id ∈ gotIds s.thr, id ∈ s.live) ∧ ∀ p ∈ s.thr, ∀ i, p ≠ .looked i ∧ p ≠ .ready false

private theorem astep_inv (s : ASt) (t : Nat) (h : AInv s) : AInv (astep s t) := by
  obtain ⟨h1, h2, h3⟩ := h
  unfold astep
  split
  · rename_i hr
    split
    · rename_i id c' hn
      have hfresh : id ∉ s.live := by
        unfold nextChannel at hn
        split at hn
        · cases hn
        · rename_i i hs
          simp only [Option.some.injEq, Prod.mk.injEq] at hn
          have := (scan_sound _ _ _ _ hs).1
          rw [← hn.1]; simpa using this
      have hnot : id ∉ gotIds s.thr := fun hm => hfresh (h2 id hm)
      refine ⟨gotIds_nodup_set _ t id _ hr (by intro i h; cases h) h1 hnot, ?_, ?_⟩
      · intro x hx
        rw [gotIds_set_got _ t id _ hr (by intro i h; cases h)] at hx
        rcases hx with rfl | hx
        · exact List.mem_cons_self ..
        · exact List.mem_cons_of_mem _ (h2 x hx)
      · intro p hp i
        rcases List.mem_or_eq_of_mem_set hp with hp | rfl
        · exact h3 p hp i
        · exact ⟨(by intro h; cases h), (by intro h; cases h)⟩
    · exact ⟨h1, h2, h3⟩
  · rename_i hr
    exact absurd rfl (h3 _ (List.mem_of_getElem? hr) 0).2
  · rename_i id hr
    exact absurd rfl (h3 _ (List.mem_of_getElem? hr) id).1
  · exact ⟨h1, h2, h3⟩

/-- **If every caller holds the lock, concurrent allocations never return the same id** — any number of
    threads, any interleaving of their steps, any starting counter and set of live ids. -/
theorem locked_allocations_distinct (counter : Nat) (live : List Nat) (n : Nat) (sched : List Nat) :
    (gotIds (arun { counter := counter, live := live, thr := List.replicate n (.ready true) } sched).thr).Nodup := by
  have h0 : AInv { counter := counter, live := live, thr := List.replicate n (.ready true) } := by
    have : ∀ k, gotIds (List.replicate k (APc.ready true)) = [] := by
      intro k; induction k with
      | zero => rfl
      | succ k ih => simpa [List.replicate_succ, gotIds] using ih
    refine ⟨(by rw [this]; exact List.nodup_nil), (by rw [this]; intro id h; cases h), ?_⟩
    intro p hp i
    simp only [List.mem_replicate] at hp
    rw [hp.2]; exact ⟨(by intro h; cases h), (by intro h; cases h)⟩
  have : ∀ (sch : List Nat) (s : ASt), AInv s → AInv (arun s sch) := by
    intro sch
    induction sch with
    | nil => intro s h; exact h
    | cons t ts ih => intro s h; exact ih _ (astep_inv s t h)
  exact (this sched _ h0).1

/-- … and one caller without the lock is enough for two channels with the same id: the unlocked caller looks
    its id up, a locked caller allocates and registers that very id, the unlocked one then registers it too. -/
theorem unlocked_allocation_collision_witness :
    gotIds (arun { counter := 16777215, live := [], thr := [.ready false, .ready true] } [0, 1, 0]).thr
      = [16777215, 16777215] := by
  decide +kernel

end PV.Props.C23
