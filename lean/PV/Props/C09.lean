/-
  C09 — Strict key exchange stops handshake sequence-number manipulation (Terrapin).
  Model: PV/Model/RunLoop.lean; invariant and helper lemmas: PV/Model/RunLoopLemmas.lean; dispatch tables
  of the tree under test: PV/Generated/C12.lean.
-/
import PV.Model.RunLoopLemmas
import PV.Generated.C12
namespace PV.Props.C09
open PV PV.RunLoop

/-- the tables of the tree under test route KEXINIT and NEWKEYS to the transport (re-proved on every run) -/
theorem generated_tables_ok : KexTables Generated.C12.tables :=
  ⟨by decide, by decide, by decide, by decide, by decide⟩

/-- **Order of the checks in `Transport.run`** (AST of the loop body, read on every run): the expected-packet test
comes before any handler-table dispatch and before the server's pre-auth gate `_ensure_authed`, as in the model's
`body` / `afterExpected` — nothing gets to answer a message that is not the armed one. -/
theorem expected_check_precedes_dispatch : Generated.C12.expectedCheckBeforeDispatch = true := by decide

/-- **Every well-framed packet reaches the loop** (AST of `Packetizer.read_message`, read on every run): no recursion
and no loop inside `read_message`, so the packetizer cannot consume a packet on its own — the model's `recv` is one
packet, one loop iteration, and `_enforce_strict_kex` / the expected-packet test see everything that advanced the
sequence number. -/
theorem read_message_delivers_every_packet : Generated.C12.readMessageDeliversEveryPacket = true := by decide

/-- **Every packet read during the handshake is judged** (AST of the loop body of `Transport.run`, read on every run):
between `packetizer.read_message()` and the expected-packet test the only ways to `continue` are the IGNORE and DEBUG
branches, which call `_enforce_strict_kex` first — as in the model's `body`, where every received packet either passes
`enforceStrict` or reaches `afterExpected`.  No flag (a "guessed kex packet follows", say) can make the loop drop a
packet unjudged. -/
theorem run_judges_every_packet : Generated.C12.runJudgesEveryPacket = true := by decide

/-- every paramiko kex engine, in both roles, arms a non-empty set of kex-range types at each step -/
theorem engines_wf (k : KexKind) (server : Bool) : (engineOf k server).WF := by
  cases k <;> cases server <;> (unfold Engine.WF EStep.WF; decide)

/-- **Main theorem.**  Take any transport (either role, either class, strict mode offered or not), any list of
events whatsoever — packets of any type with any payload in any order, any answers of the unmodelled parts,
local rekey triggers.  If the run ever has `initial_kex_done` set, consider the first step that set it.  If
that step ended without error and strict mode was agreed, then the packets received up to and including it are
*exactly* `KEXINIT ++ w ++ NEWKEYS` where `w` is a word of the negotiated kex engine's script (one accepted type
per step, nothing else: no IGNORE, DEBUG, UNIMPLEMENTED, no second KEXINIT, nothing before the KEXINIT, which
therefore had sequence number 0), and the inbound sequence number is 0 again. -/
theorem strict_initial_kex_exact (T : Tables) (hT : KexTables T) (server srt adv sig : Bool) (evs : List Ev)
    (hev : ∀ ev ∈ evs, ev.WF) (hdone : (run T (init server srt adv sig) evs).initialKexDone = true) :
    ∃ s0 s1, firstDone T (init server srt adv sig) evs = some (s0, s1) ∧
      (s1.err = none → s1.agreedStrict = true →
        ∃ e0 w, s0.kexScript = some e0 ∧ Accepts w e0.script ∧
          s1.rx = MSG_KEXINIT :: w ++ [MSG_NEWKEYS] ∧ s1.seqIn = 0) := by
  obtain ⟨he0, hd0, hi0⟩ := init_inv server srt adv sig
  obtain ⟨s0, s1, hf⟩ := firstDone_exists T _ evs hd0 hdone
  refine ⟨s0, s1, hf, fun he1 hstrict => ?_⟩
  obtain ⟨t, p, x, _, _, _, ht, hrx, hst, e0, hscr, hrest⟩ := firstDone_spec T hT _ evs hev he0 hd0 hi0 s0 s1 hf he1
  simp only [St.kv] at hrx hst hscr hrest
  obtain ⟨hseq, w, hw, hacc⟩ := hrest (by rw [← hst]; exact hstrict)
  exact ⟨e0, w, hscr, hacc, by simp [hrx, hw], hseq⟩

/-- the same for the tree under test -/
theorem C09 (server srt adv sig : Bool) (evs : List Ev) (hev : ∀ ev ∈ evs, ev.WF)
    (hdone : (run Generated.C12.tables (init server srt adv sig) evs).initialKexDone = true) :
    ∃ s0 s1, firstDone Generated.C12.tables (init server srt adv sig) evs = some (s0, s1) ∧
      (s1.err = none → s1.agreedStrict = true →
        ∃ e0 w, s0.kexScript = some e0 ∧ Accepts w e0.script ∧
          s1.rx = MSG_KEXINIT :: w ++ [MSG_NEWKEYS] ∧ s1.seqIn = 0) :=
  strict_initial_kex_exact _ generated_tables_ok server srt adv sig evs hev hdone

/-- **Any out-of-order message ends the connection.**  During a strict initial key exchange (anywhere on a run
from the initial state, invariant `KInv`), a packet whose type is not the armed one — IGNORE, DEBUG,
UNIMPLEMENTED, a second KEXINIT, anything — leaves the loop; unless it is a DISCONNECT (which ends the session
anyway) or trips the roll-over guard, the reason is MessageOrderError. -/
theorem strict_rejects_out_of_order (T : Tables) (s : St) (hi : KInv s.kv) (he : s.err = none)
    (hd : s.initialKexDone = false) (hs : s.agreedStrict = true) (t : Nat) (ht : ¬ s.expected.contains t = true)
    (p : Bytes) (x : Ext) :
    (step T s (.recv t p x)).active = false ∧
      (t ≠ MSG_DISCONNECT → (s.seqIn + 1) % SEQ_MOD ≠ 0 → (step T s (.recv t p x)).err = some .strictOrder) := by
  rw [step_recv hi.active he]
  by_cases hroll : (s.seqIn + 1) % SEQ_MOD = 0 ∧ ¬ s.initialKexDone = true
  · rw [recv, if_pos hroll]
    exact ⟨rfl, fun _ h0 => absurd hroll.1 h0⟩
  rw [recv_eq hroll]
  have hstrict : enforceStrict (bump s t) = (bump s t).fail .strictOrder := enforceStrict_strict hs hd
  by_cases h2 : t = MSG_IGNORE
  · subst h2; rw [body_ignore, hstrict]; exact ⟨rfl, fun _ _ => rfl⟩
  by_cases h1 : t = MSG_DISCONNECT
  · subst h1; exact ⟨rfl, fun h => absurd rfl h⟩
  by_cases h4 : t = MSG_DEBUG
  · subst h4; rw [body_debug, hstrict]; exact ⟨rfl, fun _ _ => rfl⟩
  rw [body_other h2 h1 h4, afterExpected_reject (s := bump s t) hi.expected_ne (eq_false_of_ne_true ht)]
  exact ⟨rfl, fun _ _ => congrArg (fun e => some e) (if_pos hs)⟩

/-- a KEXINIT that arrives with a non-zero sequence number and makes strict mode agreed is refused, whatever the counter
was preset to (no assumption that counting started at 0; `initial_kex_counter_never_wraps` says what strays in front of
it do to the counter) -/
theorem kexinit_with_nonzero_seqno_rejected (T : Tables) (hT : KexTables T) (s : St) (hact : s.active = true)
    (he : s.err = none) (hd : s.initialKexDone = false) (hexp : s.expected = [MSG_KEXINIT])
    (hlk : s.localKexInit = true) (p : Bytes) (x : Ext) (hparse : x.kex ≠ .malformed)
    (hagree : (scanMarkers s.server s.advertiseStrict x.kexNames (none, s.agreedStrict)).2 = true)
    (hlate : s.seqIn ≠ 0) (hroll : (s.seqIn + 1) % SEQ_MOD ≠ 0) :
    (step T s (.recv MSG_KEXINIT p x)).err = some .strictOrder := by
  rw [step_recv hact he, recv_eq (fun c => hroll c.1),
    body_armed (by decide) (by decide) (by decide) (Or.inr (by rw [bump, hexp]; rfl)) (by decide),
    dispatch_kexinit hT]
  -- our KEXINIT is out already, so `_negotiate_keys` goes straight to `_parse_kex_init`
  unfold negotiateKeys ensureLocalKexInit
  simp only [bump, hlk, not_true_eq_false, if_false, St.andThen, he, Option.isSome_none, Bool.false_eq_true]
  unfold parseKexInit
  cases hk : x.kex with
  | malformed => exact absurd hk hparse
  | incompatible => simp [hagree, hd, hlate, St.fail]
  | ok e => simp [hagree, hd, hlate, St.fail]

/-- a KEXINIT that is not the peer's first packet is refused as soon as it makes strict mode agreed -/
theorem late_kexinit_rejected (T : Tables) (hT : KexTables T) (s : St) (hi : KInv s.kv) (ha : PreA s.kv)
    (he : s.err = none) (hd : s.initialKexDone = false) (hlk : s.localKexInit = true) (p : Bytes) (x : Ext)
    (hparse : x.kex ≠ .malformed)
    (hagree : (scanMarkers s.server s.advertiseStrict x.kexNames (none, s.agreedStrict)).2 = true)
    (hlate : s.seqIn ≠ 0) (hroll : (s.seqIn + 1) % SEQ_MOD ≠ 0) :
    (step T s (.recv MSG_KEXINIT p x)).err = some .strictOrder :=
  kexinit_with_nonzero_seqno_rejected T hT s hi.active he hd ha.expected hlk p x hparse hagree hlate hroll

/-- the stray packets a peer can get accepted before its KEXINIT: IGNORE and DEBUG only -/
def strays (ts : List Nat) : List Ev := ts.map fun t => Ev.recv t [] {}

private theorem stray_step (T : Tables) (s : St) (t : Nat) (ht : t = MSG_IGNORE ∨ t = MSG_DEBUG)
    (hact : s.active = true) (he : s.err = none) (hd : s.initialKexDone = false) (hns : s.agreedStrict = false) :
    step T s (.recv t [] {}) = if (s.seqIn + 1) % SEQ_MOD = 0 then s.fail .rollover else bump s t := by
  rw [step_recv hact he, recv]
  by_cases hr : (s.seqIn + 1) % SEQ_MOD = 0
  · rw [if_pos ⟨hr, by simp [hd]⟩, if_pos hr]
  · rw [if_neg (fun c => hr c.1), if_neg hr]
    rcases ht with rfl | rfl
    · exact body_ignore.trans (enforceStrict_lax hns)
    · exact body_debug.trans (enforceStrict_lax hns)

/-- strays that raise nothing are counted, without wrapping, and recorded; nothing else changes -/
theorem strays_run (T : Tables) (s : St) (ts : List Nat)
    (hts : ∀ t ∈ ts, t = MSG_IGNORE ∨ t = MSG_DEBUG)
    (hact : s.active = true) (he : s.err = none) (hd : s.initialKexDone = false) (hns : s.agreedStrict = false)
    (hlt : s.seqIn < SEQ_MOD) (hok : (run T s (strays ts)).err = none) :
    s.seqIn + ts.length < SEQ_MOD ∧
      run T s (strays ts) = { s with seqIn := s.seqIn + ts.length, rx := s.rx ++ ts } := by
  induction ts generalizing s with
  | nil => exact ⟨hlt, by simp [strays, run]⟩
  | cons t ts ih =>
    have hrun : run T s (strays (t :: ts)) = run T (step T s (.recv t [] {})) (strays ts) := rfl
    rw [hrun, stray_step T s t (hts t List.mem_cons_self) hact he hd hns] at hok ⊢
    by_cases hr : (s.seqIn + 1) % SEQ_MOD = 0
    · rw [if_pos hr, run_dead T (s.fail .rollover) (strays ts) (by simp [St.fail])] at hok
      cases hok
    · rw [if_neg hr] at hok ⊢
      have hlt' : s.seqIn + 1 < SEQ_MOD := seq_next hlt hr
      have hb : (bump s t).seqIn = s.seqIn + 1 := Nat.mod_eq_of_lt hlt'
      obtain ⟨h1, h2⟩ := ih (bump s t) (fun u hu => hts u (List.mem_cons_of_mem _ hu)) hact he hd hns (hb ▸ hlt') hok
      rw [hb] at h1
      refine ⟨by rw [List.length_cons]; omega, ?_⟩
      rw [h2, hb]
      simp [bump, Nat.add_assoc, Nat.add_comm 1]
/-- **No wrap during the initial exchange.**  From *any* inbound counter value (not just 0) and any number of stray
IGNORE/DEBUG packets before the peer's KEXINIT: as long as no error is raised the counter has simply been added to —
it never passes 2^32 − 1, so distinct packets of the initial exchange carry distinct sequence numbers and
"KEXINIT has number 0" can only mean "nothing came before it".  The roll-over guard is what makes this true, and it
reads the masked value it then stores (AST of `read_message` / `send_message`, read on every run). -/
theorem initial_kex_counter_never_wraps (T : Tables) (s : St) (ts : List Nat)
    (hts : ∀ t ∈ ts, t = MSG_IGNORE ∨ t = MSG_DEBUG)
    (hact : s.active = true) (he : s.err = none) (hd : s.initialKexDone = false) (hns : s.agreedStrict = false)
    (hlt : s.seqIn < SEQ_MOD) (hok : (run T s (strays ts)).err = none) :
    (run T s (strays ts)).seqIn = s.seqIn + ts.length ∧ s.seqIn + ts.length < SEQ_MOD ∧
      (run T s (strays ts)).expected = s.expected ∧ (run T s (strays ts)).agreedStrict = false ∧
      (run T s (strays ts)).active = true ∧ (run T s (strays ts)).initialKexDone = false ∧
      (run T s (strays ts)).localKexInit = s.localKexInit ∧
      Generated.C12.rolloverGuardReadsAssignedValue = true := by
  obtain ⟨h, e⟩ := strays_run T s ts hts hact he hd hns hlt hok
  rw [e]
  exact ⟨rfl, h, rfl, hns, hact, hd, rfl, by decide⟩

/-- **The reset depends on strict mode and on nothing else** (AST of `_activate_inbound` / `_activate_outbound`, read on
every run): the `if` around `reset_seqno_in()` / `reset_seqno_out()` tests exactly `self.agreed_on_strict_kex` — as in
the model's `parseNewkeys` / `activateOutbound`, which know no cipher.  So `newkeys_resets_inbound` and
`newkeys_resets_outbound` hold for every negotiated cipher, AEAD ones included (where a skipped reset would not even
show as a MAC failure). -/
theorem seqno_reset_ignores_the_cipher : Generated.C12.seqnoResetGuardIsStrictOnly = true := by decide

/-- **Inbound reset.**  Whenever NEWKEYS is accepted in strict mode — first exchange or any later one — the
inbound sequence number restarts at zero. -/
theorem newkeys_resets_inbound (T : Tables) (hT : KexTables T) (s : St) (hact : s.active = true)
    (he : s.err = none) (hs : s.agreedStrict = true) (hk : s.haveK = true)
    (hexp : s.expected = [MSG_NEWKEYS] ∨ s.expected = []) (p : Bytes) (x : Ext)
    (hroll : ¬ ((s.seqIn + 1) % SEQ_MOD = 0 ∧ ¬ s.initialKexDone = true)) :
    (step T s (.recv MSG_NEWKEYS p x)).seqIn = 0 ∧ (step T s (.recv MSG_NEWKEYS p x)).err = none ∧
      (step T s (.recv MSG_NEWKEYS p x)).initialKexDone = true := by
  have harmed : (bump s MSG_NEWKEYS).expected = [] ∨ (bump s MSG_NEWKEYS).expected.contains MSG_NEWKEYS = true :=
    hexp.symm.imp_right fun h => by rw [bump, h]; rfl
  rw [step_recv hact he, recv_eq hroll, body_armed (by decide) (by decide) (by decide) harmed (by decide),
    dispatch_newkeys hT]
  obtain ⟨e1, k1⟩ := parseNewkeys_ok (s := { bump s MSG_NEWKEYS with expected := [] }) (x := x) hk
  exact ⟨(congrArg KV.seqIn k1).trans (if_pos hs), e1.trans he, congrArg KV.done k1⟩

/-- **Outbound reset.**  Whenever NEWKEYS is sent in strict mode, it goes out under the old counter and whatever
follows it starts again at zero (the only thing `_activate_outbound` may add is EXT_INFO, with number 0). -/
theorem newkeys_resets_outbound (s : St) (x : Ext) (he : s.err = none) (hs : s.agreedStrict = true)
    (hok : (activateOutbound s x).err = none) :
    ((activateOutbound s x).tx = s.tx ++ [⟨MSG_NEWKEYS, s.seqOut, 0⟩] ∧ (activateOutbound s x).seqOut = 0) ∨
    ((activateOutbound s x).tx = s.tx ++ [⟨MSG_NEWKEYS, s.seqOut, 0⟩, ⟨MSG_EXT_INFO, 0, 0⟩] ∧
      (activateOutbound s x).seqOut = 1) := by
  unfold activateOutbound at hok ⊢
  obtain ⟨h1, e1⟩ := andThen_ok hok
  rw [e1, (send_ok h1).2]
  by_cases hext : s.server = true ∧ s.serverSigAlgs = true ∧ s.remoteExtInfoC = true
  · right
    by_cases hn : x.needRekey = true <;> simp [St.send, St.andThen, he, hs, hext, hn]
  · left
    by_cases hn : x.needRekey = true <;> simp [St.andThen, he, hs, hext, hn]

/-- **The strict marker counts at every position of the peer's kex list.**  The scan of `_parse_kex_init` goes over the
whole name list: whatever real algorithm names or `ext-info-*` stand before or after it, one occurrence of the
expected marker makes the agreed mode equal to what we advertise.  (AST of `_parse_kex_init`, read on every run:
the scan is a `for` over the whole list, not a look at its tail.) -/
theorem strict_marker_counts_anywhere (sv adv : Bool) (pre post : List String) (acc : Option String × Bool)
    (hpre : ∀ a ∈ pre, a.startsWith "kex-strict-" = false)
    (hpost : ∀ a ∈ post, a.startsWith "kex-strict-" = false) :
    (scanMarkers sv adv (pre ++ expectedMarker sv :: post) acc).2 = adv ∧
      Generated.C12.markerScanCoversWholeList = true :=
  ⟨scanMarkers_marker_anywhere sv adv pre post acc hpre hpost, by decide⟩

/-- **Strict mode is for the life of the session (1).**  A re-exchange KEXINIT that carries no `kex-strict-*` name
(what peers do that send the marker only in their first KEXINIT) leaves the agreed mode exactly as the initial
exchange left it — so `newkeys_resets_inbound/outbound` keep applying to every later NEWKEYS. -/
theorem rekey_without_marker_keeps_strict_mode (T : Tables) (hT : KexTables T) (s : St) (hact : s.active = true)
    (he : s.err = none) (hdone : s.initialKexDone = true) (hexp : s.expected = []) (p : Bytes) (x : Ext)
    (hnames : ∀ a ∈ x.kexNames, a.startsWith "kex-strict-" = false)
    (hok : (step T s (.recv MSG_KEXINIT p x)).err = none) :
    (step T s (.recv MSG_KEXINIT p x)).agreedStrict = s.agreedStrict := by
  rw [rekey_kexinit_strict T hT s hact he hdone hexp p x hok]
  exact scanMarkers_no_marker _ _ _ _ hnames

/-- **Strict mode is for the life of the session (2).**  A re-exchange KEXINIT that repeats the expected marker
keeps strict mode on. -/
theorem rekey_with_marker_keeps_strict_mode (T : Tables) (hT : KexTables T) (s : St) (hact : s.active = true)
    (he : s.err = none) (hdone : s.initialKexDone = true) (hexp : s.expected = []) (p : Bytes) (x : Ext)
    (hadv : s.advertiseStrict = true) (hstrict : s.agreedStrict = true)
    (hnames : ∀ a ∈ x.kexNames, a.startsWith "kex-strict-" = true → a = expectedMarker s.server)
    (hok : (step T s (.recv MSG_KEXINIT p x)).err = none) :
    (step T s (.recv MSG_KEXINIT p x)).agreedStrict = true := by
  rw [rekey_kexinit_strict T hT s hact he hdone hexp p x hok, hadv]
  exact scanMarkers_expected_marker _ _ _ hstrict hnames

/-! ## non-vacuity and the contrast with non-strict mode -/

private def kexNames (strictMarker : Bool) : List String :=
  ["curve25519-sha256@libssh.org", "ext-info-s"] ++ (if strictMarker then ["kex-strict-s-v00@openssh.com"] else [])

private def ext (strictMarker : Bool) : Ext :=
  { kexNames := kexNames strictMarker, kex := .ok (engineOf .ecdh false) }

/-- a clean strict client handshake: KEXINIT, KEXECDH_REPLY, NEWKEYS → established, counters at zero -/
private def clean : List Ev := [.recv 20 [] (ext true), .recv 31 [] {}, .recv 21 [] {}]

example : (∀ ev ∈ clean, ev.WF) := by
  intro ev h
  simp only [clean, List.mem_cons, List.mem_nil_iff, or_false] at h
  rcases h with rfl | rfl | rfl <;> intro e he <;> simp [ext] at he
  subst he; exact engines_wf .ecdh false

example : let s := run Generated.C12.tables (init false false true true) clean
    s.initialKexDone = true ∧ s.err = none ∧ s.agreedStrict = true ∧ s.rx = [20, 31, 21] ∧
      s.seqIn = 0 ∧ s.seqOut = 0 := by decide +kernel

/-- the same handshake with an IGNORE injected in front of the KEXINIT: refused in strict mode … -/
example : (run Generated.C12.tables (init false false true true) (.recv 2 [] {} :: clean)).err
    = some .strictOrder := by decide +kernel

/-- … and with IGNORE / DEBUG / UNIMPLEMENTED / an unknown type injected after the KEXINIT -/
example : ∀ t ∈ [2, 4, 3, 200, 20], (run Generated.C12.tables (init false false true true)
    [.recv 20 [] (ext true), .recv t [] (ext true), .recv 31 [] {}, .recv 21 [] {}]).err = some .strictOrder := by
  decide +kernel

/-- without strict mode the injected IGNORE is swallowed and the session comes up with shifted counters:
the hypothesis `agreedStrict` of the main theorem cannot be dropped -/
example : let s := run Generated.C12.tables (init false false true true) (.recv 2 [] {} ::
      [.recv 20 [] (ext false), .recv 2 [] {}, .recv 31 [] {}, .recv 21 [] {}])
    s.initialKexDone = true ∧ s.err = none ∧ s.agreedStrict = false ∧ s.seqIn = 5 := by decide +kernel

private def rekeyNoMarker : List Ev :=
  clean ++ [Ev.rekey,
    Ev.recv 20 [] { kexNames := ["curve25519-sha256@libssh.org"], kex := .ok (engineOf .ecdh false) },
    Ev.recv 31 [] {}, Ev.recv 21 [] {}]

/-- a full strict session with a re-exchange whose KEXINIT omits the marker: still strict, counters reset again -/
example : (run Generated.C12.tables (init false false true true) rekeyNoMarker).err = none ∧
    (run Generated.C12.tables (init false false true true) rekeyNoMarker).agreedStrict = true ∧
    (run Generated.C12.tables (init false false true true) rekeyNoMarker).seqIn = 0 ∧
    (run Generated.C12.tables (init false false true true) rekeyNoMarker).seqOut = 0 ∧
    (run Generated.C12.tables (init false false true true) rekeyNoMarker).rx = [20, 31, 21, 20, 31, 21] := by
  decide +kernel

/-- the counter preset to 2^32 − 1 (as after 2^32 − 1 swallowed packets): one more stray packet trips the guard -/
example : (run Generated.C12.tables { init false false true true with seqIn := 4294967295 } (strays [2])).err
    = some .rollover := by decide +kernel
/-- preset to 2^32 − 2: the stray is counted, and reading the KEXINIT behind it (number 2^32 − 1) trips the guard -/
example : (run Generated.C12.tables { init false false true true with seqIn := 4294967294 }
    (strays [4] ++ [.recv 20 [] (ext true)])).err = some .rollover := by decide +kernel
/-- preset to 2^32 − 3: the KEXINIT behind the stray has number 2^32 − 2 ≠ 0 and is refused as not the first packet -/
example : (run Generated.C12.tables { init false false true true with seqIn := 4294967293 }
    (strays [4] ++ [.recv 20 [] (ext true)])).err = some .strictOrder := by decide +kernel

end PV.Props.C09
