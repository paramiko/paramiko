/-
  C44 — An auth strategy tries sources in order and reports every failure.
  Property theorems only.  Model: PV/Model/AuthStrategy.lean (AuthStrategy.authenticate).

  `auth : σ → S → Out ε ρ × S` is an arbitrary stateful `source.authenticate`; all theorems hold for
  every such program, every source list and every initial state.
-/
import PV.Model.AuthStrategy
namespace PV.Props.C44
open PV.AuthStrategy

variable {σ ε ρ S : Type}

/-! ## the specification `attempted`: shortest prefix ending in the first success, else everything -/

/-- `attempted` is a prefix -/
theorem attempted_prefix (ps : List (σ × Out ε ρ)) : attempted ps <+: ps := by
  induction ps with
  | nil => exact List.prefix_refl _
  | cons p ps ih =>
    simp only [attempted]
    split
    · exact ⟨ps, rfl⟩
    · exact (List.prefix_cons_inj p).mpr ih

/-- if some source succeeds, the attempts are failures followed by exactly one success (so no shorter
prefix ends in a success, and nothing after the first success is attempted) -/
theorem attempted_of_success (ps : List (σ × Out ε ρ)) (h : ps.any (·.2.isOk) = true) :
    ∃ pre p, attempted ps = pre ++ [p] ∧ p.2.isOk = true ∧ ∀ q ∈ pre, q.2.isOk = false := by
  induction ps with
  | nil => simp at h
  | cons p ps ih =>
    by_cases hp : p.2.isOk = true
    · exact ⟨[], p, by simp [attempted, hp], hp, by simp⟩
    · have h' : ps.any (·.2.isOk) = true := by
        simp only [List.any_cons, Bool.or_eq_true] at h
        rcases h with h | h
        · exact absurd h hp
        · exact h
      obtain ⟨pre, q, he, hq, hall⟩ := ih h'
      refine ⟨p :: pre, q, by simp [attempted, hp, he], hq, ?_⟩
      intro r hr
      simp only [List.mem_cons] at hr
      rcases hr with hr | hr
      · subst hr; simpa using hp
      · exact hall r hr

/-- if no source succeeds, every source is attempted -/
theorem attempted_of_failure (ps : List (σ × Out ε ρ)) (h : ps.any (·.2.isOk) = false) :
    attempted ps = ps := by
  induction ps with
  | nil => rfl
  | cons p ps ih =>
    simp only [List.any_cons, Bool.or_eq_false_iff] at h
    simp [attempted, h.1, ih h.2]

/-- the sources of the would-be trace are the source list itself, in order -/
theorem trace_sources (auth : σ → S → Out ε ρ × S) (srcs : List σ) (s : S) :
    (trace auth srcs s).map (·.1) = srcs := by
  induction srcs generalizing s with
  | nil => rfl
  | cons x xs ih => simp [trace, ih]

/-! ## the loop -/

private theorem loop_spec (auth : σ → S → Out ε ρ × S) (srcs : List σ) (l : Loop σ ε ρ S)
    (hl : l.succeeded = false) :
    (loop auth srcs l).overall = l.overall ++ attempted (trace auth srcs l.st) ∧
    (loop auth srcs l).calls = l.calls ++ (attempted (trace auth srcs l.st)).map (·.1) ∧
    (loop auth srcs l).pulled = l.pulled ++ (attempted (trace auth srcs l.st)).map (·.1) ∧
    (loop auth srcs l).succeeded = (trace auth srcs l.st).any (·.2.isOk) := by
  induction srcs generalizing l with
  | nil => simp [loop, trace, attempted, hl]
  | cons x xs ih =>
    by_cases hok : (auth x l.st).1.isOk = true
    · simp [loop, body, trace, attempted, hok, hl]
    · have hok' : (auth x l.st).1.isOk = false := by simpa using hok
      have hb : (body auth x l).succeeded = false := by simp [body, hl, hok']
      obtain ⟨h1, h2, h3, h4⟩ := ih (body auth x l) hb
      have hst : (body auth x l).st = (auth x l.st).2 := rfl
      simp only [loop, hb, Bool.false_eq_true, if_false, trace, attempted, hok', List.any_cons,
        Bool.false_or, List.map_cons]
      rw [h1, h2, h3, h4, hst]
      simp [body]

/-- **Main theorem.** For every source list, every stateful `source.authenticate` and every initial
state: `authenticate` returns (resp. raises `AuthFailure` with) exactly the shortest prefix of
(source, outcome) pairs that ends in the first success (resp. all of them when none succeeds) — each
source paired with the outcome of *its own* call, in production order. -/
theorem authenticate_spec (auth : σ → S → Out ε ρ × S) (srcs : List σ) (s : S) :
    authenticate auth srcs s =
      if (trace auth srcs s).any (·.2.isOk) then .returned (attempted (trace auth srcs s))
      else .authFailure (attempted (trace auth srcs s)) := by
  obtain ⟨h1, _, _, h4⟩ := loop_spec auth srcs (init s) rfl
  have h1' : (loop auth srcs (init s)).overall = attempted (trace auth srcs s) := by
    simpa [init] using h1
  have h4' : (loop auth srcs (init s)).succeeded = (trace auth srcs s).any (·.2.isOk) := by
    simpa [init] using h4
  simp only [authenticate, finish, h1', h4']

private theorem returned_iff (auth : σ → S → Out ε ρ × S) (srcs : List σ) (s : S) (r : List (σ × Out ε ρ)) :
    authenticate auth srcs s = .returned r ↔
      (trace auth srcs s).any (·.2.isOk) = true ∧ r = attempted (trace auth srcs s) := by
  rw [authenticate_spec]
  cases (trace auth srcs s).any (·.2.isOk) <;> simp [eq_comm]

private theorem authFailure_iff (auth : σ → S → Out ε ρ × S) (srcs : List σ) (s : S) (r : List (σ × Out ε ρ)) :
    authenticate auth srcs s = .authFailure r ↔
      (trace auth srcs s).any (·.2.isOk) = false ∧ r = trace auth srcs s := by
  rw [authenticate_spec]
  cases h : (trace auth srcs s).any (·.2.isOk)
  · simp [attempted_of_failure _ h, eq_comm]
  · simp

private theorem result_eq (auth : σ → S → Out ε ρ × S) (srcs : List σ) (s : S) :
    (authenticate auth srcs s).result = attempted (trace auth srcs s) := by
  rw [authenticate_spec]; split <;> rfl

/-- The `source.authenticate` calls actually made, and the sources pulled from the `get_sources()`
generator, are exactly the attempted sources, in order (nothing is called twice, skipped, or pulled
after the first success). -/
theorem calls_are_attempts (auth : σ → S → Out ε ρ × S) (srcs : List σ) (s : S) :
    (loop auth srcs (init s)).calls = (authenticate auth srcs s).result.map (·.1) ∧
    (loop auth srcs (init s)).pulled = (authenticate auth srcs s).result.map (·.1) ∧
    (authenticate auth srcs s).result.map (·.1) <+: srcs := by
  obtain ⟨_, h2, h3, _⟩ := loop_spec auth srcs (init s) rfl
  rw [result_eq]
  refine ⟨h2, h3, ?_⟩
  have := (attempted_prefix (trace auth srcs s)).map (·.1)
  rwa [trace_sources] at this

/-- Success: the result lists failures followed by the one success it stopped at. -/
theorem returned_shape (auth : σ → S → Out ε ρ × S) (srcs : List σ) (s : S)
    (r : List (σ × Out ε ρ)) (h : authenticate auth srcs s = .returned r) :
    ∃ pre p, r = pre ++ [p] ∧ p.2.isOk = true ∧ (∀ q ∈ pre, q.2.isOk = false) ∧
      r.map (·.1) <+: srcs := by
  have hc := (calls_are_attempts auth srcs s).2.2
  rw [h] at hc
  obtain ⟨hany, rfl⟩ := (returned_iff auth srcs s r).mp h
  obtain ⟨pre, p, he, hp, hall⟩ := attempted_of_success _ hany
  exact ⟨pre, p, he, hp, hall, hc⟩

/-- Failure: `AuthFailure.result` lists **every** source, each with the error it raised. -/
theorem failure_shape (auth : σ → S → Out ε ρ × S) (srcs : List σ) (s : S)
    (r : List (σ × Out ε ρ)) (h : authenticate auth srcs s = .authFailure r) :
    r.map (·.1) = srcs ∧ (∀ q ∈ r, q.2.isOk = false) ∧ r = trace auth srcs s := by
  obtain ⟨hany, rfl⟩ := (authFailure_iff auth srcs s r).mp h
  exact ⟨trace_sources auth srcs s, fun q hq => by simpa using List.any_eq_false.mp hany q hq, rfl⟩

/-- It raises `AuthFailure` exactly when no source succeeds (in particular for the empty list). -/
theorem fails_iff_none_succeeds (auth : σ → S → Out ε ρ × S) (srcs : List σ) (s : S) :
    (∃ r, authenticate auth srcs s = .authFailure r) ↔ (trace auth srcs s).any (·.2.isOk) = false :=
  ⟨fun ⟨r, h⟩ => ((authFailure_iff auth srcs s r).mp h).1, fun h => ⟨_, (authFailure_iff auth srcs s _).mpr ⟨h, rfl⟩⟩⟩

/-! ## outcome vectors (the form the statement quantifies over): the i-th call yields `os[i]` -/

private theorem trace_scripted (d : ε) (srcs : List σ) (os : List (Out ε ρ))
    (h : srcs.length = os.length) : trace (scripted d) srcs os = srcs.zip os := by
  induction srcs generalizing os with
  | nil => rfl
  | cons x xs ih =>
    cases os with
    | nil => simp at h
    | cons o os => simp [trace, scripted, ih os (by simpa using h)]

/-- For every source list and every outcome vector of the same length. -/
theorem authenticate_outcome_vector (d : ε) (srcs : List σ) (os : List (Out ε ρ))
    (h : srcs.length = os.length) :
    authenticate (scripted d) srcs os =
      if os.any (·.isOk) then .returned (attempted (srcs.zip os))
      else .authFailure (srcs.zip os) := by
  have hany : (srcs.zip os).any (·.2.isOk) = os.any (·.isOk) := by
    have := List.any_map (f := Prod.snd) (p := Out.isOk) (l := srcs.zip os)
    rw [List.map_snd_zip (by omega)] at this
    exact this.symm
  rw [authenticate_spec, trace_scripted d srcs os h, hany]
  cases ho : os.any (·.isOk)
  · rw [attempted_of_failure _ (hany.trans ho)]
  · rfl

/-! ## several `authenticate()` calls on the same strategy object

Model with object identity (`Obj.heap`): each call's outcome is the one-shot specification of *that call's* sources
(and the world state it starts from) for **every prior history**, the result object is a fresh one, and no result
object handed out by an earlier call is ever changed. -/

private theorem appendCell_last {α : Type} (pre : List (List α)) (c : List α) (x : α) :
    appendCell (pre ++ [c]) pre.length x = pre ++ [c ++ [x]] := by
  induction pre with
  | nil => rfl
  | cons p ps ih => simp [appendCell, ih]

private theorem heapLoop_spec (auth : σ → S → Out ε ρ × S) (pre : List (List (σ × Out ε ρ)))
    (srcs : List σ) (c : List (σ × Out ε ρ)) (s : S) :
    heapLoop auth pre.length srcs { heap := pre ++ [c], st := s } =
      ({ heap := pre ++ [c ++ attempted (trace auth srcs s)], st := stAfter auth srcs s },
       (trace auth srcs s).any (·.2.isOk)) := by
  induction srcs generalizing c s with
  | nil => simp [heapLoop, trace, attempted, stAfter]
  | cons x xs ih =>
    simp only [heapLoop, appendCell_last, trace, attempted, stAfter, List.any_cons]
    by_cases hok : (auth x s).1.isOk = true
    · simp [hok]
    · have hok' : (auth x s).1.isOk = false := by simpa using hok
      simp only [hok', Bool.false_eq_true, if_false, Bool.false_or]
      rw [ih]
      simp [List.append_assoc]

/-- **One call, any prior history.**  Whatever result objects already exist (`o.heap`) and whatever state the world
is in: the call allocates a new object, leaves every existing one untouched, and fills the new one with exactly the
one-shot result of this call's sources. -/
theorem authCall_spec (auth : σ → S → Out ε ρ × S) (srcs : List σ) (o : Obj σ ε ρ S) :
    authCall auth srcs o =
      ({ heap := o.heap ++ [attempted (trace auth srcs o.st)], st := stAfter auth srcs o.st },
       o.heap.length, (trace auth srcs o.st).any (·.2.isOk)) := by
  unfold authCall
  have := heapLoop_spec auth o.heap srcs [] o.st
  simp only [List.nil_append] at this
  simp only [this]

/-- the object handed out and the way the call ends are those of the one-shot `authenticate` on this call's sources -/
theorem authCall_eq_one_shot (auth : σ → S → Out ε ρ × S) (srcs : List σ) (o : Obj σ ε ρ S) :
    (let r := authCall auth srcs o
     if r.2.2 then Final.returned (r.1.heap.getD r.2.1 []) else Final.authFailure (r.1.heap.getD r.2.1 []))
      = authenticate auth srcs o.st := by
  rw [authCall_spec, authenticate_spec]
  simp

/-- **A whole history of calls on one strategy object.**  Afterwards the heap consists of the objects that existed
before — unchanged — followed by one object per call, the k-th holding exactly the one-shot result of the k-th
call's sources (run from the world state that call started in); the identities handed out are fresh and distinct. -/
theorem session_spec (auth : σ → S → Out ε ρ × S) (calls : List (List σ)) (o : Obj σ ε ρ S) :
    (session auth calls o).1.heap =
      o.heap ++ List.zipWith (fun srcs s => attempted (trace auth srcs s)) calls (statesOf auth calls o.st) ∧
    (session auth calls o).2 =
      List.zipWith (fun (i : Nat) (p : List σ × S) => (o.heap.length + i, (trace auth p.1 p.2).any (·.2.isOk)))
        (List.range calls.length) (calls.zip (statesOf auth calls o.st)) := by
  induction calls generalizing o with
  | nil => simp [session, statesOf]
  | cons srcs rest ih =>
    simp only [session, authCall_spec, statesOf]
    obtain ⟨h1, h2⟩ := ih { heap := o.heap ++ [attempted (trace auth srcs o.st)], st := stAfter auth srcs o.st }
    refine ⟨?_, ?_⟩
    · rw [h1]; simp [List.append_assoc]
    · rw [h2]
      simp only [List.length_cons, List.range_succ_eq_map, List.zip_cons_cons, List.zipWith_cons_cons,
        Nat.add_zero, List.zipWith_map_left, List.length_append]
      congr 2
      funext i p
      simp only [List.length_nil, Prod.mk.injEq, and_true]
      omega

/-- result objects handed out by earlier calls are never changed by later calls -/
theorem earlier_results_unchanged (auth : σ → S → Out ε ρ × S) (calls : List (List σ)) (o : Obj σ ε ρ S) :
    o.heap <+: (session auth calls o).1.heap := by
  rw [(session_spec auth calls o).1]
  exact List.prefix_append _ _

/-- two calls on a fresh strategy: the second result lists only the second call's attempts, the first is intact -/
example : (session (scripted 0) [["a", "b"], ["c", "d"]]
      (⟨[], [Out.err 1, Out.err 2, Out.err 3, Out.ok "yes"]⟩ : Obj String Nat String (List (Out Nat String)))).1.heap
    = [[("a", .err 1), ("b", .err 2)], [("c", .err 3), ("d", .ok "yes")]] := by decide

/-- the result has one entry per `source.authenticate` call — also when the same (or an equal) source is produced
more than once: entries are appended, never merged -/
theorem one_entry_per_call (auth : σ → S → Out ε ρ × S) (srcs : List σ) (s : S) :
    (authenticate auth srcs s).result.length = (loop auth srcs (init s)).calls.length := by
  rw [(calls_are_attempts auth srcs s).1, List.length_map]

/-- `[P, K, P]`: the re-tried source appears twice, in attempt order, the success last -/
example : authenticate (scripted 0) ["P", "K", "P", "Z"] [Out.err 1, Out.err 2, Out.ok "yes", Out.err 9]
    = .returned [("P", .err 1), ("K", .err 2), ("P", .ok "yes")] := by decide

/-! ## non-vacuity -/

/-- three sources: A raises, B succeeds, C is never tried -/
example : authenticate (scripted 0) ["a", "b", "c"] [Out.err 7, Out.ok "done", Out.err 9]
    = .returned [("a", .err 7), ("b", .ok "done")] := by decide
example : authenticate (scripted 0) ["a", "b"] [(Out.err 7 : Out Nat String), Out.err 8]
    = .authFailure [("a", .err 7), ("b", .err 8)] := by decide
example : authenticate (scripted 0) ([] : List String) ([] : List (Out Nat String)) = .authFailure [] := by
  decide
/-- a genuinely stateful source: succeeds only on the third call overall -/
example : authenticate (fun (x : Nat) (n : Nat) => (if n = 2 then Out.ok x else Out.err n, n + 1))
    [10, 11, 12, 13] 0 = .returned [(10, .err 0), (11, .err 1), (12, .ok 12)] := by decide

end PV.Props.C44
