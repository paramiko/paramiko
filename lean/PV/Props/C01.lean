/-
  C01 — The encrypted packet layer delivers exactly the message stream that was sent.
  Model: PV/Model/Packet.lean (`sendMessage`, `readMessage` with the classic / etm / AEAD / no-cipher paths,
  `read_all` over a fragmenting socket, key / compressor / sequence-number switches).
  Helpers: PV/Model/PacketRoundtrip.lean (paired sender and receiver), PacketFrag.lean (`read_all`, retries),
  PacketWrite.lean (`write_all` under any `send` schedule), PacketRekey.lean (the receiver's rekey accounting).
  Primitives are abstract (`Laws`).
-/
import PV.Model.PacketRoundtrip
import PV.Model.PacketFrag
import PV.Model.PacketWrite
import PV.Model.PacketRekey
import PV.Generated.C03
namespace PV.Props.C01
open PV PV.Packet

/-- the payloads the op list asks the sender to send, in order -/
def sentData {p : Prims} : List (Op p) → List Bytes
  | [] => []
  | .msg d _ :: ops => d :: sentData ops
  | _ :: ops => sentData ops

private theorem msgsOf_data {p : Prims} (ops : List (Op p)) : ∀ (s : Sender p) (seq : Nat) res,
    sendAll s ops = .ok res → (msgsOf seq ops).map (fun m => m.cmd :: m.payload) = sentData ops := by
  induction ops with
  | nil => intro s seq res _; rfl
  | cons op ops ih =>
    intro s seq res hs
    cases op with
    | msg d rnd =>
      obtain ⟨s', w, log⟩ := res
      obtain ⟨o, w1, l1, hsm, hsa, -, -⟩ := sendAll_msg_ok hs
      obtain ⟨_, _, _, hS⟩ := sendMessage_ok hsm
      cases d with
      | nil => exact absurd rfl hS.ne
      | cons c body => exact congrArg ((c :: body) :: ·) (ih o.st _ _ hsa)
    | _ => exact ih _ _ res hs

/-- **One packet.** A receiver keyed like the sender (`PairedSt`: same framing parameters and sequence number,
cipher / AEAD / MAC / compressor states in correspondence) reads, from the sender's bytes followed by anything,
exactly the message sent (type byte, payload, sequence number), consumes exactly the sender's bytes, verifies
exactly what the sender authenticated, and is again keyed like the sender afterwards.  All four receive paths. -/
theorem single_packet {p : Prims} (W : Laws p) {s : Sender p} {r : Receiver p} (hp : PairedSt W s r)
    {d rnd : Bytes} {o : SendOut p} (hs : sendMessage s d rnd = .ok o) (t : Bytes) :
    ∃ o' c body, d = c :: body ∧ runBuf (readMessage r) (o.wire ++ t) = .ok o' t ∧
      o'.msg = ⟨c, body, s.seq⟩ ∧ o'.auth = o.auth ∧ PairedSt W o.st o'.st ∧ o'.raw = o.wire.length :=
  roundtrip1 W hp hs t

/-- **Any history.** For every list of operations (messages of any sizes, cipher switches to any paired suite,
compressor switches, sequence-number resets, end of the initial kex), if the sender got all of it onto the wire
then the receiver that mirrors the switches delivers exactly the sender's messages — same order, same type
bytes, same payloads, same sequence numbers, none lost, duplicated or merged — stops without error, has consumed
exactly the wire, and ends keyed like the sender. -/
theorem roundtrip {p : Prims} (W : Laws p) (ops : List (Op p)) (s : Sender p) (r : Receiver p)
    (hp : PairedSt W s r) (hok : ∀ op ∈ ops, OpOk W op)
    (s' : Sender p) (w : Bytes) (log : List Auth) (hs : sendAll s ops = .ok (s', w, log)) (t : Bytes) :
    (recvAll r ops (w ++ t)).msgs = msgsOf s.seq ops ∧
    (recvAll r ops (w ++ t)).msgs.map (fun m => m.cmd :: m.payload) = sentData ops ∧
    (recvAll r ops (w ++ t)).stop = none ∧ (recvAll r ops (w ++ t)).rest = t ∧
    ∃ r', (recvAll r ops (w ++ t)).st = some r' ∧ PairedSt W s' r' := by
  obtain ⟨h1, h2, h3, -, -, h5⟩ := roundtrip_seq W ops s r hp hok s' w log hs t
  exact ⟨h1, by rw [h1]; exact msgsOf_data ops s s.seq _ hs, h2, h3, h5⟩

/-- **Any fragmentation, any timeouts, any value of the need-rekey flag.** `read_all(n, check_rekey)` on a socket
whose `recv` returns arbitrary non-empty pieces, times out arbitrarily often, with `__need_rekey` having any value
at each timeout: either `NeedRekeyException` is raised — only when `check_rekey` is passed, with NOTHING consumed
from the stream — or exactly the next `n` bytes of the stream are returned (EOF iff the stream is shorter). -/
theorem read_all_any_chunking (data : Bytes) (sched : List Ev) (n : Int) (cr : Bool) :
    (∃ sc, readAll ⟨[], data, sched⟩ n cr = .rekey ⟨[], data, sc⟩ ∧ cr = true ∧ sc.length < sched.length) ∨
    ((n.toNat ≤ data.length →
      ∃ sc, readAll ⟨[], data, sched⟩ n cr = .ok (data.take n.toNat) ⟨[], data.drop n.toNat, sc⟩) ∧
     (data.length < n.toNat → readAll ⟨[], data, sched⟩ n cr = .err .eof)) :=
  readAll_spec data sched n cr

/-- `read_message`, called again after every `NeedRekeyException` as `Transport.run` does, returns what reading the
plain stream returns — whatever the fragmentation, the timeouts and the need-rekey flag (a pending rekey never costs
a byte of the stream). -/
theorem read_message_retry_any_schedule {p : Prims} (r : Receiver p) (data : Bytes) (sched : List Ev) :
    SimRes (readRetry r (sched.length + 1) ⟨[], data, sched⟩) (runBuf (readMessage r) data) :=
  readRetry_sim r data (sched.length + 1) sched (Nat.lt_succ_self _)

/-- **Any history over any fragmentation**: the statement of `roundtrip` for the receiver reading from a socket
with an arbitrary schedule of `recv` sizes, timeouts and need-rekey flag values (`sched : List Ev`). -/
theorem roundtrip_any_fragmentation {p : Prims} (W : Laws p) (ops : List (Op p)) (s : Sender p) (r : Receiver p)
    (hp : PairedSt W s r) (hok : ∀ op ∈ ops, OpOk W op)
    (s' : Sender p) (w : Bytes) (log : List Auth) (hs : sendAll s ops = .ok (s', w, log))
    (t : Bytes) (sched : List Ev) :
    (recvAllSock r ops ⟨[], w ++ t, sched⟩).1 = msgsOf s.seq ops ∧
    (recvAllSock r ops ⟨[], w ++ t, sched⟩).1.map (fun m => m.cmd :: m.payload) = sentData ops ∧
    (recvAllSock r ops ⟨[], w ++ t, sched⟩).2.1 = none := by
  obtain ⟨h1, h2, h3, _, _⟩ := roundtrip W ops s r hp hok s' w log hs t
  obtain ⟨e1, e2⟩ := recvAllSock_eq ops r (w ++ t) sched
  exact ⟨by rw [e1, h1], by rw [e1, h2], by rw [e2, h3]⟩

/-- a schedule that splits the first block around a timeout with the flag set (the situation in which a hoisted
`len(out) == 0` test would drop bytes): the model raises `NeedRekeyException` only at the leading timeout -/
example : (match readAll ⟨[], [1, 2, 3, 4, 5, 6, 7, 8], [.timeout true, .recv 2, .timeout true, .recv 9]⟩ 8 true with
    | .rekey s => (s.data.length, s.sched.length) | _ => (0, 0)) = (8, 3) ∧
    (match readAll ⟨[], [1, 2, 3, 4, 5, 6, 7, 8], [.recv 2, .timeout true, .recv 9]⟩ 8 true with
    | .ok b s => (b.length, s.sched.length) | _ => (0, 0)) = (8, 0) := by decide

/-- **Any behaviour of `send` on the write side.** The sender pushes every packet through `write_all` under an
arbitrary schedule of `send` outcomes per packet (short writes of any size, timeouts, EAGAIN, in any order).  If no
`write_all` raised, the bytes on the socket are the ones `roundtrip` is about, so the receiver — reading under any
fragmentation / timeout / need-rekey schedule — delivers exactly the messages sent. -/
theorem roundtrip_any_write_schedule {p : Prims} (W : Laws p) (ops : List (Op p)) (s : Sender p) (r : Receiver p)
    (hp : PairedSt W s r) (hok : ∀ op ∈ ops, OpOk W op) (wscheds : List (List SendEv))
    (s' : Sender p) (w : Bytes) (hs : sendAllW s ops wscheds = .ok (s', w)) (t : Bytes) (sched : List Ev) :
    (recvAllSock r ops ⟨[], w ++ t, sched⟩).1 = msgsOf s.seq ops ∧
    (recvAllSock r ops ⟨[], w ++ t, sched⟩).1.map (fun m => m.cmd :: m.payload) = sentData ops ∧
    (recvAllSock r ops ⟨[], w ++ t, sched⟩).2.1 = none := by
  obtain ⟨log, hl⟩ := sendAllW_eq ops s wscheds s' w hs
  exact roundtrip_any_fragmentation W ops s r hp hok s' w log hl t sched

/-- `write_all`: the bytes accepted by the socket are the packet (on return) or a proper prefix (on `EOFError`) -/
theorem write_all_any_schedule (sched : List SendEv) (out : Bytes) (it : Nat) (w : Bytes) :
    (∀ wr, writeAll sched out it w = .ok wr → wr = w ++ out) ∧
    (∀ wr, writeAll sched out it w = .eof wr → ∃ k, wr = w ++ out.take k ∧ k < out.length) :=
  writeAll_spec sched out it w

/-- **Rekey accounting: in-flight ≤ allowance ⇒ nothing is lost.** `read_message` counts packets and bytes; when its
own threshold (`REKEY_PACKETS` / `REKEY_BYTES`) is reached it requests a rekey, and from then on it tolerates
`REKEY_PACKETS_OVERFLOW_MAX` packets / `REKEY_BYTES_OVERFLOW_MAX` bytes before raising "Remote transport is ignoring
rekey requests".  For every history: if every key epoch of what the sender put on the wire (`sentAccts`: its packet
sizes between key switches) stays strictly below the allowance `L.ovPackets` / `L.ovBytes` — counting from the
overflow counters' current values — then the receiver WITH the accounting delivers exactly the messages sent and
stops without error, whatever the thresholds are and whenever the request is triggered. -/
theorem roundtrip_with_rekey_accounting {p : Prims} (W : Laws p) (L : Limits) (ops : List (Op p))
    (s : Sender p) (r : Receiver p) (k : RekeySt)
    (hp : PairedSt W s r) (hok : ∀ op ∈ ops, OpOk W op)
    (s' : Sender p) (w : Bytes) (log : List Auth) (hs : sendAll s ops = .ok (s', w, log)) (t : Bytes)
    (hInFlight : RunOk L k.ovPackets k.ovBytes (sentAccts s ops)) :
    recvAllK L r k ops (w ++ t) = (msgsOf s.seq ops, none) := by
  obtain ⟨h1, h2, -, -, hacc, -⟩ := roundtrip_seq W ops s r hp hok s' w log hs t
  obtain ⟨k', hk'⟩ := accountAll_ok L (sentAccts s ops) k k.ovPackets k.ovBytes (Nat.le_refl _) (Nat.le_refl _) hInFlight
  rw [← hacc] at hk'
  rw [recvAllK_spec L ops r k (w ++ t) k' hk', h1, h2]

/-- the accounting never alters what is delivered before it raises: on ANY byte string, if the accounting of the
decoded packets does not raise, the deliveries and the stop reason are those of the receiver without accounting -/
theorem accounting_is_transparent {p : Prims} (L : Limits) (ops : List (Op p)) (r : Receiver p) (k k' : RekeySt)
    (buf : Bytes) (h : accountAll L k (recvAll r ops buf).accts = .ok k') :
    recvAllK L r k ops buf = ((recvAll r ops buf).msgs, (recvAll r ops buf).stop) :=
  recvAllK_spec L ops r k buf k' h

/-- `shippedLimits` are the constants of `class Packetizer` (regenerated from the source on every run).  The
accounting theorems above hold for every `Limits`; the example below instantiates them with these. -/
theorem shipped_limits_eq_generated :
    (shippedLimits.rekeyPackets : Int) = PV.Generated.C03.rekey_packets ∧
    (shippedLimits.rekeyBytes : Int) = PV.Generated.C03.rekey_bytes ∧
    (shippedLimits.ovPackets : Int) = PV.Generated.C03.rekey_packets_overflow_max ∧
    (shippedLimits.ovBytes : Int) = PV.Generated.C03.rekey_bytes_overflow_max := by
  decide

/-- with the shipped allowance of 2^29 packets / bytes, 80 packets of 100 bytes in flight behind the receiver's
request are fine; an allowance of 64 packets does not cover 80 packets behind a request made after the 5th (the hypothesis is not vacuous either way) -/
example : RunOk shippedLimits 0 0 ((List.replicate 80 (Acct.pkt 100)) ++ [.switch] ++ List.replicate 80 (Acct.pkt 52)) ∧
    (match accountAll ⟨5, 1000000, 64, 1000000⟩ {} (List.replicate 80 (Acct.pkt 52)) with
     | .error e => e == .ignoringRekey
     | .ok _ => false) = true := by
  decide +kernel

/-- **Concurrent senders linearise** (facts read from the AST of `Packetizer.send_message` on every run): there is
ONE `__write_lock` region, entered by an unconditional blocking `acquire()` (no timeout / non-blocking argument whose
result could be ignored), left in a `finally`, and every access to the sender's shared per-direction state — the
stateful compressor, the sequence number, the cipher / MAC engines and IV, `_build_packet`, `write_all`, the rekey
counters — lies inside it.  Hence with any number of threads in `send_message` the wire is what the sequential
sender (`sendAll`, `sendAllW`) produces for the messages in lock order, and `roundtrip` applies to that order. -/
theorem send_message_linearises_generated :
    PV.Generated.C03.send_lock_acquire_unconditional = true ∧
    PV.Generated.C03.send_lock_released_in_finally = true ∧
    PV.Generated.C03.send_shared_state_outside_lock = 0 ∧
    0 < PV.Generated.C03.send_shared_state_inside_lock := by
  decide

/-- Every suite of the generated table meets the side conditions of `PairedSt` / `CiphPaired`:
block size ≥ 4, AES-GCM rows carry the 16-byte tag as MAC length. -/
theorem suites_meet_side_conditions :
    ∀ r ∈ PV.Generated.C03.outRows, 4 ≤ r.block ∧ (r.aead = true → r.macLen = 16) ∧ r.macLen ≤ 64 := by
  decide +kernel

/-! ## the hypotheses are satisfiable: toy primitives -/

/-- the toy primitives obey all laws (block size of a toy context: 8, 16, 24 or 32 depending on its key byte) -/
def toyLaws : Laws toyPrims where
  blk := fun st => 8 * (st.1 % 4 + 1)
  Paired := toyPaired
  ZPaired := fun a b => a = b
  tagLen := 16
  ciph := toyCipherLaws _ (fun _ _ => rfl)
  aead := toyAeadLaws
  comp := toyCompLaws

private def exOps : List (Op toyPrims) :=
  [.msg [20, 1, 2] [], .kexDone,
   .setCipher 16 12 false (.etm (1, 0) [7, 7]) (.etm (1, 0) [7, 7]),
   .msg [21] [9, 9, 9], .setComp (some (5 : Nat)) (some (5 : Nat)), .msg [94, 0, 0, 0, 1, 65, 66, 67] [1],
   .setCipher 16 16 false (.aead (3 : Nat) [0, 0, 0, 1, 255, 255, 255, 255, 255, 255, 255, 254]) (.aead (3 : Nat) [0, 0, 0, 1, 255, 255, 255, 255, 255, 255, 255, 254]),
   .resetSeq, .msg [5, 5] [],
   .setCipher 8 20 true (.classic (0, 3) [1]) (.classic (0, 3) [1]), .msg [6, 6, 6, 6, 6, 6, 6, 6, 6] [4, 4]]

/-- a concrete history with three key switches, a compressor switch and a sequence reset: the sender succeeds,
every switch is paired, and (by evaluation) the receiver returns the five messages -/
example : (∃ res, sendAll (p := toyPrims) {} exOps = .ok res) ∧ (∀ op ∈ exOps, OpOk toyLaws op) ∧
    PairedSt toyLaws ({} : Sender toyPrims) ({} : Receiver toyPrims) := by
  refine ⟨⟨_, rfl⟩, ?_, ⟨rfl, rfl, rfl, rfl, by decide, rfl, trivial⟩⟩
  -- the three cipher switches and the compressor switch are the ops with something to show
  have etm : OpOk toyLaws (.setCipher 16 12 false (.etm (1, 0) [7, 7]) (.etm (1, 0) [7, 7])) :=
    ⟨by decide, rfl, rfl, rfl, toyMacOk _ _ (by decide)⟩
  have gcm : OpOk toyLaws (.setCipher 16 16 false (.aead (3 : Nat) [0, 0, 0, 1, 255, 255, 255, 255, 255, 255, 255, 254])
      (.aead (3 : Nat) [0, 0, 0, 1, 255, 255, 255, 255, 255, 255, 255, 254])) := ⟨by decide, rfl, rfl, rfl⟩
  have cbc : OpOk toyLaws (.setCipher 8 20 true (.classic (0, 3) [1]) (.classic (0, 3) [1])) :=
    ⟨by decide, rfl, rfl, rfl, toyMacOk _ _ (by decide)⟩
  have zip : OpOk toyLaws (.setComp (some (5 : Nat)) (some (5 : Nat))) := rfl
  simp only [exOps, List.forall_mem_cons]
  exact ⟨trivial, trivial, etm, trivial, zip, trivial, gcm, trivial, trivial, cbc, trivial, fun _ h => nomatch h⟩

/-- … and the model, evaluated on that history, delivers the five messages with the expected sequence numbers -/
example : (match sendAll (p := toyPrims) {} exOps with
    | .ok (_, w, _) => (recvAll ({} : Receiver toyPrims) exOps w).msgs.map (fun m => (m.cmd, m.seqno))
    | .error _ => []) = [(20, 0), (21, 1), (94, 2), (5, 0), (6, 1)] := by
  decide +kernel

end PV.Props.C01
