/-
  C31 — SFTP attribute changes have their local-filesystem meaning.
  Property theorems only.  Model: PV/Model/SetAttr.lean (client attribute construction, wire round trip via the
  C33 model, `SFTPServer.set_file_attr` as a sequence of OS calls, as repaired).  Partial: the OS calls
  themselves are parameters (`OS`); what is assumed about them is stated as `OSLaws`.
-/
import PV.Props.C33
import PV.Model.SetAttr
import PV.Model.CanonLemmas
import PV.Model.HandleProgLemmas
namespace PV.Props.C31
open PV PV.Wire PV.SftpAttr PV.SetAttr PV.Generated.C33

/-- what is assumed of the operating system: only `truncate` touches the contents, and it keeps the leading
bytes and pads with zeros (POSIX truncate(2)) -/
structure OSLaws (os : OS) : Prop where
  chmod_content : ∀ f m, (os.chmod f m).content = f.content
  chown_content : ∀ f u g, (os.chown f u g).content = f.content
  utime_content : ∀ f a t, (os.utime f a t).content = f.content
  truncate_content : ∀ f n, (os.truncate f n).content = truncated f.content n

private theorem op_wf (op : Op) (h : op.InRange) : op.attrs.WF := by
  cases op <;> simp only [Op.InRange] at h <;>
    refine ⟨?_, ?_, ?_, ?_, ?_, ?_, rfl, rfl, by simp [Op.attrs, Attrs.empty], by simp [Op.attrs, Attrs.empty],
      by simp [Op.attrs, Attrs.empty]⟩ <;>
    simp [Op.attrs, Attrs.empty] <;> omega

/-- **Pass-through.** For every client operation (`chmod`, `chown`, `utime`, `truncate`, by path or by handle) with
in-range arguments: the request encodes, the server decodes it, and `set_file_attr` makes exactly one OS
call — the matching one, with exactly the client's arguments. -/
theorem client_op_calls (op : Op) (h : op.InRange) : endToEnd op = .ok [op.call] := by
  have hwf := op_wf op h
  obtain ⟨bs, hbs⟩ := PV.Props.C33.pack_total op.attrs hwf
  have hrt := PV.Props.C33.roundtrip op.attrs hwf [] [] bs hbs
  simp only [List.nil_append, List.append_nil, List.length_nil, Nat.zero_add] at hrt
  obtain ⟨f1, f2, f3, f4, _, _, _⟩ := PV.Props.C33.flags_exact op.attrs
  unfold endToEnd serverCalls
  simp only [hbs, bind, Except.bind, hrt]
  unfold calls
  simp only [f1, f2, f3, f4]
  cases op <;> rfl

/-- **Same effect as the OS call**, whatever the OS does: the file state after the server handled the client's
operation is the state after the corresponding `os.chmod` / `os.chown` / `os.utime` / `os.truncate`. -/
theorem client_op_effect (os : OS) (f : FileSt) (op : Op) (h : op.InRange) :
    ∃ cs, endToEnd op = .ok cs ∧ os.run f cs = os.apply f op.call :=
  ⟨[op.call], client_op_calls op h, rfl⟩

/-! ## `set_file_attr` as four guarded groups -/

private def group (on : Bool) (c : Option Call) : Except Err (List Call) :=
  if on then (match c with | some c => .ok [c] | none => .error .type) else .ok []

/- `do` compiles `let c ← if on then x else pure []` with the rest of the block as a join point `k`
entered from both branches; these two lemmas undo that for the two shapes of group. -/
private theorem group_one (on : Bool) (o : Option Nat) (mk : Nat → Call) (k : List Call → Except Err (List Call)) :
    (if on then (match o with | some m => pure [mk m] | none => .error .type) >>= k else pure [] >>= k)
      = group on (o.map mk) >>= k := by
  cases on <;> cases o <;> rfl

private theorem group_two (on : Bool) (x y : Option Nat) (mk : Nat → Nat → Call)
    (k : List Call → Except Err (List Call)) :
    (if on then (match x, y with | some u, some g => pure [mk u g] | _, _ => .error .type) >>= k
      else pure [] >>= k) = group on (x.bind fun u => y.map (mk u)) >>= k := by
  cases on <;> cases x <;> cases y <;> rfl

private theorem calls_eq (flags : Nat) (a : Attrs) : calls flags a = (do
    let c1 ← group (has flags FLAG_PERMISSIONS) (a.mode.map .chmod)
    let c2 ← group (has flags FLAG_UIDGID) (a.uid.bind fun u => a.gid.map (.chown u))
    let c3 ← group (has flags FLAG_AMTIME) (a.atime.bind fun x => a.mtime.map (.utime x))
    let c4 ← group (has flags FLAG_SIZE) (a.size.map .truncate)
    pure (c1 ++ c2 ++ c3 ++ c4)) :=
  (group_one _ _ .chmod _).trans <| congrArg _ <| funext fun _ =>
  (group_two _ _ _ .chown _).trans <| congrArg _ <| funext fun _ =>
  (group_two _ _ _ .utime _).trans <| congrArg _ <| funext fun _ =>
  group_one _ _ .truncate _

private theorem group_ok_iff (on : Bool) (c : Option Call) (l : List Call) :
    group on c = .ok l ↔ (on = true → c.isSome) ∧ l = if on then c.toList else [] := by
  cases on <;> cases c <;> simp [group, eq_comm]

private theorem group_mem {on : Bool} {c : Option Call} {l : List Call} {x : Call}
    (h : group on c = .ok l) (hx : x ∈ l) : c = some x := by
  rw [((group_ok_iff on c l).mp h).2] at hx
  cases on <;> simp_all

private theorem bind_ok {α β : Type} {x : Except Err α} {k : α → Except Err β} {b : β}
    (h : x >>= k = .ok b) : ∃ a, x = .ok a ∧ k a = .ok b := by
  cases x with
  | error e => cases h
  | ok a => exact ⟨a, rfl, h⟩

private theorem pair_isSome {x y : Option Nat} (mk : Nat → Nat → Call) (hx : x.isSome) (hy : y.isSome) :
    (x.bind fun u => y.map (mk u)).isSome := by
  cases x <;> cases y <;> simp_all

private theorem calls_total (flags : Nat) (a : Attrs)
    (hm : has flags FLAG_PERMISSIONS → a.mode.isSome)
    (hu : has flags FLAG_UIDGID → a.uid.isSome ∧ a.gid.isSome)
    (ht : has flags FLAG_AMTIME → a.atime.isSome ∧ a.mtime.isSome)
    (hs : has flags FLAG_SIZE → a.size.isSome) : ∃ cs, calls flags a = .ok cs := by
  have g1 := (group_ok_iff (has flags FLAG_PERMISSIONS) (a.mode.map .chmod) _).mpr
    ⟨fun h => by simpa using hm h, rfl⟩
  have g2 := (group_ok_iff (has flags FLAG_UIDGID) _ _).mpr
    ⟨fun h => pair_isSome .chown (hu h).1 (hu h).2, rfl⟩
  have g3 := (group_ok_iff (has flags FLAG_AMTIME) _ _).mpr
    ⟨fun h => pair_isSome .utime (ht h).1 (ht h).2, rfl⟩
  have g4 := (group_ok_iff (has flags FLAG_SIZE) (a.size.map .truncate) _).mpr
    ⟨fun h => by simpa using hs h, rfl⟩
  rw [calls_eq, g1, g2, g3, g4]
  exact ⟨_, rfl⟩

/-- the server never hands `None` to an OS call, whatever bytes the request carries: `_unpack` fills in every
field whose flag it saw -/
theorem server_calls_total (wire : Bytes) : ∃ cs, serverCalls wire = .ok cs := by
  obtain ⟨flags, a, _, e, hs, hu, hg, hm, hat, hmt⟩ := unpack_present { content := wire, pos := 0 }
  unfold serverCalls
  rw [e]
  exact calls_total flags a (fun h => hm.trans h) (fun h => ⟨hu.trans h, hg.trans h⟩)
    (fun h => ⟨hat.trans h, hmt.trans h⟩) (fun h => hs.trans h)

private theorem run_content_of_no_truncate (os : OS) (hl : OSLaws os) (cs : List Call) (f : FileSt)
    (h : ∀ c ∈ cs, ∀ n, c ≠ Call.truncate n) : (os.run f cs).content = f.content := by
  induction cs generalizing f with
  | nil => rfl
  | cons c r ih =>
    simp only [OS.run, List.foldl_cons]
    have := ih (os.apply f c) (fun c' hc' => h c' (by simp [hc']))
    simp only [OS.run] at this
    rw [this]
    cases c with
    | chmod m => exact hl.chmod_content f m
    | chown u g => exact hl.chown_content f u g
    | utime a t => exact hl.utime_content f a t
    | truncate n => exact absurd rfl (h _ (by simp) n)

/-- **Truncation keeps the leading bytes and pads with zeros** — for every attribute block a SETSTAT/FSETSTAT can
carry (any combination of groups): if it carries a size `n` the contents become `take n c ++ zeros (n - |c|)`,
otherwise they are untouched. -/
theorem contents_after (os : OS) (hl : OSLaws os) (f : FileSt) (flags : Nat) (a : Attrs) (cs : List Call)
    (h : calls flags a = .ok cs) :
    (os.run f cs).content =
      if has flags FLAG_SIZE then (match a.size with | some n => truncated f.content n | none => f.content)
      else f.content := by
  rw [calls_eq] at h
  obtain ⟨c1, h1, h⟩ := bind_ok h
  obtain ⟨c2, h2, h⟩ := bind_ok h
  obtain ⟨c3, h3, h⟩ := bind_ok h
  obtain ⟨c4, h4, h⟩ := bind_ok h
  cases h
  -- the first three groups never truncate
  have keep : (os.run f (c1 ++ c2 ++ c3)).content = f.content := by
    apply run_content_of_no_truncate os hl
    intro c hc n e
    subst e
    simp only [List.mem_append] at hc
    rcases hc with (hc | hc) | hc
    · simpa using group_mem h1 hc
    · simpa [Option.bind_eq_some_iff] using group_mem h2 hc
    · simpa [Option.bind_eq_some_iff] using group_mem h3 hc
  have hrun : os.run f (c1 ++ c2 ++ c3 ++ c4) = os.run (os.run f (c1 ++ c2 ++ c3)) c4 :=
    List.foldl_append ..
  rw [hrun, ((group_ok_iff _ _ _).mp h4).2]
  cases has flags FLAG_SIZE
  · exact keep
  · cases a.size with
    | none => exact keep
    | some n => exact (hl.truncate_content _ n).trans (congrArg (truncated · n) keep)

/-- the client's `truncate(size)`: contents' = take size c ++ zeros (size - |c|) -/
theorem truncate_contents (os : OS) (hl : OSLaws os) (f : FileSt) (n : Nat) (h : n < 18446744073709551616) :
    ∃ cs, endToEnd (.truncate n) = .ok cs ∧ (os.run f cs).content = f.content.take n ++ zeros (n - f.content.length) := by
  refine ⟨_, client_op_calls (.truncate n) h, ?_⟩
  simp [OS.run, OS.apply, Op.call, hl.truncate_content, truncated]

/-- … and `chmod` / `chown` / `utime` leave the contents alone -/
theorem other_ops_keep_contents (os : OS) (hl : OSLaws os) (f : FileSt) (op : Op) (h : op.InRange)
    (hop : ∀ n, op ≠ .truncate n) :
    ∃ cs, endToEnd op = .ok cs ∧ (os.run f cs).content = f.content := by
  refine ⟨_, client_op_calls op h, ?_⟩
  cases op with
  | truncate n => exact absurd rfl (hop n)
  | chmod m => simp [OS.run, OS.apply, Op.call, hl.chmod_content]
  | chown u g => simp [OS.run, OS.apply, Op.call, hl.chown_content]
  | utime a t => simp [OS.run, OS.apply, Op.call, hl.utime_content]

/-! ## by-path operations name the file relative to the client's working directory -/

/-- **Which file.** For each of the four by-path operations alike, the SETSTAT request names `_adjust_cwd(path)` and
carries exactly the matching call (the operation kind does not influence the path). -/
theorem by_path_request (cwd : Option Bytes) (path : Bytes) (op : Op) (h : op.InRange) :
    byPath cwd path op = (adjustCwd cwd path, .ok [op.call]) := by
  simp [byPath, client_op_calls op h]

/-- an absolute path is sent as it is; without `chdir` every path is -/
theorem adjust_absolute (cwd : Option Bytes) (path : Bytes) (h : path.head? = some 47) :
    adjustCwd cwd path = path := by
  cases cwd <;> simp [adjustCwd, h]

theorem adjust_none (path : Bytes) : adjustCwd none path = path := rfl

/-- a relative path is appended to the working directory with exactly one separator -/
theorem adjust_relative (c path : Bytes) (h : path.head? ≠ some 47) :
    adjustCwd (some c) path = if c = [47] then 47 :: path else c ++ 47 :: path := by
  by_cases hc : c = [47]
  · subst hc; simp [adjustCwd, h]
  · simp [adjustCwd, h, hc]

private theorem joinSlash_snoc (comps : List Bytes) (name : Bytes) (hne : comps ≠ []) :
    PV.Canon.joinSlash (comps ++ [name]) = PV.Canon.joinSlash comps ++ 47 :: name := by
  induction comps with
  | nil => exact absurd rfl hne
  | cons c r ih =>
    cases r with
    | nil => simp [PV.Canon.joinSlash, PV.Canon.slash]
    | cons d r' =>
      have := ih (by simp)
      simp only [List.cons_append, PV.Canon.joinSlash] at this ⊢
      rw [this]; simp [PV.Canon.slash]

/-- **Under the working directory.** With a canonical working directory (what `chdir` stores: the server's
`canonicalize`) other than the root and a plain name, the server-side canonical path of the request is
`cwd/name` — never a same-named file elsewhere. -/
theorem relative_name_resolves_under_cwd (root : Bytes) (comps : List Bytes) (name : Bytes)
    (hroot : root = [PV.Canon.slash] ∨ root = [PV.Canon.slash, PV.Canon.slash])
    (hc : ∀ c ∈ comps, PV.Canon.Proper c) (hne : comps ≠ []) (hn : PV.Canon.Proper name) :
    PV.Canon.canonicalize (adjustCwd (some (root ++ PV.Canon.joinSlash comps)) name)
      = root ++ PV.Canon.joinSlash comps ++ 47 :: name := by
  have hrel : name.head? ≠ some 47 := by
    cases name with
    | nil => simp
    | cons x xs =>
      have : x ≠ PV.Canon.slash := fun e => hn.2.2.2 (by simp [e])
      simpa [PV.Canon.slash] using this
  have hcne : root ++ PV.Canon.joinSlash comps ≠ [47] := by
    cases comps with
    | nil => exact absurd rfl hne
    | cons c r =>
      have hcp := hc c (by simp)
      cases c with
      | nil => exact absurd rfl hcp.1
      | cons x xs =>
        rcases hroot with e | e <;> subst e <;> cases r <;> simp [PV.Canon.joinSlash, PV.Canon.slash]
  rw [adjust_relative _ _ hrel]
  simp only [hcne, if_false]
  -- the request path is the normal form root ++ join (comps ++ [name])
  have hjoin := joinSlash_snoc comps name hne
  have hall : ∀ c ∈ comps ++ [name], PV.Canon.Proper c := by
    intro c hcm
    simp only [List.mem_append, List.mem_singleton] at hcm
    rcases hcm with hcm | hcm
    · exact hc c hcm
    · subst hcm; exact hn
  have hform : root ++ PV.Canon.joinSlash comps ++ 47 :: name
      = root ++ PV.Canon.joinSlash (comps ++ [name]) := by rw [hjoin]; simp [List.append_assoc]
  rw [hform]
  have habs : PV.Canon.isabs (root ++ PV.Canon.joinSlash (comps ++ [name])) = true := by
    rcases hroot with e | e <;> subst e <;> simp [PV.Canon.isabs, PV.Canon.slash]
  unfold PV.Canon.canonicalize
  simp only [habs, if_true]
  exact PV.Canon.normpath_normal root (comps ++ [name]) hroot hall

/-! ## attribute operations on an open handle with write buffering -/

/-- **Buffering is invisible.** For every open mode (append or not), every buffer size, every initial file and
position and every program of writes, `truncate`s and `chmod`/`chown`/`utime` calls on the handle: the served file,
once the pending data is written (which `close` does), is exactly what the local file object produces for the same
program (every write taking effect at once, at the position or — in append mode — at the end of file). -/
theorem handle_program_local_meaning (file : Bytes) (p0 : Nat) (append : Bool) (bufsize : Nat)
    (prog : List PV.HandleProg.Op) :
    PV.HandleProg.settled
      (PV.HandleProg.run { file := file, realpos := p0, wbuf := [], append := append, bufsize := bufsize } prog).1
      = (PV.HandleProg.refRun { file := file, pos := p0, append := append } prog).file := by
  have h := PV.HandleProg.run_inv prog
    { file := file, realpos := p0, wbuf := [], append := append, bufsize := bufsize }
    { file := file, pos := p0, append := append }
    ⟨by simp [PV.HandleProg.settled, PV.HandleProg.apply], by simp, rfl, fun _ => rfl⟩
  exact h.1.symm

/-- `close` (and `flush`) leaves nothing pending and makes the served file the settled one -/
theorem close_settles (s : PV.HandleProg.St) :
    (PV.HandleProg.step s .close).1.file = PV.HandleProg.settled s ∧ (PV.HandleProg.step s .close).1.wbuf = [] :=
  ⟨(PV.HandleProg.flush_settled s).1, (PV.HandleProg.flush_settled s).2.1⟩

/-- **Truncate on a handle.** The resize applies to the file INCLUDING everything written through the handle so
far (the buffer is flushed first, the FSETSTAT goes out after the WRITE): contents' = take n c ++ zeros (n − |c|)
where `c` is the settled file; nothing stays pending. -/
theorem handle_truncate (s : PV.HandleProg.St) (n : Nat) :
    (PV.HandleProg.step s (.truncate n)).1.file = PV.HandleProg.truncated (PV.HandleProg.settled s) n ∧
      (PV.HandleProg.step s (.truncate n)).1.wbuf = [] ∧
      (PV.HandleProg.step s (.truncate n)).2 = (PV.HandleProg.flush s).2 ++ [PV.HandleProg.Ev.T n] := by
  obtain ⟨f1, f2, _⟩ := PV.HandleProg.flush_settled s
  simp [PV.HandleProg.step, f1, f2]

/-! ## the hypotheses are satisfiable; the classic case -/

theorem toy_laws : OSLaws toyOS := ⟨fun _ _ => rfl, fun _ _ _ => rfl, fun _ _ _ => rfl, fun _ _ => rfl⟩

example : (Op.truncate 5).InRange := by simp [Op.InRange]

/-- truncating "hello world" to 5 keeps "hello" (the unrepaired code produced five NULs) -/
example : (toyOS.run ⟨[104, 101, 108, 108, 111, 32, 119, 111, 114, 108, 100], 420, 0, 0, 1, 2⟩
    [Call.truncate 5]).content = [104, 101, 108, 108, 111] := by decide +kernel

example : truncated [1, 2] 4 = [1, 2, 0, 0] := by decide +kernel

/-- after `chdir("/sub")`, `truncate("f", …)` names `/sub/f`, not `/f` -/
example : adjustCwd (some [47, 115, 117, 98]) [102] = [47, 115, 117, 98, 47, 102] := by decide +kernel

/-- append mode, 4096-byte buffer: "AAAAAAAA", write "bbbb", truncate 16, close ↦ "AAAAAAAAbbbb" + 4 zeros,
with the WRITE on the wire before the FSETSTAT -/
example : PV.HandleProg.run ⟨[65, 65, 65, 65, 65, 65, 65, 65], 8, [], true, 4096⟩
    [.write [98, 98, 98, 98], .truncate 16, .close]
    = (⟨[65, 65, 65, 65, 65, 65, 65, 65, 98, 98, 98, 98, 0, 0, 0, 0], 12, [], true, 4096⟩,
       [.W 8 4, .T 16]) := by decide +kernel

end PV.Props.C31
