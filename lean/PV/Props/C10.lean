/-
  C10 — Long-lived sessions are rekeyed and peers that refuse rekeying are dropped.
  Model: PV/Model/Rekey.lean (thresholds are parameters: every theorem holds for every threshold value); `step` one
  operation at a time: PV/Model/RekeyLemmas.lean.
-/
import PV.Model.RekeyLemmas
import PV.Generated.C11
import PV.Model.RunLoop
namespace PV.Props.C10
open PV.Rekey

/-- **Trigger (outbound).** Right after any packet is sent, in any state: if the packets or bytes sent under
the current keys have reached the threshold, a rekey is requested. -/
theorem sent_over_threshold_requests_rekey (L : Limits) (s : St) (len : Nat) :
    let s' := step L s (.send len)
    (s'.sentPackets ≥ L.rp ∨ s'.sentBytes ≥ L.rb) → s'.needRekey = true := by
  simp only [step]
  split
  · intro _; rfl
  · rename_i h
    intro hover
    simp only [not_and, Decidable.not_not] at h
    exact h hover

/-- **Trigger (inbound).** Right after any packet is received without the overflow error: if the packets or
bytes received under the current keys have reached the threshold, a rekey is requested. -/
theorem received_over_threshold_requests_rekey (L : Limits) (s : St) (len : Nat) :
    let s' := step L s (.recv len)
    (s'.recvPackets ≥ L.rp ∨ s'.recvBytes ≥ L.rb) → s'.needRekey = true := by
  simp only [step]
  by_cases hn : s.needRekey = true
  · simp only [hn, if_true]
    split <;> (intro _; rfl)
  · simp only [hn, Bool.false_eq_true, if_false]
    split
    · intro _; rfl
    · rename_i h; intro hover; exact absurd hover h

/-- **The request is only withdrawn when both directions have switched keys**, and then all counters of a
direction were reset by that direction's own switch: a step that clears the flag is a cipher switch that
completes the pair. -/
theorem flag_cleared_only_when_both_switched (L : Limits) (s : St) (o : Op)
    (h1 : s.needRekey = true) (h2 : (step L s o).needRekey = false) :
    (o = .setOut ∧ s.initCount ||| 1 = 3 ∧ (step L s o).sentPackets = 0 ∧ (step L s o).sentBytes = 0) ∨
    (o = .setIn ∧ s.initCount ||| 2 = 3 ∧ (step L s o).recvPackets = 0 ∧ (step L s o).recvBytes = 0 ∧
      (step L s o).ovPackets = 0 ∧ (step L s o).ovBytes = 0) := by
  by_cases ho : o = .setOut
  · subst ho; rw [step_setOut] at h2 ⊢
    exact .inl ⟨rfl, by simpa [h1] using h2, rfl, rfl⟩
  by_cases hi : o = .setIn
  · subst hi; rw [step_setIn] at h2 ⊢
    exact .inr ⟨rfl, by simpa [h1] using h2, rfl, rfl, rfl, rfl⟩
  rw [(kept_unless_switch L s o ho hi).1 h1] at h2; cases h2

/-- counters of one direction are reset by nothing but that direction's key switch -/
theorem counters_reset_only_by_switch (L : Limits) (s : St) (o : Op) :
    ((step L s o).sentPackets < s.sentPackets → o = .setOut) ∧
    ((step L s o).recvPackets < s.recvPackets → o = .setIn) := by
  cases o with
  | setOut => rw [step_setOut]; exact ⟨fun _ => rfl, fun h => absurd h (Nat.lt_irrefl _)⟩
  | setIn => rw [step_setIn]; exact ⟨fun h => absurd h (Nat.lt_irrefl _), fun _ => rfl⟩
  | send len => simp only [step, apply_ite St.sentPackets, apply_ite St.recvPackets, ite_self]; omega
  | recv len => simp only [step, apply_ite St.sentPackets, apply_ite St.recvPackets, ite_self]; omega
  | loopTop => simp only [step, apply_ite St.sentPackets, apply_ite St.recvPackets, ite_self]; omega
  | peerKexInit => exact ⟨fun h => absurd h (Nat.lt_irrefl _), fun h => absurd h (Nat.lt_irrefl _)⟩

/-- invariant: while a rekey is pending and no error was raised, what was received since the request is below
the allowance -/
def Inv (L : Limits) (s : St) : Prop :=
  s.err = false → s.needRekey = true → s.ovPackets < L.op ∧ s.ovBytes < L.ob

theorem inv_step (L : Limits) (hop : 0 < L.op) (hob : 0 < L.ob) (s : St) (o : Op) (hi : Inv L s) :
    Inv L (stepE L s o) := by
  unfold stepE
  by_cases he : s.err = true
  · simp only [he, if_true]; exact hi
  · have he' : s.err = false := by simpa using he
    simp only [he', Bool.false_eq_true, if_false]
    cases o with
    | send len =>
      simp only [step]
      by_cases hc : (s.sentPackets + 1 ≥ L.rp ∨ s.sentBytes + len ≥ L.rb) ∧ ¬ s.needRekey = true
      · simp only [hc, not_false_eq_true, and_self, if_true]
        intro _ _; exact ⟨hop, hob⟩
      · simp only [hc, if_false]
        intro e' n'; exact hi e' n'
    | recv len =>
      simp only [step]
      by_cases hn : s.needRekey = true
      · simp only [hn, if_true]
        by_cases hc : s.ovPackets + 1 ≥ L.op ∨ s.ovBytes + len ≥ L.ob
        · simp only [hc, if_true]; intro e'; simp at e'
        · simp only [hc, if_false]
          intro _ _
          simp only [not_or, Nat.not_le] at hc
          exact hc
      · simp only [hn, Bool.false_eq_true, if_false]
        by_cases hc : s.recvPackets + 1 ≥ L.rp ∨ s.recvBytes + len ≥ L.rb
        · simp only [hc, if_true]; intro _ _; exact ⟨hop, hob⟩
        · simp only [hc, if_false]; intro _ n'; simp at n'
    | setOut =>
      rw [step_setOut]
      intro e' n'
      exact hi e' (Bool.and_eq_true _ _ ▸ n').2
    | setIn =>
      rw [step_setIn]
      intro _ _; exact ⟨hop, hob⟩
    | loopTop =>
      simp only [step]
      by_cases hc : s.needRekey = true ∧ ¬ s.inKex = true
      · rw [if_pos hc]; intro e' _; exact hi e' hc.1
      · rw [if_neg hc]; intro e' n'; exact hi e' n'
    | peerKexInit => simp only [step]; intro e' n'; exact hi e' n'

/-- **Overflow bound, every history.**  From a fresh packetizer, after any sequence of operations, as long
as no error was raised the traffic received while a rekey request is pending is below the allowance. -/
theorem overflow_bounded (L : Limits) (hop : 0 < L.op) (hob : 0 < L.ob) (ops : List Op) :
    Inv L (run L {} ops) := by
  have : ∀ s, Inv L s → Inv L (run L s ops) := by
    induction ops with
    | nil => intro s h; exact h
    | cons o ops ih => intro s h; exact ih _ (inv_step L hop hob s o h)
  exact this {} (by intro _ h; simp at h)

private theorem run_err (L : Limits) (s : St) (ops : List Op) (h : s.err = true) : run L s ops = s := by
  induction ops with
  | nil => rfl
  | cons o ops ih => simp only [run, List.foldl_cons, stepE, h, if_true] at ih ⊢; exact ih

/-- with a request pending, a peer that only keeps sending is dropped as soon as the packets or the bytes received
since the request reach their allowance -/
theorem ignoring_peer_dropped (L : Limits) (lens : List Nat) (s : St) (hn : s.needRekey = true)
    (h : (s.ovPackets < L.op ∧ s.ovPackets + lens.length ≥ L.op) ∨
         (s.ovBytes < L.ob ∧ s.ovBytes + lens.sum ≥ L.ob)) :
    (run L s (lens.map .recv)).err = true := by
  induction lens generalizing s with
  | nil => simp at h; omega
  | cons l ls ih =>
    by_cases he : s.err = true
    · rw [run_err L s _ he]; exact he
    · have he' : s.err = false := by simpa using he
      simp only [List.map_cons, run, List.foldl_cons, stepE, he', Bool.false_eq_true, if_false, step, hn, if_true]
      by_cases hc : s.ovPackets + 1 ≥ L.op ∨ s.ovBytes + l ≥ L.ob
      · rw [if_pos hc]
        exact congrArg St.err (run_err L _ (ls.map .recv) rfl)
      · rw [if_neg hc]
        refine ih _ rfl ?_
        simp only [List.length_cons, List.sum_cons] at h
        show (s.ovPackets + 1 < L.op ∧ s.ovPackets + 1 + ls.length ≥ L.op) ∨
          (s.ovBytes + l < L.ob ∧ s.ovBytes + l + ls.sum ≥ L.ob)
        omega

/-- **A peer that ignores the request is dropped.**  Once a rekey is requested, if the peer just keeps sending
(no key switch), the session is terminated at the latest after `REKEY_PACKETS_OVERFLOW_MAX` further packets —
whatever their sizes — … -/
theorem ignoring_peer_dropped_packets (L : Limits) (lens : List Nat) (s : St) (hn : s.needRekey = true)
    (hov : s.ovPackets < L.op) (hlen : s.ovPackets + lens.length ≥ L.op) :
    (run L s (lens.map .recv)).err = true :=
  ignoring_peer_dropped L lens s hn (Or.inl ⟨hov, hlen⟩)

/-- … and at the latest once `REKEY_BYTES_OVERFLOW_MAX` further bytes have arrived. -/
theorem ignoring_peer_dropped_bytes (L : Limits) (lens : List Nat) (s : St) (hn : s.needRekey = true)
    (hov : s.ovBytes < L.ob) (hlen : s.ovBytes + lens.sum ≥ L.ob) :
    (run L s (lens.map .recv)).err = true :=
  ignoring_peer_dropped L lens s hn (Or.inr ⟨hov, hlen⟩)

/-- **The request turns into a KEXINIT.**  After the loop top has run, a pending request always has a key
exchange in progress (ours was sent, or the peer's arrived first). -/
theorem loop_top_starts_kex (L : Limits) (s : St) :
    (step L s .loopTop).needRekey = true → (step L s .loopTop).inKex = true := by
  simp only [step]
  by_cases hc : s.needRekey = true ∧ ¬ s.inKex = true
  · simp [hc]
  · simp only [hc, if_false]
    intro hn
    simp only [not_and, Decidable.not_not] at hc
    exact hc hn

/-- `in_kex` is only ever cleared by a key switch that leaves no request pending: the exchange that a request
started is not forgotten until both directions have new keys -/
theorem in_kex_cleared_only_when_settled (L : Limits) (s : St) (o : Op) (h1 : s.inKex = true)
    (h2 : (step L s o).inKex = false) : (o = .setOut ∨ o = .setIn) ∧ (step L s o).needRekey = false := by
  by_cases ho : o = .setOut
  · subst ho; rw [step_setOut] at h2 ⊢
    exact ⟨.inl rfl, by simpa [h1] using h2⟩
  by_cases hi : o = .setIn
  · subst hi; rw [step_setIn] at h2 ⊢
    exact ⟨.inr rfl, by simpa [h1] using h2⟩
  rw [(kept_unless_switch L s o ho hi).2 h1] at h2; cases h2

/-- **A rekey request never costs bytes.**  `read_all` leaves the read loop with NeedRekeyException only while
nothing of the packet has been taken off the socket — for every fragmentation of the stream and every placement
of timeouts; so the re-exchange can start on an idle link without desynchronising the packet stream. -/
theorem need_rekey_exception_loses_nothing (need check : Bool) (n got used : Nat) (evs : List SockEv) (lost : Nat)
    (h : readAll need check n got used evs = .needRekey lost) : lost = 0 ∧ got = 0 := by
  induction evs generalizing n got used with
  | nil => simp only [readAll] at h; split at h <;> simp at h
  | cons ev evs ih =>
    simp only [readAll] at h
    by_cases hn : n = 0
    · simp [hn] at h
    · simp only [hn, if_false] at h
      cases ev with
      | data k =>
        simp only at h
        by_cases hk : k = 0
        · simp [hk] at h
        · simp only [hk, if_false] at h
          have := ih _ _ _ h
          have hpos : 0 < min k n := by
            have : 0 < k := Nat.pos_of_ne_zero hk
            have : 0 < n := Nat.pos_of_ne_zero hn
            exact Nat.lt_min.mpr ⟨‹0 < k›, ‹0 < n›⟩
          omega
      | timeout =>
        simp only at h
        by_cases hc : check = true ∧ got = 0 ∧ need = true
        · simp only [hc, and_self, if_true, ReadResult.needRekey.injEq] at h
          exact ⟨by omega, hc.2.1⟩
        · simp only [hc, if_false] at h
          exact ih _ _ _ h
      | eagain =>
        simp only at h
        by_cases hc : check = true ∧ got = 0 ∧ need = true
        · simp only [hc, and_self, if_true, ReadResult.needRekey.injEq] at h
          exact ⟨by omega, hc.2.1⟩
        · simp only [hc, if_false] at h
          exact ih _ _ _ h

/-- **However the socket says "nothing yet", an idle link starts the pending re-exchange.**  `socket.timeout` and
`socket.error(EAGAIN)` are the same event for `read_all`: on an idle header read with a request pending both leave
with NeedRekeyException, so the run loop gets to send KEXINIT.  (AST of `read_all`, read on every run: the rekey test
is shared by both idle branches — it follows the `try`, under the `got_timeout` flag — not written into one of them.) -/
theorem idle_poll_starts_rekey_whatever_its_style (n used : Nat) (evs : List SockEv) (hn : n ≠ 0) :
    readAll true true n 0 used (.timeout :: evs) = .needRekey 0 ∧
    readAll true true n 0 used (.eagain :: evs) = .needRekey 0 ∧
    Generated.C11.readAllIdleBranchesShareRekeyTest = true := by
  refine ⟨by simp [readAll, hn], by simp [readAll, hn], by decide⟩

/-- a read that succeeds took exactly the bytes it was asked for: an idle timeout in the middle of a packet
(rekey pending or not) just waits -/
theorem read_all_waits_mid_packet (need : Bool) (n got used : Nat) (evs : List SockEv) (hg : got ≠ 0) :
    readAll need true n got used (.timeout :: evs) = (if n = 0 then .ok used else readAll need true n got (used + 1) evs) := by
  simp [readAll, hg]

/-! ## "traffic continues intact": the compression engines follow every key switch -/

/-- invariant: in each direction the (de)compressor in use was created for the key set in use -/
def CInv (s : CSt) : Prop :=
  s.compOutGen = expectedCompGen s.comp s.authenticated s.outGen ∧
  s.compInGen = expectedCompGen s.comp s.authenticated s.inGen

/-- after a NEWKEYS the engine of that direction must belong to the new key set exactly when compression is on;
    while it is off there must be none -/
private theorem expected_succ (s : CSt) (g : Nat) :
    expectedCompGen s.comp s.authenticated (g + 1) = (if s.switchOn then some (g + 1) else none) ∧
    (s.switchOn = false → expectedCompGen s.comp s.authenticated g = none) := by
  cases hc : s.comp <;> simp +contextual [expectedCompGen, CSt.switchOn, hc]

private theorem expected_auth (c : Comp) (a : Bool) (g : Nat) :
    expectedCompGen c true g = if c = .delayed then some g else expectedCompGen c a g := by
  cases c <;> simp [expectedCompGen]

private theorem cinv_step (s : CSt) (o : COp) (h : CInv s) : CInv (cstep s o) := by
  obtain ⟨h1, h2⟩ := h
  cases o with
  | newkeysOut =>
    obtain ⟨e1, e2⟩ := expected_succ s s.outGen
    have hc : cstep s .newkeysOut = if s.switchOn then
        { s with outGen := s.outGen + 1, compOutGen := some (s.outGen + 1), installsOut := s.installsOut + 1 }
        else { s with outGen := s.outGen + 1 } := rfl
    rw [hc]
    cases hs : s.switchOn
    · rw [if_neg (by decide)]; exact ⟨h1.trans ((e2 hs).trans (by rw [e1, hs]; rfl)), h2⟩
    · rw [if_pos rfl]; exact ⟨(e1.trans (by rw [hs]; rfl)).symm, h2⟩
  | newkeysIn =>
    obtain ⟨e1, e2⟩ := expected_succ s s.inGen
    have hc : cstep s .newkeysIn = if s.switchOn then
        { s with inGen := s.inGen + 1, compInGen := some (s.inGen + 1), installsIn := s.installsIn + 1 }
        else { s with inGen := s.inGen + 1 } := rfl
    rw [hc]
    cases hs : s.switchOn
    · rw [if_neg (by decide)]; exact ⟨h1, h2.trans ((e2 hs).trans (by rw [e1, hs]; rfl))⟩
    · rw [if_pos rfl]; exact ⟨h1, (e1.trans (by rw [hs]; rfl)).symm⟩
  | auth =>
    simp only [cstep]
    split
    · next hd => exact ⟨by simp [expectedCompGen, hd], by simp [expectedCompGen, hd]⟩
    · next hd =>
      exact ⟨h1.trans (by rw [expected_auth s.comp s.authenticated, if_neg hd]),
             h2.trans (by rw [expected_auth s.comp s.authenticated, if_neg hd])⟩
/-- **Engines are re-installed on every NEWKEYS.**  After any sequence of key switches (initial exchange and any
number of re-exchanges, in either order per direction) and authentication, the outbound compressor and the
inbound decompressor belong to the current key set of their direction — for "zlib" from the first NEWKEYS on, for
"zlib@openssh.com" from authentication on. -/
theorem compressor_follows_every_newkeys (c : Comp) (ops : List COp) : CInv (crun { comp := c } ops) := by
  have : ∀ s, CInv s → CInv (crun s ops) := by
    induction ops with
    | nil => intro s h; exact h
    | cons o ops ih => intro s h; exact ih _ (cinv_step s o h)
  exact this _ (by cases c <;> simp [CInv, expectedCompGen])

/-- **Both ends agree.**  A sender and a receiver that negotiated the same compression, are in the same
authentication state and have switched keys equally often in that direction use a compressor / decompressor pair
created for the same key set — so the compressed stream stays decodable across every re-exchange. -/
theorem compressor_pair_in_step (c : Comp) (opsS opsR : List COp)
    (hauth : (crun { comp := c } opsS).authenticated = (crun { comp := c } opsR).authenticated)
    (hgen : (crun { comp := c } opsS).outGen = (crun { comp := c } opsR).inGen) :
    (crun { comp := c } opsS).compOutGen = (crun { comp := c } opsR).compInGen := by
  have hS := (compressor_follows_every_newkeys c opsS).1
  have hR := (compressor_follows_every_newkeys c opsR).2
  have hcS : ∀ ops : List COp, (crun { comp := c } ops).comp = c := by
    intro ops
    have : ∀ s : CSt, (crun s ops).comp = s.comp := by
      induction ops with
      | nil => intro s; rfl
      | cons o ops ih =>
        intro s
        simp only [crun, List.foldl_cons] at ih ⊢
        rw [ih]
        cases o <;> simp only [cstep] <;> (repeat' split) <;> rfl
    exact this _
  rw [hS, hR, hcS, hcS, hauth, hgen]

/-- one `set_outbound_compressor` per NEWKEYS sent while compression is on (plus the one of `_auth_trigger`) -/
example : (crun { comp := .zlib } [.newkeysOut, .newkeysIn, .auth, .newkeysOut, .newkeysIn, .newkeysOut]).installsOut = 3 := by
  decide +kernel
example : let s := crun { comp := .delayed } [.newkeysOut, .newkeysIn, .auth, .newkeysIn, .newkeysOut]
    s.installsOut = 2 ∧ s.installsIn = 2 ∧ s.compOutGen = some 2 ∧ s.compInGen = some 2 := by decide +kernel

/-- **A re-exchange we start ourselves closes the send gate under its lock** (AST of transport.py, read on every
run): every `clear_to_send.clear()` — in `_send_kex_init` (threshold crossing, `renegotiate_keys()`) and in
`_negotiate_keys` — is inside a `clear_to_send_lock` region, and `_send_kex_init` clears before it writes KEXINIT.
`_send_user_message` holds that lock from its `is_set()` test to its write, so our KEXINIT waits for an application
packet that has passed the gate; the step-level proof for every interleaving is `PV.Props.C11.send_gate_window_clean`,
the variant without the lock has the witness `send_gate_unlocked_clear_witness`. -/
theorem self_initiated_rekey_closes_gate_under_lock :
    Generated.C11.allClearsUnderLock = true ∧ Generated.C11.kexInitClearsBeforeWrite = true := by decide

/-- **A re-exchange does not touch who is authenticated.**  In the run-loop model (tied to `Transport.run` by the C09 and
C12 checks) `_parse_newkeys` leaves the authentication flag alone and replaces the auth handler only when there is
none yet (a server's first NEWKEYS); and in the tree under test the assignment to `auth_handler` in `_parse_newkeys`
is guarded by `auth_handler is None` (AST, read on every run).  So new channels and global requests are judged
after a re-exchange exactly as before it. -/
theorem rekey_keeps_authentication (s : PV.RunLoop.St) (x : PV.RunLoop.Ext) :
    (PV.RunLoop.parseNewkeys s x).authenticated = s.authenticated ∧
      (s.authH ≠ .none → (PV.RunLoop.parseNewkeys s x).authH = s.authH) ∧
      Generated.C11.newkeysKeepsAuthHandler = true := by
  -- every branch of `_parse_newkeys` carries the two fields over, but for the one guarded assignment
  refine ⟨?_, fun hne => ?_, by decide⟩
  · simp only [PV.RunLoop.parseNewkeys, PV.RunLoop.St.fail, apply_ite PV.RunLoop.St.authenticated, ite_self]
  · simp only [PV.RunLoop.parseNewkeys, PV.RunLoop.St.fail, apply_ite PV.RunLoop.St.authH, ite_self, hne, and_false,
      if_false]

/-- **How long a sender waits for a re-exchange is a matter of the clock** (AST of `Transport._send_user_message`,
read on every run): the give-up test is `time.time() > start + clear_to_send_timeout` with `start` taken from the
clock before the loop — not a count of 0.1 s wait slices.  A re-exchange that takes longer than a few seconds but
less than `clear_to_send_timeout` must leave parked senders parked ("traffic continues intact"). -/
theorem send_wait_bound_is_elapsed_time : Generated.C11.sendTimeoutReadsClock = true := by decide

/-! ## non-vacuity: a scaled-down packetizer through two complete rekeys and an ignoring peer -/

private def small : Limits := ⟨4, 1000, 3, 500⟩

/-- four packets sent → request; loop top → KEXINIT; both switches → counters and flag cleared -/
example : let s := run small {} [.send 10, .send 10, .send 10, .send 10, .loopTop, .recv 20, .setOut, .setIn]
    s.needRekey = false ∧ s.inKex = false ∧ s.kexInits = 1 ∧ s.sentPackets = 0 ∧ s.recvPackets = 0 ∧
      s.err = false := by decide +kernel
/-- the request survives a one-sided switch -/
example : (run small {} [.send 10, .send 10, .send 10, .send 10, .loopTop, .setOut]).needRekey = true := by decide +kernel
/-- bytes threshold -/
example : (run small {} [.recv 999, .recv 1]).needRekey = true := by decide +kernel
/-- a peer that keeps sending: dropped at the third packet after the request -/
example : (run small {} [.recv 999, .recv 1, .recv 1, .recv 1]).err = false ∧
    (run small {} [.recv 999, .recv 1, .recv 1, .recv 1, .recv 1]).err = true := by decide +kernel

/-- fragments around a timeout with a request pending: the header read waits, nothing is lost -/
example : readAll true true 8 0 0 [.data 3, .timeout, .data 5] = .ok 3 := by decide +kernel
/-- idle link with a request pending: the exception, with nothing consumed -/
example : readAll true true 8 0 0 [.timeout, .data 8] = .needRekey 0 := by decide +kernel

end PV.Props.C10
