/-
  C06 — Key exchange agrees on a secret and authenticates the server's host key.
  Model: PV/Model/Kex.lean; helpers: PV/Model/KexLemmas.lean (what each
  handler does on a well-formed body: `*_wire`; how a client step can end: `ClientStep`).

  Level: partial.  Proved: what paramiko's own code contributes — both roles derive the same K, feed
  byte-identical input to the hash and publish the same (K, H); a client that completes has had
  `_verify_key(host key shown, H, signature)` succeed; the session id is the first H for any
  number of exchanges; the hash input determines every reply field.  Assumed (hypotheses, never
  axioms): the EC library's Diffie-Hellman law (`CurveLaws`), collision-freeness of the hash on
  the inputs compared, and unforgeability of the host-key signature (`Unforgeable`).
  Finite-field Diffie-Hellman is not assumed: it is proved (`dh_agree`).
-/
import PV.Model.KexLemmas
import PV.Model.Connect
namespace PV.Props.C06
open PV PV.Wire PV.Kex

/-! ## the shared secret -/

/-- finite-field DH: the client's `f^x_c mod p` is the server's `e^x_s mod p`, for every group -/
theorem dh_agree (g p xc xs : Nat) :
    powMod (powMod g xs p) xc p = powMod (powMod g xc p) xs p := dh_comm g xs xc p

/-- the same in ordinary notation -/
theorem dh_agree_pow (g p xc xs : Nat) : (g ^ xs % p) ^ xc % p = (g ^ xc % p) ^ xs % p := by
  simpa only [powMod_eq] using dh_agree g p xc xs

/-- group exchange computes with Python's three-argument `pow` on ints: same law -/
theorem dh_agree_gex (g p xc xs : Nat) :
    pyPow (pyPow (g : Int) xs p : Nat) xc p = pyPow (pyPow (g : Int) xc p : Nat) xs p := by
  simp only [pyPow_nat']
  exact dh_agree g p xc xs

/-- what is assumed of the curve library (ECDH / X25519) -/
structure CurveLaws (cv : Curve) : Prop where
  decode_pub : ∀ d, cv.decode (cv.pub d) = true
  comm : ∀ a b, cv.exchange a (cv.pub b) = cv.exchange b (cv.pub a)
  pub_len : ∀ d, (cv.pub d).length < 4294967296

private theorem toyPub_lt (d : Nat) : powMod 3 d toyQ < toyQ := powMod_lt 3 d toyQ (by decide)

private theorem toyPub_val (w d : Nat) (hw : toyQ < 256 ^ w) :
    beVal (beBytes w (powMod 3 d toyQ)) = powMod 3 d toyQ :=
  beVal_beBytes_of_lt w _ (Nat.lt_trans (toyPub_lt d) hw)

/-- the laws are satisfiable: both toy curves have them -/
theorem toyNist_laws : CurveLaws toyNist where
  decode_pub d := by simp [toyNist, toyPub_val 16 d (by decide), toyPub_lt d]
  comm a b := by simp [toyNist, toyPub_val 16 _ (by decide), dh_comm 3 b a toyQ]
  pub_len d := by simp [toyNist]

theorem toyX_laws : CurveLaws toyX where
  decode_pub d := by simp [toyX]
  comm a b := by
    have na : powMod 3 a toyQ ≠ toyQ + 1 := by have := toyPub_lt a; omega
    have nb : powMod 3 b toyQ ≠ toyQ + 1 := by have := toyPub_lt b; omega
    simp [toyX, toyPub_val 32 _ (by decide), na, nb, dh_comm 3 b a toyQ]
  pub_len d := by simp [toyX]

/-! ## both roles hash the same bytes and publish the same (K, H) -/

/-- the two ends of one connection: the same version strings and KEXINIT payloads seen from
    opposite sides, the same hash -/
structure Mirror (c s : Env) : Prop where
  cm : c.serverMode = false
  sm : s.serverMode = true
  lv : s.localVersion = c.remoteVersion
  rv : s.remoteVersion = c.localVersion
  lk : s.localKexInit = c.remoteKexInit
  rk : s.remoteKexInit = c.localKexInit
  hash : s.hash = c.hash

/-- Fixed groups (group1/14/16), any modulus: an undisturbed exchange.  The server's KEXDH_INIT
    handler and the client's KEXDH_REPLY handler hash the SAME bytes (`hin`, the RFC 4253 §8 input),
    call `_set_K_H` with the SAME `K` and `H`, and the client verifies the signature the server
    made over that `H` under the key it was shown; it activates iff that verification succeeds. -/
theorem grp_honest (c s : Env) (g : Group) (xc xs : Nat) (hm : Mirror c s)
    (hP : 0 < g.P) (he : 1 ≤ powMod g.G xc g.P) (hf : 1 ≤ powMod g.G xs g.P)
    (hk : s.hostKey.length < 4294967296) (hsig : ∀ H, (s.sign H).length < 4294967296)
    (hme : (mpintBody (powMod g.G xc g.P : Nat)).length < 4294967296)
    (hmf : (mpintBody (powMod g.G xs g.P : Nat)).length < 4294967296) :
    let e : Int := (powMod g.G xc g.P : Nat)
    let f : Int := (powMod g.G xs g.P : Nat)
    let K := powMod (powMod g.G xs g.P) xc g.P
    let hin := hashInGroup c.localVersion c.remoteVersion c.localKexInit c.remoteKexInit s.hostKey e f K
    let H := c.hash hin
    let reply := encStr s.hostKey ++ encMpint f ++ encStr (s.sign H)
    (grpStart c g xc).2 = [.send (30 :: encMpint e), .expect [31]] ∧
    (grpInit s g (grpStart s g xs).1 (encMpint e)).eff
        = [.hashed hin, .setKH K H, .send (31 :: reply), .activate] ∧
    (grpReply c g (grpStart c g xc).1 reply).eff
        = [.hashed hin, .setKH K H, .verifyKey s.hostKey (s.sign H)] ++
          (if c.verify s.hostKey H (s.sign H) then [.activate] else []) := by
  intro e f K hin H reply
  have hlt := fun x => powMod_lt g.G x g.P hP
  have hc : grpStart c g xc = (⟨xc, e, 0⟩, [.send (30 :: encMpint e), .expect [31]]) := by
    simp only [grpStart, hm.cm]; rfl
  have hs : grpStart s g xs = (⟨xs, 0, f⟩, [.expect [30]]) := by simp only [grpStart, hm.sm]; rfl
  rw [hc, hs]
  refine ⟨rfl, ?_, ?_⟩
  · rw [grpInit_wire s g _ e hme, if_neg (by have := hlt xc; omega), answer, hm.rv, hm.lv, hm.rk, hm.lk,
      hm.hash, show powMod e.toNat xs g.P = K from dh_comm g.G xc xs g.P]
  · rw [grpReply_wire c g _ _ _ f hk hmf (hsig H), if_neg (by have := hlt xs; omega), conclude_eff]
    rfl

/-- Group exchange, from the point where both sides hold the group: same sizes, same style, same
    `p`, `g` (see `gex_request_agrees` / `gex_group_agrees` for how they get there).  Same statement. -/
theorem gex_honest (c s : Env) (cs ss : GexSt) (p g : Nat) (xc xs : Nat) (hm : Mirror c s)
    (hcp : cs.p = some (p : Int)) (hcg : cs.g = some (g : Int)) (hcx : cs.x = some xc)
    (hce : cs.e = some ((pyPow (g : Int) xc p : Nat) : Int))
    (hsp : ss.p = some (p : Int)) (hsg : ss.g = some (g : Int))
    (hmin : ss.minBits = cs.minBits) (hpref : ss.prefBits = cs.prefBits) (hmax : ss.maxBits = cs.maxBits)
    (hold : ss.oldStyle = cs.oldStyle)
    (hp : 0 < p) (he : 1 ≤ pyPow (g : Int) xc p) (hf : 1 ≤ pyPow (g : Int) xs p)
    (hk : s.hostKey.length < 4294967296) (hsig : ∀ H, (s.sign H).length < 4294967296)
    (hme : (mpintBody (pyPow (g : Int) xc p : Nat)).length < 4294967296)
    (hmf : (mpintBody (pyPow (g : Int) xs p : Nat)).length < 4294967296) :
    let e : Int := (pyPow (g : Int) xc p : Nat)
    let f : Int := (pyPow (g : Int) xs p : Nat)
    let K := pyPow f xc p
    let hin := hashInGex c.localVersion c.remoteVersion c.localKexInit c.remoteKexInit s.hostKey
      cs.oldStyle cs.minBits cs.prefBits cs.maxBits p g e f K
    let H := c.hash hin
    let reply := encStr s.hostKey ++ encMpint f ++ encStr (s.sign H)
    (gexInit s ss (encMpint e) xs).eff = [.hashed hin, .setKH K H, .send (33 :: reply), .activate] ∧
    (gexReply c cs reply).eff
        = [.hashed hin, .setKH K H, .verifyKey s.hostKey (s.sign H)] ++
          (if c.verify s.hostKey H (s.sign H) then [.activate] else []) := by
  intro e f K hin H reply
  have hlt : ∀ x, pyPow (g : Int) x p < p := fun x => by rw [pyPow_nat']; exact powMod_lt _ _ _ hp
  constructor
  · rw [gexInit_wire s ss e p g xs hme hsp hsg (by omega) (by have := hlt xc; omega), answer, hm.rv, hm.lv,
      hm.rk, hm.lk, hm.hash, hold, hmin, hpref, hmax,
      show pyPow e xs (p : Int).toNat = K from (dh_agree_gex g p xc xs).symm]
    rfl
  · rw [gexReply_wire c cs _ _ f p g e xc hk hmf (hsig H) hcp hcg hcx hce (by omega)
      (by have := hlt xs; omega), conclude_eff]
    rfl

/-- how the two sides get the same sizes: the server stores the request's three numbers
    unchanged whenever they are consistent and the preference lies within its own limits
    (paramiko's client always sends 1024 ≤ 2048 ≤ 8192), and answers with the pack's group -/
theorem gex_request_agrees (s : Env) (mn n mx g p : Nat)
    (hmn : mn < 4294967296) (hn : n < 4294967296) (hmx : mx < 4294967296)
    (h1 : mn ≤ n) (h2 : n ≤ mx) (h3 : 1024 ≤ n) (h4 : n ≤ 8192)
    (hpack : s.modulus mn n mx = some (g, p)) :
    (gexRequest s {} (be32 mn ++ be32 n ++ be32 mx)).eff = [.send (31 :: (encMpint p ++ encMpint g)), .expect [32]] ∧
    (gexRequest s {} (be32 mn ++ be32 n ++ be32 mx)).out
      = .ok { p := some (p : Int), g := some (g : Int), minBits := mn, prefBits := n, maxBits := mx } := by
  -- the three `get_int()` calls, each starting where the one before stopped
  have m1 : (rd (be32 mn ++ be32 n ++ be32 mx)).remainder = be32 mn ++ (be32 n ++ (be32 mx ++ [])) := by
    rw [rd_remainder, List.append_nil, List.append_assoc]
  have m2 := adv_remainder m1 (be32_length mn)
  have i1 := getInt_at hmn m1
  have i2 := getInt_at hn m2
  have i3 := getInt_at hmx (adv_remainder m2 (be32_length n))
  have hc : clampPref n 1024 8192 = n := by
    simp only [clampPref, if_neg (Nat.not_lt.mpr h4), if_neg (Nat.not_lt.mpr h3)]
  simp only [gexRequest, i1, i2, i3, hc, hpack, if_neg (Nat.not_lt.mpr h1), if_neg (Nat.not_lt.mpr h2),
    and_self]

/-- the client's view after KEXDH_GEX_GROUP: it stores exactly the `p`, `g` it was sent, keeps its
    own sizes, and answers with `e = g^x mod p` -/
theorem gex_group_agrees (c : Env) (cs : GexSt) (p g x : Nat)
    (hlo : 2 ^ 1023 ≤ p) (hhi : p < 2 ^ 8192)
    (hmp : (mpintBody (p : Int)).length < 4294967296) (hmg : (mpintBody (g : Int)).length < 4294967296) :
    (gexGroup c cs (encMpint p ++ encMpint g) x).eff
        = [.send (32 :: encMpint ((pyPow (g : Int) x p : Nat) : Int)), .expect [33]] ∧
    (gexGroup c cs (encMpint p ++ encMpint g) x).out
        = .ok { cs with p := some (p : Int), g := some (g : Int), x := some x,
                        e := some ((pyPow (g : Int) x p : Nat) : Int) } := by
  obtain ⟨p1, p2⟩ := parse2 (rest := []) hmp hmg (rd_remainder (encMpint p ++ encMpint g ++ []))
  rw [List.append_nil] at p1 p2
  have hb : ¬ ((p : Int) < 1 ∨ bitLength (p : Int) < 1024 ∨ bitLength (p : Int) > 8192) := by
    have := (bitLength_window p 1023 8192).mpr ⟨hlo, hhi⟩
    have := Nat.two_pow_pos 1023
    omega
  simp only [gexGroup, p1, p2, inflate_mpintBody, hb, if_false, Int.toNat_natCast, and_self]

/-- Group exchange from the very first message: paramiko's client request (1024, 2048, 8192), the
    server's group from its pack, the client's `e`, the server's reply — every message is the one
    the model of the other side produced; both sides end with the same hash input, `K` and `H`. -/
theorem gex_full_honest (c s : Env) (g p xc xs : Nat) (hm : Mirror c s)
    (hpack : s.modulus 1024 2048 8192 = some (g, p))
    (hlo : 2 ^ 1023 ≤ p) (hhi : p < 2 ^ 8192)
    (he : 1 ≤ pyPow (g : Int) xc p) (hf : 1 ≤ pyPow (g : Int) xs p)
    (hk : s.hostKey.length < 4294967296) (hsig : ∀ H, (s.sign H).length < 4294967296)
    (hmp : (mpintBody (p : Int)).length < 4294967296) (hmg : (mpintBody (g : Int)).length < 4294967296)
    (hme : (mpintBody (pyPow (g : Int) xc p : Nat)).length < 4294967296)
    (hmf : (mpintBody (pyPow (g : Int) xs p : Nat)).length < 4294967296) :
    let e : Int := (pyPow (g : Int) xc p : Nat)
    let f : Int := (pyPow (g : Int) xs p : Nat)
    let K := pyPow f xc p
    let hin := hashInGex c.localVersion c.remoteVersion c.localKexInit c.remoteKexInit s.hostKey
      false 1024 2048 8192 p g e f K
    let H := c.hash hin
    let reply := encStr s.hostKey ++ encMpint f ++ encStr (s.sign H)
    -- client → server: KEXDH_GEX_REQUEST
    (gexStart c {} false).2 = [.send (34 :: (be32 1024 ++ be32 2048 ++ be32 8192)), .expect [31]] ∧
    -- server → client: KEXDH_GEX_GROUP
    ∃ ss cs, (gexRequest s {} (be32 1024 ++ be32 2048 ++ be32 8192)).out = .ok ss ∧
      (gexRequest s {} (be32 1024 ++ be32 2048 ++ be32 8192)).eff
        = [.send (31 :: (encMpint p ++ encMpint g)), .expect [32]] ∧
    -- client → server: KEXDH_GEX_INIT
      (gexGroup c (gexStart c {} false).1 (encMpint p ++ encMpint g) xc).out = .ok cs ∧
      (gexGroup c (gexStart c {} false).1 (encMpint p ++ encMpint g) xc).eff = [.send (32 :: encMpint e), .expect [33]] ∧
    -- server → client: KEXDH_GEX_REPLY, and the client's treatment of it
      (gexInit s ss (encMpint e) xs).eff = [.hashed hin, .setKH K H, .send (33 :: reply), .activate] ∧
      (gexReply c cs reply).eff = [.hashed hin, .setKH K H, .verifyKey s.hostKey (s.sign H)] ++
          (if c.verify s.hostKey H (s.sign H) then [.activate] else []) := by
  intro e f K hin H reply
  have hpos : 0 < p := Nat.lt_of_lt_of_le (Nat.two_pow_pos 1023) hlo
  have hreq := gex_request_agrees s 1024 2048 8192 g p (by decide) (by decide) (by decide) (by decide)
    (by decide) (by decide) (by decide) hpack
  have hstart : gexStart c {} false = (({} : GexSt), [.send (34 :: (be32 1024 ++ be32 2048 ++ be32 8192)), .expect [31]]) := by
    simp [gexStart, hm.cm]
  have hgrp := gex_group_agrees c {} p g xc hlo hhi hmp hmg
  have hcore := gex_honest c s
    { ({} : GexSt) with p := some (p : Int), g := some (g : Int), x := some xc, e := some ((pyPow (g : Int) xc p : Nat) : Int) }
    { p := some (p : Int), g := some (g : Int), minBits := 1024, prefBits := 2048, maxBits := 8192 }
    p g xc xs hm rfl rfl rfl rfl rfl rfl rfl rfl rfl rfl hpos he hf hk hsig hme hmf
  refine ⟨by rw [hstart], _, _, hreq.2, hreq.1, ?_, ?_, hcore.1, hcore.2⟩
  · rw [hstart]; exact hgrp.2
  · rw [hstart]; exact hgrp.1

/-- ECDH over the NIST curves: same statement, from the library's DH law -/
theorem ec_honest (c s : Env) (cv : Curve) (hl : CurveLaws cv) (dc ds : Nat) (secret : Bytes) (hm : Mirror c s)
    (hx : cv.exchange ds (cv.pub dc) = .ok secret)
    (hk : s.hostKey.length < 4294967296) (hsig : ∀ H, (s.sign H).length < 4294967296) :
    let K := beVal secret
    let hin := hashInEcdh c.localVersion c.remoteVersion c.localKexInit c.remoteKexInit s.hostKey
      (cv.pub dc) (cv.pub ds) K
    let H := c.hash hin
    let reply := encStr s.hostKey ++ encStr (cv.pub ds) ++ encStr (s.sign H)
    (ecStart c cv dc).2 = [.send (30 :: encStr (cv.pub dc)), .expect [31]] ∧
    (ecInit s cv (ecStart s cv ds).1 (encStr (cv.pub dc))).eff
        = [.hashed hin, .setKH K H, .send (31 :: reply), .activate] ∧
    (ecReply c cv (ecStart c cv dc).1 reply).eff
        = [.hashed hin, .setKH K H, .verifyKey s.hostKey (s.sign H)] ++
          (if c.verify s.hostKey H (s.sign H) then [.activate] else []) := by
  intro K hin H reply
  have hc : ecStart c cv dc
      = ({ priv := dc, qc := some (cv.pub dc) }, [.send (30 :: encStr (cv.pub dc)), .expect [31]]) := by
    simp only [ecStart, hm.cm]; rfl
  have hs : ecStart s cv ds = ({ priv := ds, qs := some (cv.pub ds) }, [.expect [30]]) := by
    simp only [ecStart, hm.sm]; rfl
  rw [hc, hs]
  refine ⟨rfl, ?_, ?_⟩
  · rw [ecInit_wire s cv _ _ _ secret (hl.pub_len dc) (hl.decode_pub dc) hx rfl, answer,
      hm.rv, hm.lv, hm.rk, hm.lk, hm.hash]
  · rw [ecReply_wire c cv _ _ _ _ _ secret hk (hl.pub_len ds) (hsig H) (hl.decode_pub ds)
      (by rw [hl.comm]; exact hx) rfl, conclude_eff]

/-- X25519: same statement (the honest secret is not all-zero) -/
theorem cv_honest (c s : Env) (cv : Curve) (hl : CurveLaws cv) (dc ds : Nat) (secret : Bytes) (hm : Mirror c s)
    (hx : cv.exchange ds (cv.pub dc) = .ok secret) (hnz : secret ≠ zeros 32)
    (hk : s.hostKey.length < 4294967296) (hsig : ∀ H, (s.sign H).length < 4294967296) :
    let K := beVal secret
    let hin := hashInEcdh c.localVersion c.remoteVersion c.localKexInit c.remoteKexInit s.hostKey
      (cv.pub dc) (cv.pub ds) K
    let H := c.hash hin
    let reply := encStr s.hostKey ++ encStr (cv.pub ds) ++ encStr (s.sign H)
    (cvStart c cv dc).2 = [.send (30 :: encStr (cv.pub dc)), .expect [31]] ∧
    (cvInit s cv (cvStart s cv ds).1 (encStr (cv.pub dc))).eff
        = [.hashed hin, .setKH K H, .send (31 :: reply), .activate] ∧
    (cvReply c cv (cvStart c cv dc).1 reply).eff
        = [.hashed hin, .setKH K H, .verifyKey s.hostKey (s.sign H)] ++
          (if c.verify s.hostKey H (s.sign H) then [.activate] else []) := by
  intro K hin H reply
  have hc : cvStart c cv dc = ({ priv := dc }, [.send (30 :: encStr (cv.pub dc)), .expect [31]]) := by
    simp only [cvStart, hm.cm]; rfl
  have hs : cvStart s cv ds = ({ priv := ds }, [.expect [30]]) := by simp only [cvStart, hm.sm]; rfl
  have hxs : cvExchange cv ds (cv.pub dc) = .ok secret := by simp only [cvExchange, hx, hnz, if_false]
  have hxc : cvExchange cv dc (cv.pub ds) = .ok secret := by rw [cvExchange, hl.comm]; exact hxs
  rw [hc, hs]
  refine ⟨rfl, ?_, ?_⟩
  · rw [cvInit_wire s cv _ _ secret (hl.pub_len dc) (hl.decode_pub dc) hxs, answer,
      hm.rv, hm.lv, hm.rk, hm.lk, hm.hash]
  · rw [cvReply_wire c cv _ _ _ _ secret hk (hl.pub_len ds) (hsig H) (hl.decode_pub ds) hxc, conclude_eff]

/-! ## completion implies a verified signature over H under the key that was shown -/

/-- what a completed client step looks like: hash, publish, verify — and the verification succeeded -/
def Verified (c : Env) (eff : List Effect) : Prop :=
  ∃ hin K hk sig, eff = [.hashed hin, .setKH K (c.hash hin), .verifyKey hk sig, .activate] ∧
    c.verify hk (c.hash hin) sig = true

private theorem verified_of_step {σ : Type} {c : Env} {r : Res σ} (hr : ClientStep c r)
    (h : Effect.activate ∈ r.eff) : Verified c r.eff := by
  cases hr with
  | refused e => cases h
  | asked b st => simp at h
  | concluded hin K hk sig st =>
    unfold conclude at h ⊢
    split
    · next hv => exact ⟨_, _, _, _, rfl, hv⟩
    · next hv => simp [hv] at h

theorem grp_completion_verified (c : Env) (g : Group) (st : GrpSt) (m : Bytes)
    (h : Effect.activate ∈ (grpReply c g st m).eff) : Verified c (grpReply c g st m).eff :=
  verified_of_step (grpReply_step c g st m) h

theorem gex_completion_verified (c : Env) (st : GexSt) (m : Bytes)
    (h : Effect.activate ∈ (gexReply c st m).eff) : Verified c (gexReply c st m).eff :=
  verified_of_step (gexReply_step c st m) h

theorem ec_completion_verified (c : Env) (cv : Curve) (st : EcSt) (m : Bytes)
    (h : Effect.activate ∈ (ecReply c cv st m).eff) : Verified c (ecReply c cv st m).eff :=
  verified_of_step (ecReply_step c cv st m) h

theorem cv_completion_verified (c : Env) (cv : Curve) (st : EcSt) (m : Bytes)
    (h : Effect.activate ∈ (cvReply c cv st m).eff) : Verified c (cvReply c cv st m).eff :=
  verified_of_step (cvReply_step c cv st m) h

/-! ## … and this holds for EVERY exchange of a connection, behind `Transport.run()`'s gate -/
/-- the effects of the engine step that `Transport.run()` performs for one packet (empty when
    the packet does not reach the engine) -/
def stepEff (c : Env) (en : Engine) (s : Sess) (pkt : Nat × Bytes × Nat) : List Effect :=
  if s.dead.isSome then []
  else if s.expected = [] then []
  else if pkt.1 ∉ s.expected then []
  else if pkt.1 < 30 ∨ pkt.1 > 41 then []
  else (en.next c s.st pkt.1 pkt.2.1 pkt.2.2).eff

/-- the per-packet effect lists of a whole exchange -/
def stepEffs (c : Env) (en : Engine) : Sess → List (Nat × Bytes × Nat) → List (List Effect)
  | _, [] => []
  | s, p :: ps => stepEff c en s p :: stepEffs c en (Sess.feed c en s p) ps

/-- what a client may be waiting for while a group exchange is in progress -/
def ClientExpect (s : Sess) : Prop := ∀ t ∈ s.expected, t = 31 ∨ t = 33 ∨ t = 21

private theorem gexRequest_no_activate (c : Env) (st : GexSt) (m : Bytes) :
    Effect.activate ∉ (gexRequest c st m).eff := by
  unfold gexRequest; simp only; split <;> simp

private theorem gexReply_eff (c : Env) (st : GexSt) (m : Bytes) :
    (gexReply c st m).eff = [] ∨ (∃ a k h hk sg, (gexReply c st m).eff = [.hashed a, .setKH k h, .verifyKey hk sg, .activate]) ∨
      (∃ a k h hk sg, (gexReply c st m).eff = [.hashed a, .setKH k h, .verifyKey hk sg]) := by
  rcases gexReply_cases c st m with ⟨e, h⟩ | ⟨_, _, _, _, hin, K, hk, sig, st', h⟩ <;> rw [h]
  · exact .inl rfl
  · unfold conclude; split
    · exact .inr (.inl ⟨_, _, _, _, _, rfl⟩)
    · exact .inr (.inr ⟨_, _, _, _, _, rfl⟩)

/-- a packet that reaches the engine of a client is of type 31 or 33: NEWKEYS (21) is expected too,
    but lies outside the engines' range 30..41 -/
private theorem engine_type {s : Sess} {t : Nat} (hexp : ClientExpect s) (hin : t ∈ s.expected)
    (hr : ¬ (t < 30 ∨ t > 41)) : t = 31 ∨ t = 33 := by
  rcases hexp t hin with h | h | h
  · exact .inl h
  · exact .inr h
  · omega

/-- `run()`'s gate, walked once for `stepEff` and `Sess.feed` together -/
private theorem gate (c : Env) (en : Engine) (s : Sess) (pkt : Nat × Bytes × Nat) :
    (stepEff c en s pkt = [] ∧
      ((Sess.feed c en s pkt).expected = s.expected ∨ (Sess.feed c en s pkt).expected = [])) ∨
    (pkt.1 ∈ s.expected ∧ ¬ (pkt.1 < 30 ∨ pkt.1 > 41) ∧
      stepEff c en s pkt = (en.next c s.st pkt.1 pkt.2.1 pkt.2.2).eff ∧
      (Sess.feed c en s pkt).expected = match (en.next c s.st pkt.1 pkt.2.1 pkt.2.2).out with
        | .ok _ => expectedAfter [] (en.next c s.st pkt.1 pkt.2.1 pkt.2.2).eff
        | .error _ => []) := by
  unfold stepEff Sess.feed
  by_cases hd : s.dead.isSome = true; · rw [if_pos hd, if_pos hd]; exact .inl ⟨rfl, .inl rfl⟩
  by_cases he : s.expected = []; · rw [if_neg hd, if_pos he, if_neg hd, if_pos he]; exact .inl ⟨rfl, .inl rfl⟩
  by_cases hin : pkt.1 ∉ s.expected
  · rw [if_neg hd, if_neg he, if_pos hin, if_neg hd, if_neg he, if_pos hin]; exact .inl ⟨rfl, .inl rfl⟩
  by_cases hr : pkt.1 < 30 ∨ pkt.1 > 41
  · rw [if_neg hd, if_neg he, if_neg hin, if_pos hr, if_neg hd, if_neg he, if_neg hin, if_pos hr]
    exact .inl ⟨rfl, .inr rfl⟩
  rw [if_neg hd, if_neg he, if_neg hin, if_neg hr, if_neg hd, if_neg he, if_neg hin, if_neg hr]
  refine .inr ⟨Classical.not_not.mp hin, hr, rfl, ?_⟩
  simp only
  cases (en.next c s.st pkt.1 pkt.2.1 pkt.2.2).out <;> rfl

/-- a client step that reaches NEWKEYS has verified — for every engine, from every state the
    run loop can be in (so: in the first exchange and in every re-exchange alike) -/
theorem step_completion_verified (c : Env) (en : Engine) (s : Sess) (pkt : Nat × Bytes × Nat)
    (hc : c.serverMode = false) (hexp : ClientExpect s)
    (h : Effect.activate ∈ stepEff c en s pkt) : Verified c (stepEff c en s pkt) := by
  rcases gate c en s pkt with ⟨e, _⟩ | ⟨hin, hr, e, _⟩
  · rw [e] at h; cases h
  · rw [e] at h ⊢
    exact verified_of_step (client_next c en s.st _ _ _ hc (engine_type hexp hin hr)) h

theorem clientExpect_feed (c : Env) (en : Engine) (s : Sess) (pkt : Nat × Bytes × Nat)
    (hc : c.serverMode = false) (h : ClientExpect s) : ClientExpect (Sess.feed c en s pkt) := by
  intro t ht
  rcases gate c en s pkt with ⟨_, e | e⟩ | ⟨hin, hr, _, e⟩ <;> rw [e] at ht
  · exact h t ht
  · cases ht
  · have hstep := client_next c en s.st _ pkt.2.1 pkt.2.2 hc (engine_type h hin hr)
    split at ht
    · exact .inr (hstep.expected t ht)
    · cases ht

theorem begin_clientExpect (c : Env) (en : Engine) (x : Nat) (hc : c.serverMode = false) :
    ClientExpect (Sess.begin c en x) := by
  cases en <;> simp [Sess.begin, Engine.start, grpStart, gexStart, ecStart, cvStart, hc, expectedAfter, ClientExpect]

/-- one exchange, any packets: every step that reaches NEWKEYS on the client has verified the
    signature over that exchange's H under the key shown in that exchange -/
theorem exchange_completions_verified (c : Env) (en : Engine) (hc : c.serverMode = false)
    (pkts : List (Nat × Bytes × Nat)) (s : Sess) (hs : ClientExpect s) :
    ∀ eff ∈ stepEffs c en s pkts, Effect.activate ∈ eff → Verified c eff := by
  induction pkts generalizing s with
  | nil => intro eff h; cases h
  | cons p ps ih =>
    intro eff h hact
    simp only [stepEffs, List.mem_cons] at h
    rcases h with rfl | h
    · exact step_completion_verified c en s p hc hs hact
    · exact ih (Sess.feed c en s p) (clientExpect_feed c en s p hc hs) eff h hact

/-- the whole connection: the first exchange and any number of re-exchanges (each starts a fresh
    engine, with its own randomness and packets): EVERY exchange that completes on the client has
    `verify(host key shown, H_i, sig_i)` — not only the first one -/
theorem every_exchange_verified (c : Env) (hc : c.serverMode = false)
    (exchanges : List (Engine × Nat × List (Nat × Bytes × Nat))) :
    ∀ ex ∈ exchanges, ∀ eff ∈ stepEffs c ex.1 (Sess.begin c ex.1 ex.2.1) ex.2.2,
      Effect.activate ∈ eff → Verified c eff := by
  intro ex _ eff h hact
  exact exchange_completions_verified c ex.1 hc ex.2.2 _ (begin_clientExpect c ex.1 ex.2.1 hc) eff h hact

/-! ## the key reported as the remote server key is the key that was verified — on every exchange -/

/-- after a completed client step the key PUBLISHED as the remote server key is the key whose
    signature over this exchange's H was verified — whatever key was on record before -/
theorem published_key_is_verified_key (c : Env) (eff : List Effect) (h : Verified c eff) :
    ∃ hin K hk sig, eff = [.hashed hin, .setKH K (c.hash hin), .verifyKey hk sig, .activate] ∧
      c.verify hk (c.hash hin) sig = true ∧ ∀ prev, publishedKey prev eff = some hk := by
  obtain ⟨hin, K, hk, sig, rfl, hv⟩ := h
  exact ⟨hin, K, hk, sig, rfl, hv, fun _ => rfl⟩

/-- Effects that follow a `_verify_key` call show that it returned.  So the key on record after
    `a ++ b`, `b` not empty, is the key on record after `b` alone, from some earlier record. -/
private theorem publishedKey_append (a b : List Effect) (hb : b ≠ []) (prev : Option Bytes) :
    ∃ q, publishedKey prev (a ++ b) = publishedKey q b := by
  induction a generalizing prev with
  | nil => exact ⟨prev, rfl⟩
  | cons e r ih =>
    cases e with
    | verifyKey k s =>
      obtain ⟨q, hq⟩ := ih (some k)
      refine ⟨q, ?_⟩
      rw [← hq, List.cons_append]
      cases hrb : r ++ b with
      | nil => exact absurd (List.append_eq_nil_iff.mp hrb).2 hb
      | cons e2 r2 => rfl
    | _ => exact ih prev

/-- over a whole connection: whatever happened before (earlier exchanges with other keys, any
    traffic), once an exchange completes on the client the published key is THAT exchange's key -/
theorem published_key_follows_every_exchange (c : Env) (before eff : List Effect) (prev : Option Bytes)
    (h : Verified c eff) :
    ∃ hk sig hin, Effect.verifyKey hk sig ∈ eff ∧ c.verify hk (c.hash hin) sig = true ∧
      publishedKey prev (before ++ eff) = some hk := by
  obtain ⟨hin, K, hk, sig, rfl, hv⟩ := h
  obtain ⟨q, hq⟩ := publishedKey_append before _ (List.cons_ne_nil _ _) prev
  exact ⟨hk, sig, hin, by simp, hv, hq.trans rfl⟩

/-! ## NEWKEYS closes an exchange only if a verified secret is pending — for every message order -/

/-- what reaches a client transport during its life, in any order: the effects of an engine step
    (`ok` = the step did not raise), or SSH_MSG_NEWKEYS -/
inductive Ev
  | step (eff : List Effect) (ok : Bool)
  | newkeys

/-- client transport: `K` pending or not, exchanges verified, exchanges reported complete -/
structure Conn where
  pendingK : Bool := false
  verified : Nat := 0
  completed : Nat := 0
  dead : Bool := false
  deriving DecidableEq, Repr

def hasSetKH : List Effect → Bool
  | [] => false
  | .setKH _ _ :: _ => true
  | _ :: r => hasSetKH r

def hasActivate : List Effect → Bool
  | [] => false
  | .activate :: _ => true
  | _ :: r => hasActivate r

/-- `_set_K_H` makes a secret pending; `_parse_newkeys` runs `_activate_inbound()` unconditionally, which derives
    keys from the pending K (`_compute_key` raises when there is none: the session ends), then frees K and
    reports the exchange complete (completion_event) -/
def Conn.on (s : Conn) : Ev → Conn
  | .step eff ok =>
    if s.dead then s
    else if ¬ ok then { s with dead := true, pendingK := s.pendingK || hasSetKH eff }
    else { s with pendingK := s.pendingK || hasSetKH eff,
                  verified := s.verified + (if hasSetKH eff && hasActivate eff then 1 else 0) }
  | .newkeys =>
    if s.dead then s
    else if s.pendingK then { s with pendingK := false, completed := s.completed + 1 }
    else { s with dead := true }

/-- the client engines' steps: one that returns normally and called `_set_K_H` also reached
    `_activate_outbound`, i.e. passed `_verify_key` (the `*_completion_verified` theorems say what that means) -/
def ClientSteps (evs : List Ev) : Prop :=
  ∀ eff, Ev.step eff true ∈ evs → hasSetKH eff = true → hasActivate eff = true

/-- a secret pending on a live transport is verified and not yet counted as complete -/
private def Inv (s : Conn) : Prop :=
  s.completed + (if s.pendingK && !s.dead then 1 else 0) ≤ s.verified

private theorem inv_on (s : Conn) (ev : Ev) (h : Inv s)
    (hev : ∀ eff, ev = .step eff true → hasSetKH eff = true → hasActivate eff = true) : Inv (s.on ev) := by
  unfold Inv at h ⊢
  cases hd : s.dead
  case true => cases ev <;> simpa [Conn.on, hd] using h
  rw [hd] at h
  cases ev with
  | newkeys => cases hp : s.pendingK <;> simp [Conn.on, hd, hp] at h ⊢ <;> omega
  | step eff ok =>
    cases ok
    · simp [Conn.on, hd]; omega
    · cases hs : hasSetKH eff
      · simpa [Conn.on, hd, hs] using h
      · -- a step that returns normally and published a secret also activated: it counts as verified
        have := hev eff rfl hs
        simp [Conn.on, hd, hs, this]; omega

/-- EVERY message order: engine steps and NEWKEYS messages interleaved in any way (NEWKEYS before
    any exchange, bare NEWKEYS after the client's own KEXINIT, two NEWKEYS in a row, …) — the number
    of exchanges the client reports complete never exceeds the number of exchanges in which it
    verified the server's signature; a NEWKEYS with no verified secret pending ends the session -/
theorem completed_le_verified (evs : List Ev) (hcs : ClientSteps evs) :
    (evs.foldl Conn.on {}).completed ≤ (evs.foldl Conn.on {}).verified := by
  have key : ∀ (l : List Ev) (s : Conn), Inv s →
      (∀ eff, Ev.step eff true ∈ l → hasSetKH eff = true → hasActivate eff = true) → Inv (l.foldl Conn.on s) := by
    intro l
    induction l with
    | nil => intro s hs _; exact hs
    | cons ev r ih =>
      intro s hs hl
      exact ih _ (inv_on s ev hs fun eff he => hl eff (he ▸ List.mem_cons_self))
        fun eff hm => hl eff (List.mem_cons_of_mem _ hm)
  exact Nat.le_trans (Nat.le_add_right _ _) (key evs {} (Nat.le_refl 0) hcs)

/-- a NEWKEYS that arrives with no secret pending kills the session (it is never counted) -/
theorem bare_newkeys_ends_session (s : Conn) (ha : s.dead = false) (hp : s.pendingK = false) :
    (s.on .newkeys).dead = true ∧ (s.on .newkeys).completed = s.completed := by
  simp [Conn.on, ha, hp]

/-- the hypothesis `ClientSteps` is what the engine theorems give: a client step that returns
    normally and published a secret has the shape hash, `_set_K_H`, `_verify_key`, activate -/
theorem verified_step_is_client_step (c : Env) (eff : List Effect) (h : Verified c eff) :
    hasSetKH eff = true ∧ hasActivate eff = true := by
  obtain ⟨_, _, _, _, he, _⟩ := h
  rw [he]; simp [hasSetKH, hasActivate]

/-! ## the session identifier is the first exchange hash, for any number of exchanges -/

/-- `_set_K_H` never changes a session id that is set -/
theorem setKH_keeps_session_id (t : TSt) (k : Nat) (h sid : Bytes) (hs : t.sessionId = some sid) :
    (t.setKH k h).sessionId = some sid := by
  simp [TSt.setKH, hs]

/-- any number of further exchanges (rekeys), with any K and H: the session id stays -/
theorem session_id_stable (t : TSt) (sid : Bytes) (hs : t.sessionId = some sid) (khs : List (Nat × Bytes)) :
    (khs.foldl (fun t kh => t.setKH kh.1 kh.2) t).sessionId = some sid := by
  induction khs generalizing t with
  | nil => exact hs
  | cons kh r ih => exact ih (t.setKH kh.1 kh.2) (setKH_keeps_session_id t _ _ sid hs)

/-- first exchange on a fresh transport fixes it to that exchange's H; K and H follow the latest -/
theorem session_id_is_first_H (k : Nat) (h : Bytes) (khs : List (Nat × Bytes)) :
    (((k, h) :: khs).foldl (fun t kh => t.setKH kh.1 kh.2) ({} : TSt)).sessionId = some h := by
  rw [List.foldl_cons]
  exact session_id_stable _ h (by simp [TSt.setKH]) khs

theorem latest_K_H (t : TSt) (khs : List (Nat × Bytes)) (k : Nat) (h : Bytes) :
    ((khs ++ [(k, h)]).foldl (fun t kh => t.setKH kh.1 kh.2) t).K = some k ∧
    ((khs ++ [(k, h)]).foldl (fun t kh => t.setKH kh.1 kh.2) t).H = some h := by
  simp [List.foldl_append, TSt.setKH]

/-- the same over effect traces: whatever the engines of later exchanges do, the id set by the
    first trace survives -/
theorem session_id_stable_traces (t : TSt) (sid : Bytes) (hs : t.sessionId = some sid) (tr : List Effect) :
    (t.apply tr).sessionId = some sid := by
  induction tr generalizing t with
  | nil => exact hs
  | cons e r ih =>
    cases e with
    | setKH k h => exact ih _ (setKH_keeps_session_id t k h sid hs)
    | _ => exact ih t hs

/-! ## the hash input determines every field: altering one changes the bytes that are hashed -/

/-- size condition under which a value can be written as an SSH string at all -/
def Fits (b : Bytes) : Prop := b.length < 4294967296
def FitsZ (z : Int) : Prop := (mpintBody z).length < 4294967296

/-- RFC 4253 §8 input (fixed groups): injective in the host key, `e`, `f` and `K` (and everything else) -/
theorem hashInGroup_injective (vc vs ic is_ ks vc' vs' ic' is_' ks' : Bytes) (e f e' f' : Int) (K K' : Nat)
    (h1 : Fits vc) (h2 : Fits vs) (h3 : Fits ic) (h4 : Fits is_) (h5 : Fits ks)
    (h1' : Fits vc') (h2' : Fits vs') (h3' : Fits ic') (h4' : Fits is_') (h5' : Fits ks')
    (h6 : FitsZ e) (h7 : FitsZ f) (h8 : FitsZ K) (h6' : FitsZ e') (h7' : FitsZ f') (h8' : FitsZ K')
    (h : hashInGroup vc vs ic is_ ks e f K = hashInGroup vc' vs' ic' is_' ks' e' f' K') :
    vc = vc' ∧ vs = vs' ∧ ic = ic' ∧ is_ = is_' ∧ ks = ks' ∧ e = e' ∧ f = f' ∧ K = K' := by
  unfold hashInGroup at h
  simp only [List.append_assoc] at h
  obtain ⟨a1, h⟩ := encStr_append_inj _ _ _ _ h1 h1' h
  obtain ⟨a2, h⟩ := encStr_append_inj _ _ _ _ h2 h2' h
  obtain ⟨a3, h⟩ := encStr_append_inj _ _ _ _ h3 h3' h
  obtain ⟨a4, h⟩ := encStr_append_inj _ _ _ _ h4 h4' h
  obtain ⟨a5, h⟩ := encStr_append_inj _ _ _ _ h5 h5' h
  obtain ⟨a6, h⟩ := encMpint_append_inj _ _ _ _ h6 h6' h
  obtain ⟨a7, h⟩ := encMpint_append_inj _ _ _ _ h7 h7' h
  have h' : encMpint (K : Int) ++ [] = encMpint (K' : Int) ++ [] := by simpa using h
  obtain ⟨a8, _⟩ := encMpint_append_inj _ _ _ _ h8 h8' h'
  exact ⟨a1, a2, a3, a4, a5, a6, a7, by omega⟩

/-- RFC 5656 §4 input (ECDH / X25519): injective in the host key, both points and `K` -/
theorem hashInEcdh_injective (vc vs ic is_ ks qc qs vc' vs' ic' is_' ks' qc' qs' : Bytes) (K K' : Nat)
    (h1 : Fits vc) (h2 : Fits vs) (h3 : Fits ic) (h4 : Fits is_) (h5 : Fits ks) (h6 : Fits qc) (h7 : Fits qs)
    (h1' : Fits vc') (h2' : Fits vs') (h3' : Fits ic') (h4' : Fits is_') (h5' : Fits ks') (h6' : Fits qc')
    (h7' : Fits qs') (h8 : FitsZ K) (h8' : FitsZ K')
    (h : hashInEcdh vc vs ic is_ ks qc qs K = hashInEcdh vc' vs' ic' is_' ks' qc' qs' K') :
    vc = vc' ∧ vs = vs' ∧ ic = ic' ∧ is_ = is_' ∧ ks = ks' ∧ qc = qc' ∧ qs = qs' ∧ K = K' := by
  unfold hashInEcdh at h
  simp only [List.append_assoc] at h
  obtain ⟨a1, h⟩ := encStr_append_inj _ _ _ _ h1 h1' h
  obtain ⟨a2, h⟩ := encStr_append_inj _ _ _ _ h2 h2' h
  obtain ⟨a3, h⟩ := encStr_append_inj _ _ _ _ h3 h3' h
  obtain ⟨a4, h⟩ := encStr_append_inj _ _ _ _ h4 h4' h
  obtain ⟨a5, h⟩ := encStr_append_inj _ _ _ _ h5 h5' h
  obtain ⟨a6, h⟩ := encStr_append_inj _ _ _ _ h6 h6' h
  obtain ⟨a7, h⟩ := encStr_append_inj _ _ _ _ h7 h7' h
  have h' : encMpint (K : Int) ++ [] = encMpint (K' : Int) ++ [] := by simpa using h
  obtain ⟨a8, _⟩ := encMpint_append_inj _ _ _ _ h8 h8' h'
  exact ⟨a1, a2, a3, a4, a5, a6, a7, by omega⟩

/-! ## a man in the middle who alters the reply makes the client abort (under the crypto assumptions) -/

/-- the cryptographic assumption, stated for one exchange: the only (key, hash, signature) triple
    that verifies is the one the genuine server produced (unforgeability of the host-key scheme;
    and — through `H` — collision resistance of the exchange hash is what turns "different input"
    into "different H", see `altered_reply_aborts`) -/
def Unforgeable (c : Env) (hk H sig : Bytes) : Prop :=
  ∀ hk' H' sig', c.verify hk' H' sig' = true → hk' = hk ∧ H' = H ∧ sig' = sig

/-- Fixed groups: the client was going to hash `hin` (genuine `K_S`, `f`) and the genuine server
    signed `H = hash hin`.  If what arrives differs in the host key, in `f` or in the signature —
    and the hash does not collide on the two inputs — the client raises before `_activate_outbound`:
    no NEWKEYS, handshake aborted. -/
theorem altered_reply_aborts (c : Env) (g : Group) (st : GrpSt) (ks sig ks' sig' : Bytes) (f f' : Int)
    (hfit : Fits ks') (hfitf : FitsZ f') (hfits : Fits sig')
    (hin : Bytes) (hunf : Unforgeable c ks (c.hash hin) sig)
    (hcr : ∀ x, c.hash x = c.hash hin → x = hin)
    (hgenuine : 1 ≤ f ∧ f ≤ (g.P : Int) - 1 →
      hin = hashInGroup c.localVersion c.remoteVersion c.localKexInit c.remoteKexInit ks st.e f
              (powMod f.toNat st.x g.P))
    (halt : (ks', f', sig') ≠ (ks, f, sig))
    (hfitall : Fits c.localVersion ∧ Fits c.remoteVersion ∧ Fits c.localKexInit ∧ Fits c.remoteKexInit ∧
      Fits ks ∧ FitsZ st.e ∧ FitsZ f ∧ FitsZ (powMod f.toNat st.x g.P) ∧ FitsZ (powMod f'.toNat st.x g.P))
    (hfr : 1 ≤ f ∧ f ≤ (g.P : Int) - 1) :
    Effect.activate ∉ (grpReply c g st (encStr ks' ++ encMpint f' ++ encStr sig')).eff ∧
    ∃ e, (grpReply c g st (encStr ks' ++ encMpint f' ++ encStr sig')).out = .error e := by
  rw [grpReply_wire c g st ks' sig' f' hfit hfitf hfits]
  split
  · exact ⟨List.not_mem_nil, _, rfl⟩
  -- the value is in range, so the step concludes: were the verification to succeed, `hunf` and `hcr`
  -- would make the input hashed now equal to the genuine one, and injectivity the reply unaltered
  have hv : c.verify ks' (c.hash (hashInGroup c.localVersion c.remoteVersion c.localKexInit c.remoteKexInit
      ks' st.e f' (powMod f'.toNat st.x g.P))) sig' = false := by
    apply Bool.eq_false_iff.mpr
    intro hv
    obtain ⟨e1, e2, e3⟩ := hunf _ _ _ hv
    obtain ⟨b1, b2, b3, b4, b5, b6, b7, b8, b9⟩ := hfitall
    have := hashInGroup_injective _ _ _ _ _ _ _ _ _ _ _ _ _ _ _ _
      b1 b2 b3 b4 hfit b1 b2 b3 b4 b5 b6 hfitf b9 b6 b7 b8 ((hcr _ e2).trans (hgenuine hfr))
    exact halt (by rw [e1, e3, this.2.2.2.2.2.2.1])
  simp only [conclude, hv, Bool.false_eq_true, if_false]
  exact ⟨by simp, _, rfl⟩

/-! ## `Transport.connect(hostkey=…)`: a pinned host key is compared before anything else happens -/

open PV.Connect in
/-- the authentication part never raises: each of the 16 combinations of the four flags evaluates
    to `auth _` or `noAuth` -/
private theorem authStep_ne_raised (o : Opts) : authStep o ≠ .raised := by
  rcases o with ⟨_, _ | _, _ | _, _ | _, _ | _⟩ <;> exact Out.noConfusion

open PV.Connect in
/-- `connect` raises exactly when `start_client()` failed, or a key is pinned, GSS-API key
    exchange was not requested, and the server's key differs from the pinned one in name or blob -/
theorem connect_raised_iff (o : Opts) (startOk : Bool) (server : HostKey) :
    connect o startOk server = .raised ↔
      startOk = false ∨ ∃ hk, o.hostkey = some hk ∧ o.gssKex = false ∧
        (server.name ≠ hk.name ∨ server.blob ≠ hk.blob) := by
  unfold connect
  cases startOk
  · exact iff_of_true rfl (.inl rfl)
  · rw [if_neg (by simp)]
    cases o.hostkey with
    | none => exact iff_of_false (authStep_ne_raised o) (by simp)
    | some k =>
      simp only
      split
      · next h => exact iff_of_true rfl (.inr ⟨k, rfl, by simpa using h.1, h.2⟩)
      · next h =>
        refine iff_of_false (authStep_ne_raised o) ?_
        rintro (h0 | ⟨k', hk', hg, hd⟩)
        · cases h0
        · cases hk'; exact h ⟨by simp [hg], hd⟩

open PV.Connect in
/-- pinned key differs from the key the server showed (and GSS-API key exchange, which authenticates
    the host by other means, was not requested): `connect` raises — whatever credentials were or
    were not passed, so no auth_* call is made and the call does not return normally -/
theorem pinned_mismatch_raises (o : Opts) (hk server : HostKey) (startOk : Bool)
    (hpin : o.hostkey = some hk) (hgss : o.gssKex = false)
    (hdiff : server.name ≠ hk.name ∨ server.blob ≠ hk.blob) :
    connect o startOk server = .raised :=
  (connect_raised_iff o startOk server).mpr (.inr ⟨hk, hpin, hgss, hdiff⟩)

open PV.Connect in
/-- conversely: whenever `connect` goes on (authenticates or returns), either no key was pinned, or
    GSS-API key exchange was requested, or the server's key is exactly the pinned one -/
theorem proceeds_only_if_pin_ok (o : Opts) (server : HostKey) (startOk : Bool)
    (h : connect o startOk server ≠ .raised) :
    startOk = true ∧ (o.hostkey = none ∨ o.gssKex = true ∨ o.hostkey = some server) := by
  have h' := mt (connect_raised_iff o startOk server).mpr h
  refine ⟨(Bool.not_eq_false _).mp fun e => h' (.inl e), ?_⟩
  cases hk : o.hostkey with
  | none => exact .inl rfl
  | some k =>
    cases hg : o.gssKex with
    | true => exact .inr (.inl rfl)
    | false =>
      -- neither the name nor the blob may differ
      have hn : server.name = k.name := Classical.byContradiction fun hn => h' (.inr ⟨k, hk, hg, .inl hn⟩)
      have hb : server.blob = k.blob := Classical.byContradiction fun hb => h' (.inr ⟨k, hk, hg, .inr hb⟩)
      cases server; cases k; cases hn; cases hb
      exact .inr (.inr rfl)

open PV.Connect in
/-- the check does not depend on the credentials: same verdict with and without them -/
theorem pin_check_independent_of_credentials (o o' : Opts) (server : HostKey) (startOk : Bool)
    (hk : o.hostkey = o'.hostkey) (hg : o.gssKex = o'.gssKex) :
    (connect o startOk server = .raised ↔ connect o' startOk server = .raised) := by
  rw [connect_raised_iff, connect_raised_iff, hk, hg]

/-! ## non-vacuity -/

private def cEnv : Env :=
  { serverMode := false, localVersion := [1], remoteVersion := [2], localKexInit := [3],
    remoteKexInit := [4], hostKey := [], hash := toyHash, sign := toySign [6] [],
    verify := toyVerify [6], modulus := fun _ _ _ => none }
private def sEnv : Env :=
  { serverMode := true, localVersion := [2], remoteVersion := [1], localKexInit := [4],
    remoteKexInit := [3], hostKey := [5], hash := toyHash, sign := toySign [6] [5],
    verify := toyVerify [6], modulus := fun _ _ _ => none }

example : Mirror cEnv sEnv := ⟨rfl, rfl, rfl, rfl, rfl, rfl, rfl⟩
/-- the toy verifier accepts the toy signature: the `if` of the honest-run theorems takes its true branch -/
example (hk H : Bytes) : toyVerify [6] hk H (toySign [6] hk H) = true := by simp [toyVerify]
/-- the ideal-world verifier satisfies `Unforgeable` -/
example (hk H sig : Bytes) :
    Unforgeable { cEnv with verify := fun a b c => a == hk && b == H && c == sig } hk H sig := by
  intro a b c h
  simp at h
  exact ⟨h.1.1, h.1.2, h.2⟩
/-- a hash without collisions exists (identity), so the collision-freeness hypothesis is satisfiable -/
example (hin : Bytes) : ∀ x, (fun b : Bytes => b) x = (fun b : Bytes => b) hin → x = hin := fun _ h => h
example : (({} : TSt).setKH 5 [1]).setKH 6 [2] = { K := some 6, H := some [2], sessionId := some [1] } := rfl

end PV.Props.C06
