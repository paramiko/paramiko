/-
  C27 — Remote SFTP files behave like local Python binary files.
  Model: PV/Model/SftpFile.lean (SFTPFile + server handle) over PV/Model/BufFile.lean (BufferedFile).
  Spec: PV/Model/PyFile.lean (`pstep`), validated against real local files on every run.

  FULL STATEMENT (false of today's code — see the `_witness` theorems):
    ∀ mode bufsize content prog,  outputs (srun …) = outputs (prun …)  ∧  final contents equal.
  Proved here: `refines_partial` (the statement on programs of read/readline/readlines/write/seek/tell/flush/
  truncate/close calls that fire no defect trigger, for every mode flag combination — append included —, buffer size,
  request-size limit and file content)
  and one `_witness` per defect tag (a concrete program on which the model — which the correspondence check
  ties to the real code — departs from the spec, with exactly that tag fired).
-/
import PV.Model.SftpFileLemmas
namespace PV.Props.C27
open PV PV.BufFile PV.SftpFile PV.PyFile PV.C27

/-- a program for `agrees`: how the file is opened, what it holds, the calls -/
structure Prog where
  mode : String
  bufsize : Int
  init : Option Bytes
  ops : List FOp
  truncZero : Bool := false

def str (s : String) : Bytes := s.toUTF8.toList

/-- what the property compares for one call -/
def sameOut (op : FOp) (m s : Out) : Bool := eraseErr m == eraseErr (eraseRet op s)

def sameOuts : List FOp → List Out → List Out → Bool
  | op :: ops, m :: ms, s :: ss => sameOut op m s && sameOuts ops ms ss
  | [], [], [] => true
  | _, _, _ => false

/-- `some true`: model and spec agree on every return value and on the file's bytes -/
def agrees (w : Prog) : Option Bool :=
  match sftpOpen w.init w.mode.toList w.bufsize 8192 w.truncZero, pyOpen w.init w.mode.toList with
  | some f0, some p0 =>
    let m := srun (sftpOps 32768) f0 w.ops
    let s := prun p0 w.ops
    some (sameOuts w.ops m.2 s.2 && m.1.s.content == s.1.content)
  | none, none => some true
  | _, _ => some false

def tagsOf (w : Prog) : List Tag :=
  match sftpOpen w.init w.mode.toList w.bufsize 8192 w.truncZero with
  | some f0 => openTags w.mode.toList ++ runTags (sftpOps 32768) f0 w.ops
  | none => []

/-! ## witnesses: one per defect tag (replayed on the real code by the check on every run) -/

def w_write_with_unread_rbuffer : Prog :=
  { mode := "r+b", bufsize := 0, init := some (str "ab\ncd\n"), ops := [.readline none, .write (str "X"), .close] }
def w_read_with_unflushed_wbuffer : Prog :=
  { mode := "r+b", bufsize := 16, init := some (str "abcdef"), ops := [.write (str "XY"), .read (some 2), .close] }
def w_tell_ignores_wbuffer : Prog :=
  { mode := "wb", bufsize := 16, init := none, ops := [.write (str "abc"), .tell, .close] }
def w_truncate_ignores_buffers : Prog :=
  { mode := "w+b", bufsize := 16, init := none, ops := [.write (str "abcdef"), .truncate 2, .close] }
def w_truncate_not_checked_writable : Prog :=
  { mode := "rb", bufsize := 0, init := some (str "abcdef"), ops := [.truncate 2, .close] }
def w_truncate_zeroes_file : Prog :=
  { mode := "r+b", bufsize := 0, init := some (str "abcdef"), ops := [.truncate 2, .close], truncZero := true }
def w_truncate_in_append_mode : Prog :=
  { mode := "ab", bufsize := 0, init := some (str "abcdef"), ops := [.truncate 2, .write (str "X"), .tell, .close] }
def w_negative_seek_accepted : Prog :=
  { mode := "rb", bufsize := 0, init := some (str "abc"), ops := [.seek (-1) 0, .close] }
def w_closed_file_call_accepted : Prog :=
  { mode := "rb", bufsize := 0, init := some (str "abc"), ops := [.close, .tell] }
def w_x_mode_not_writable : Prog :=
  { mode := "xb", bufsize := 0, init := none, ops := [.write (str "a"), .close] }
def w_readlines_hint_rounding : Prog :=
  { mode := "rb", bufsize := 0, init := some (str "a\nb\n"), ops := [.readlines (some 0), .close] }
def w_readline0_on_unreadable : Prog :=
  { mode := "wb", bufsize := 0, init := none, ops := [.readline (some 0), .close] }
def w_returns_none : Prog :=
  { mode := "wb", bufsize := 0, init := none, ops := [.write (str "a"), .close] }

/-- repaired in /repo: the program that used to diverge now refines the local file -/
theorem legacy_write_with_unread_rbuffer_witness :
    agrees w_write_with_unread_rbuffer = some true ∧ tagsOf w_write_with_unread_rbuffer = [] := by
  decide +kernel
/-- repaired in /repo: the program that used to diverge now refines the local file -/
theorem legacy_read_with_unflushed_wbuffer_witness :
    agrees w_read_with_unflushed_wbuffer = some true ∧ tagsOf w_read_with_unflushed_wbuffer = [] := by
  decide +kernel
theorem tell_ignores_wbuffer_witness :
    agrees w_tell_ignores_wbuffer = some false ∧ tagsOf w_tell_ignores_wbuffer = [.tell_ignores_wbuffer] := by
  decide +kernel
/-- repaired in /repo: the program that used to diverge now refines the local file -/
theorem legacy_truncate_ignores_buffers_witness :
    agrees w_truncate_ignores_buffers = some true ∧ tagsOf w_truncate_ignores_buffers = [] := by
  decide +kernel
theorem truncate_not_checked_writable_witness :
    agrees w_truncate_not_checked_writable = some false ∧
    tagsOf w_truncate_not_checked_writable = [.truncate_not_checked_writable] := by
  decide +kernel
theorem truncate_zeroes_file_witness :
    agrees w_truncate_zeroes_file = some false ∧ tagsOf w_truncate_zeroes_file = [.truncate_zeroes_file] := by
  decide +kernel
theorem truncate_in_append_mode_witness :
    agrees w_truncate_in_append_mode = some false ∧ tagsOf w_truncate_in_append_mode = [.truncate_in_append_mode] := by
  decide +kernel
theorem negative_seek_accepted_witness :
    agrees w_negative_seek_accepted = some false ∧ tagsOf w_negative_seek_accepted = [.negative_seek_accepted] := by
  decide +kernel
theorem closed_file_call_accepted_witness :
    agrees w_closed_file_call_accepted = some false ∧ tagsOf w_closed_file_call_accepted = [.closed_file_call_accepted] := by
  decide +kernel
theorem x_mode_not_writable_witness :
    agrees w_x_mode_not_writable = some false ∧ tagsOf w_x_mode_not_writable = [.x_mode_not_writable] := by
  decide +kernel
theorem readlines_hint_rounding_witness :
    agrees w_readlines_hint_rounding = some false ∧ tagsOf w_readlines_hint_rounding = [.readlines_hint_rounding] := by
  decide +kernel
theorem readline0_on_unreadable_witness :
    agrees w_readline0_on_unreadable = some false ∧ tagsOf w_readline0_on_unreadable = [.readline0_on_unreadable] := by
  decide +kernel

/-- write()/seek()/truncate() return None: without the erasure of exactly that, even the simplest program differs -/
theorem returns_none_witness :
    agrees w_returns_none = some true ∧ tagsOf w_returns_none = [] ∧
    (sstep (sftpOps 32768) ((sftpOpen none "wb".toList 0 8192 false).get (by decide)) (.write (str "a"))).2 = .unit ∧
    (pstep ((pyOpen none "wb".toList).get (by decide)) (.write (str "a"))).2 = .pos 1 := by
  decide +kernel

/-- former witnesses of repaired defects (regression programs for the harness) -/
def legacyWitnesses : List (String × Prog) :=
  [("write_with_unread_rbuffer", w_write_with_unread_rbuffer),
   ("read_with_unflushed_wbuffer", w_read_with_unflushed_wbuffer),
   ("truncate_ignores_buffers", w_truncate_ignores_buffers)]

def witnesses : List (String × Prog) :=
  [("tell_ignores_wbuffer", w_tell_ignores_wbuffer),
   ("truncate_not_checked_writable", w_truncate_not_checked_writable),
   ("truncate_zeroes_file", w_truncate_zeroes_file),
   ("truncate_in_append_mode", w_truncate_in_append_mode),
   ("negative_seek_accepted", w_negative_seek_accepted),
   ("closed_file_call_accepted", w_closed_file_call_accepted),
   ("x_mode_not_writable", w_x_mode_not_writable),
   ("readlines_hint_rounding", w_readlines_hint_rounding),
   ("readline0_on_unreadable", w_readline0_on_unreadable),
   ("returns_none", w_returns_none)]


/-! ## refinement -/

/-- calls covered by the proved refinement: every call the property names; `whence ∈ {0,1,2}` -/
def Covered : FOp → Prop
  | .seek _ wh => wh ≤ 2
  | _ => True

/-- Simulation relation between the SFTPFile model (client buffers + server file and handle) and the
    local-file spec.  The spec file is the server file with the not-yet-flushed write buffer applied at the
    caller's position (at the end, in append mode); the read-ahead buffer is a true slice of the server file. -/
structure Rel (f : BF Srv) (p : PF) : Prop where
  closed : p.closed = f.closed
  rd : p.rd = f.rd
  wr : p.wr = f.wr
  app : p.app = f.app
  w : WPre f
  nstale : f.s.stale = false
  bs : 1 ≤ f.bufsize
  dflt : 1 ≤ f.dflt
  unbuf : f.buffered = false → f.wbuf = []
  dead : f.closed = true → p.content = f.s.content ∧ f.s.hopen = false ∧ f.wbuf = []
  hopen : f.closed = false → f.s.hopen = true
  rbufOK : f.rbuf = (f.s.content.drop f.pos.toNat).take f.rbuf.length
  content : f.closed = false →
    p.content = (if f.app = true then f.s.content ++ f.wbuf else overlay f.s.content f.pos.toNat f.wbuf)
  ppos : f.closed = false →
    (p.pos : Int) = (if f.wbuf = [] then f.pos
                     else if f.app = true then ((f.s.content.length + f.wbuf.length : Nat) : Int)
                     else f.pos + f.wbuf.length)

def StepOK (o : Ops Srv) (f : BF Srv) (p : PF) (op : FOp) : Prop :=
  Rel (sstep o f op).1 (pstep p op).1 ∧ sameOut op (sstep o f op).2 (pstep p op).2 = true

private theorem untriggered {b : Bool} {x : Tag} (h : (if b then [x] else ([] : List Tag)) = []) : b = false := by
  cases b <;> simp_all

private theorem sameOut_err (op : FOp) (e : Err) : sameOut op (.err e) PyFile.E = true := by
  cases op <;> rfl

/-- what the spec file holds and where it stands, as functions of the model state (the right-hand sides of
    `Rel.content` and `Rel.ppos`) -/
private def specContent (f : BF Srv) : Bytes :=
  if f.app = true then f.s.content ++ f.wbuf else overlay f.s.content f.pos.toNat f.wbuf

private def specPos (f : BF Srv) : Int :=
  if f.wbuf = [] then f.pos
  else if f.app = true then ((f.s.content.length + f.wbuf.length : Nat) : Int) else f.pos + f.wbuf.length

/-- with an empty write buffer the spec file IS the server file and the positions coincide -/
private theorem spec_flushed {f : BF Srv} (hw : f.wbuf = []) : specContent f = f.s.content ∧ specPos f = f.pos := by
  unfold specContent specPos
  rw [hw, if_pos rfl, overlay_nil, List.append_nil, ite_self]
  exact ⟨rfl, rfl⟩

private theorem Rel.content_eq {f : BF Srv} {p : PF} (r : Rel f p) (hc : f.closed = false) :
    p.content = specContent f := r.content hc

private theorem Rel.ppos_eq {f : BF Srv} {p : PF} (r : Rel f p) (hc : f.closed = false) : (p.pos : Int) = specPos f :=
  r.ppos hc

private theorem cfg_flags {f g : BF Srv} (h : cfg g = cfg f) :
    g.rd = f.rd ∧ g.wr = f.wr ∧ g.app = f.app ∧ g.bufsize = f.bufsize ∧ g.dflt = f.dflt :=
  ⟨congrArg Cfg.rd h, congrArg Cfg.wr h, congrArg Cfg.app h, congrArg Cfg.bufsize h, congrArg Cfg.dflt h⟩

private theorem rel_wnil_facts {f : BF Srv} {p : PF} (r : Rel f p) (hc : f.closed = false) (hw : f.wbuf = []) :
    p.content = f.s.content ∧ (p.pos : Int) = f.pos :=
  ⟨(r.content hc).trans (spec_flushed hw).1, (r.ppos hc).trans (spec_flushed hw).2⟩

/-- The relation on an open file `g`, from a related pair with the same configuration: flags and buffer sizes
    carry over. -/
private theorem rel_open {f g : BF Srv} {p q : PF} (r : Rel f p) (hg : g.closed = false)
    (hcfg : g.rd = f.rd ∧ g.wr = f.wr ∧ g.app = f.app ∧ g.bufsize = f.bufsize ∧ g.dflt = f.dflt)
    (hq : q.closed = false ∧ q.rd = p.rd ∧ q.wr = p.wr ∧ q.app = p.app)
    (w : WPre g) (hst : g.s.stale = false) (hho : g.s.hopen = true) (unbuf : g.buffered = false → g.wbuf = [])
    (hrb : g.rbuf = (g.s.content.drop g.pos.toNat).take g.rbuf.length)
    (hcont : q.content = specContent g) (hpos : (q.pos : Int) = specPos g) : Rel g q :=
  { closed := hq.1.trans hg.symm
    rd := hq.2.1.trans (r.rd.trans hcfg.1.symm)
    wr := hq.2.2.1.trans (r.wr.trans hcfg.2.1.symm)
    app := hq.2.2.2.trans (r.app.trans hcfg.2.2.1.symm)
    w := w, nstale := hst
    bs := (by rw [hcfg.2.2.2.1]; exact r.bs)
    dflt := (by rw [hcfg.2.2.2.2]; exact r.dflt)
    unbuf := unbuf
    dead := fun h => Bool.noConfusion (hg.symm.trans h)
    hopen := fun _ => hho, rbufOK := hrb, content := fun _ => hcont, ppos := fun _ => hpos }

private theorem rel_open_flushed {f g : BF Srv} {p q : PF} (r : Rel f p) (hg : g.closed = false)
    (hcfg : g.rd = f.rd ∧ g.wr = f.wr ∧ g.app = f.app ∧ g.bufsize = f.bufsize ∧ g.dflt = f.dflt)
    (hq : q.closed = false ∧ q.rd = p.rd ∧ q.wr = p.wr ∧ q.app = p.app)
    (w : WPre g) (hst : g.s.stale = false) (hho : g.s.hopen = true) (hw : g.wbuf = [])
    (hrb : g.rbuf = (g.s.content.drop g.pos.toNat).take g.rbuf.length)
    (hcont : q.content = g.s.content) (hpos : (q.pos : Int) = g.pos) : Rel g q :=
  rel_open r hg hcfg hq w hst hho (fun _ => hw) hrb (hcont.trans (spec_flushed hw).1.symm)
    (hpos.trans (spec_flushed hw).2.symm)

/-- Writing out a non-empty prefix `data` of the write buffer `data ++ keep` leaves the spec state where it is.
    `_write_all` reads neither the write buffer nor the buffering flag, so the relation is asked of `f` WITH
    that buffer and flag, and the call is made on `f` itself: the unbuffered `write(d)` is the case
    `data = d`, `keep = []`. -/
private theorem rel_after_writeAll (maxReq : Nat) (hm : 1 ≤ maxReq) (f : BF Srv) (p : PF) (data keep : Bytes)
    (b : Bool) (r : Rel { f with wbuf := data ++ keep, buffered := b } p) (hc : f.closed = false) (hne : data ≠ [])
    (hk : keep ≠ [] → b = true) :
    ∃ f', writeAll (sftpOps maxReq) f data = (f', .ok ()) ∧ Rel { f' with wbuf := keep, buffered := b } p ∧
      f'.closed = false ∧ f'.s.truncZero = f.s.truncZero ∧ f'.s.didRead = f.s.didRead ∧
      f'.wbuf = f.wbuf ∧ f'.buffered = f.buffered := by
  obtain ⟨f', hres, h2, h3, h4, h6, h7, h8, h9⟩ :=
    writeAll_sftp maxReq hm f data (r.w.congr rfl rfl rfl rfl rfl rfl) hne
  obtain ⟨c1, c2, c3, c4, c5, c6, c7, c8, h5, c9, c10⟩ := h9
  replace h5 : f'.rbuf = [] := h5
  obtain ⟨s1, s2, s3, s4, s5⟩ := h8
  have hcl : f'.closed = false := by rw [c10]; exact hc
  have hcont := r.content_eq hc
  have hpos := r.ppos_eq hc
  simp only [specContent, specPos] at hcont hpos
  rw [if_neg (by simp [hne])] at hpos
  have hp0 : 0 ≤ f.pos := r.w.pos0
  refine ⟨f', hres, ?_, hcl, s3, s4, c9, c5⟩
  refine rel_open r hcl ⟨c1, c2, c3, c7, c8⟩ ⟨r.closed.trans hc, rfl, rfl, rfl⟩
    ⟨by show 0 ≤ f'.pos; rw [h3]; split <;> omega, by show f'.realpos = f'.pos + _; rw [h4, h5]; simp, h7,
      s1.trans (Eq.trans r.w.sapp c3.symm), fun ha => ?_⟩
    (s5.trans r.nstale) (s2.trans (r.hopen hc)) (fun hb => ?_) (by show f'.rbuf = _; rw [h5]; simp) ?_ ?_
  · have ha : f.app = true := c3.symm.trans ha
    show f'.size = _
    rw [h6 ha, h2, if_pos ha, List.length_append]
  · by_cases hk0 : keep = []
    · exact hk0
    · exact absurd (hk hk0) (by rw [show b = false from hb]; decide)
  · simp only [specContent]
    rw [c3, h2, hcont]
    by_cases ha : f.app = true
    · simp only [ha, if_true, List.append_assoc]
    · simp only [ha, Bool.false_eq_true, if_false]
      rw [h3, if_neg ha, toNat_add_nat _ _ hp0, overlay_append]
  · simp only [specPos]
    rw [c3, h3, h2, hpos]
    by_cases ha : f.app = true
    · simp only [ha, if_true, List.length_append]
      split
      · rename_i hk0; rw [hk0]; simp
      · push_cast; omega
    · simp only [ha, Bool.false_eq_true, if_false, List.length_append]
      split
      · rename_i hk0; rw [hk0]; simp
      · push_cast; omega

/-- flushing keeps the relation (the spec state does not move) -/
private theorem rel_after_flush (maxReq : Nat) (hm : 1 ≤ maxReq) (f : BF Srv) (p : PF) (r : Rel f p)
    (hc : f.closed = false) :
    ∃ f', BufFile.flush (sftpOps maxReq) f = (f', .ok ()) ∧ Rel f' p ∧ f'.wbuf = [] ∧ f'.closed = false ∧
      f'.s.truncZero = f.s.truncZero ∧ f'.s.didRead = f.s.didRead := by
  by_cases hw : f.wbuf = []
  · exact ⟨f, flush_nil _ f hw, r, hw, hc, rfl, rfl⟩
  · obtain ⟨f', h, k2, k3, k4, k5, _, k7⟩ :=
      rel_after_writeAll maxReq hm f p f.wbuf [] f.buffered (by rw [List.append_nil]; exact r) hc hw
        (fun h => absurd rfl h)
    rw [← k7] at k2
    exact ⟨_, by rw [BufFile.flush, h], k2, rfl, k3, k4, k5⟩

/-! ### read-type calls -/

private theorem pend_eq (maxReq : Nat) (hm : 1 ≤ maxReq) {f : BF Srv} {p : PF} (r : Rel f p) :
    pendG (sftpLaws maxReq hm) f = f.s.content.drop f.pos.toNat := by
  show f.rbuf ++ f.s.content.drop f.realpos.toNat = _
  have h2 : f.realpos.toNat = f.pos.toNat + f.rbuf.length := by
    have := r.w.rp; have := r.w.pos0; omega
  rw [h2, ← List.drop_drop]
  conv => lhs; lhs; rw [r.rbufOK]
  exact List.take_append_drop _ _

/-- a read-type call that handed `out` to the caller moves both sides by `out.length` and nothing else -/
private theorem rel_after_read (maxReq : Nat) (hm : 1 ≤ maxReq) {f f' : BF Srv} {p : PF} {out : Bytes}
    (r : Rel f p) (hc : f.closed = false) (hw : f.wbuf = [])
    (h : ReadPost (sftpLaws maxReq hm) f f' out) : Rel f' { p with pos := p.pos + out.length } := by
  have hcfg := h.cli.conf
  obtain ⟨e1, e2, e3, e4, e5⟩ := h.fr
  obtain ⟨k0, kc, ks⟩ := h.ok
  obtain ⟨hcont, hpos⟩ := rel_wnil_facts r hc hw
  have happ : f'.app = f.app := congrArg Cfg.app hcfg
  have hp0 := r.w.pos0
  -- the new read-ahead is a slice of the (unchanged) server file at the new position
  have hrest : f'.rbuf ++ f'.s.content.drop f'.realpos.toNat = f.s.content.drop (f.pos.toNat + out.length) := by
    have h2 : pendG (sftpLaws maxReq hm) f' = _ := h.pend_drop
    rwa [pend_eq maxReq hm r, List.drop_drop] at h2
  have hpos' : f'.pos.toNat = f.pos.toNat + out.length := by rw [h.pos]; omega
  refine rel_open_flushed r (h.cli.closed.trans hc)
    (cfg_flags hcfg)
    ⟨r.closed.trans hc, rfl, rfl, rfl⟩
    ⟨by rw [h.pos]; omega, by have := h.rp; have := r.w.rp; omega, kc, by rw [e2, happ]; exact r.w.sapp,
      fun ha => by rw [h.cli.size, e1]; exact r.w.asize (happ ▸ ha)⟩
    ks (e3.trans (r.hopen hc)) (h.cli.wbuf.trans hw) ?_ (hcont.trans e1.symm) ?_
  · rw [e1, hpos', ← hrest, List.take_append_of_le_length (Nat.le_refl _), List.take_length]
  · show ((p.pos + out.length : Nat) : Int) = f'.pos
    rw [h.pos]; push_cast; omega

/-- On an open readable file the "flush before reading" step succeeds without moving the spec state; the call on
    `f` is then the call on the flushed file `g`, to which the theorems of PV.Model.ReadGeneric apply. -/
private theorem read_ready (maxReq : Nat) (hm : 1 ≤ maxReq) (f : BF Srv) (p : PF) (r : Rel f p)
    (hc : f.closed = false) (hr : f.rd = true) :
    ∃ g, syncForRead (sftpOps maxReq) f = (g, .ok ()) ∧ Rel g p ∧ g.closed = false ∧ g.wbuf = [] ∧
      ReadPre (sftpLaws maxReq hm) g ∧ p.content.drop p.pos = pendG (sftpLaws maxReq hm) g := by
  have key : ∀ g, Rel g p → g.closed = false → g.wbuf = [] →
      ReadPre (sftpLaws maxReq hm) g ∧ p.content.drop p.pos = pendG (sftpLaws maxReq hm) g := by
    intro g rg gc gw
    have hp0 := rg.w.pos0
    refine ⟨⟨⟨by have := rg.w.rp; omega, rg.w.coh, rg.nstale⟩, gc, rg.rd.symm.trans (r.rd.trans hr), Or.inl gw⟩, ?_⟩
    obtain ⟨h1, h2⟩ := rel_wnil_facts rg gc gw
    rw [pend_eq maxReq hm rg, h1]
    congr 1
    omega
  by_cases hw : f.wbuf = []
  · exact ⟨f, syncForRead_wnil f hw, r, hc, hw, key f r hc hw⟩
  · obtain ⟨g, h, g2, g3, g4, _, _⟩ := rel_after_flush maxReq hm f p r hc
    have hs : syncForRead (sftpOps maxReq) f = BufFile.flush (sftpOps maxReq) f := by
      have : f.wbuf.isEmpty = false := by simpa using hw
      simp [syncForRead, this, sftpOps]
    exact ⟨g, hs.trans h, g2, g4, g3, key g g2 g4 g3⟩

private theorem spec_refuses {f : BF Srv} {p : PF} (r : Rel f p) (hx : f.closed = true ∨ f.rd = false) :
    (p.closed || !p.rd) = true := by
  rw [r.closed, r.rd]
  rcases hx with h | h <;> simp [h]

private theorem step_read (maxReq : Nat) (hm : 1 ≤ maxReq) (f : BF Srv) (p : PF) (n : Option Nat) (r : Rel f p) :
    StepOK (sftpOps maxReq) f p (.read n) := by
  simp only [StepOK, sstep, pstep]
  rcases usable f.closed f.rd with ⟨hc, hr⟩ | hx
  · obtain ⟨g, hs, rg, gc, gw, pre, hrest⟩ := read_ready maxReq hm f p r hc hr
    rw [read_after_sync n hc hr hs pre, if_neg (by simp [r.closed, r.rd, hc, hr]), hrest]
    cases n with
    | none =>
      obtain ⟨f', out, h, rfl, h2, _⟩ := (read_none_gen _ g pre rg.dflt).returns (sftpLaws_never_fails maxReq hm)
      rw [h]
      exact ⟨rel_after_read maxReq hm rg gc gw h2, by simp [outOf, sameOut, eraseRet, eraseErr]⟩
    | some k =>
      obtain ⟨f', out, h, rfl, h2⟩ := (read_some_gen _ g k pre).returns (sftpLaws_never_fails maxReq hm)
      rw [h]
      exact ⟨rel_after_read maxReq hm rg gc gw h2, by simp [outOf, sameOut, eraseRet, eraseErr]⟩
  · rw [read_refused _ _ _ hx, if_pos (spec_refuses r hx)]
    exact ⟨r, sameOut_err _ _⟩

private theorem step_readline (maxReq : Nat) (hm : 1 ≤ maxReq) (f : BF Srv) (p : PF) (n : Option Nat) (r : Rel f p)
    (ht : triggers (sftpOps maxReq) f (.readline n) = []) : StepOK (sftpOps maxReq) f p (.readline n) := by
  simp only [StepOK, sstep, pstep]
  rcases usable f.closed f.rd with ⟨hc, hr⟩ | hx
  · obtain ⟨g, hs, rg, gc, gw, pre, hrest⟩ := read_ready maxReq hm f p r hc hr
    obtain ⟨f', out, h, rfl, h2⟩ := (readline_gen _ g n pre rg.bs).returns (sftpLaws_never_fails maxReq hm)
    rw [readline_after_sync n hc hr hs pre, h]
    by_cases h0 : n = some 0
    · -- `readline(0)`: the spec does not touch the file; the model hands out nothing
      subst h0
      have hz : specLine (some 0) (pendG (sftpLaws maxReq hm) g) = [] := by simp [specLine, lineOf]
      rw [hz] at h2 ⊢
      simp only [beq_self_eq_true, if_true]
      exact ⟨rel_after_read maxReq hm rg gc gw h2, by simp [outOf, sameOut, eraseRet, eraseErr]⟩
    · rw [if_neg (by simpa using h0), if_neg (by simp [r.closed, r.rd, hc, hr]), hrest]
      exact ⟨rel_after_read maxReq hm rg gc gw h2, by simp [outOf, sameOut, eraseRet, eraseErr]⟩
  · have h0 : (n == some 0) = false := by
      -- `readline(0)` on a closed / unreadable file is the trigger `readline0_on_unreadable`
      cases hn : n == some 0 with
      | false => rfl
      | true =>
        have : n = some 0 := by simpa using hn
        subst this
        have := untriggered ht
        rcases hx with h | h <;> simp [h] at this
    rw [readline_refused _ _ _ hx, if_neg (show ¬ (n == some 0) = true by simp [h0]), if_pos (spec_refuses r hx)]
    exact ⟨r, sameOut_err _ _⟩

private theorem splitLines_of_LinesOf {P : Bytes} {ls : List Bytes} (h : LinesOf P ls []) :
    ∀ k, P.length ≤ k → splitLines k P = ls := by
  generalize hq : ([] : Bytes) = q at h
  induction h with
  | nil p =>
    subst hq
    intro k _
    cases k <;> simp [splitLines]
  | cons p l ls p' hl hne _ ih =>
    intro k hk
    have hpne : p ≠ [] := by
      intro hp; subst hp; exact hne (by rw [hl]; rfl)
    have hplen : 0 < p.length := List.length_pos_iff.2 hpne
    cases k with
    | zero => omega
    | succ k =>
      have he : p.isEmpty = false := by simpa using hpne
      have hll : 0 < l.length := List.length_pos_iff.2 hne
      simp only [splitLines, he, Bool.false_eq_true, if_false, ← hl]
      rw [ih hq k (by rw [List.length_drop]; omega)]

private theorem takeLines_none (ls : List Bytes) (t : Nat) : takeLines none ls t = ls := by
  induction ls generalizing t with
  | nil => rfl
  | cons l ls ih => simp [takeLines, ih]

private theorem step_readlines (maxReq : Nat) (hm : 1 ≤ maxReq) (f : BF Srv) (p : PF) (hint : Option Int) (r : Rel f p)
    (ht : triggers (sftpOps maxReq) f (.readlines hint) = []) : StepOK (sftpOps maxReq) f p (.readlines hint) := by
  simp only [StepOK, sstep, pstep, BufFile.readlines]
  rcases usable f.closed f.rd with ⟨hc, hr⟩ | hx
  · have hnone : hint = none := by
      cases hint with
      | none => rfl
      | some h => simp [triggers, hc, hr] at ht
    subst hnone
    obtain ⟨g, hs, rg, gc, gw, pre, hrest⟩ := read_ready maxReq hm f p r hc hr
    rw [if_neg (by simp [hc, hr]), if_neg (by simp [r.closed, r.rd, hc, hr]), hs, hrest]
    simp only
    obtain ⟨f', new, h, k2, k3, k4⟩ := readlines_gen _ (sftpLaws_never_fails maxReq hm) none g pre rg.bs
    rw [k4 rfl] at k2
    rw [h, splitLines_of_LinesOf k2 _ (Nat.le_refl _), takeLines_none]
    exact ⟨rel_after_read maxReq hm rg gc gw k3, by simp [outOf, sameOut, eraseRet, eraseErr]⟩
  · -- the first readline raises on both sides
    rw [if_pos (by rcases hx with h | h <;> simp [h]), if_pos (spec_refuses r hx), readlinesLoop,
      readline_refused _ _ _ hx]
    exact ⟨r, sameOut_err _ _⟩


/-! ### positioning and writing calls -/

private theorem step_tell (o : Ops Srv) (f : BF Srv) (p : PF) (r : Rel f p) (ht : triggers o f .tell = []) :
    StepOK o f p .tell := by
  simp only [triggers, List.append_eq_nil_iff] at ht
  have hc : f.closed = false := untriggered ht.1
  have hw : f.wbuf = [] := by
    have := untriggered ht.2
    simp [hc] at this
    simpa using this
  have hp := (rel_wnil_facts r hc hw).2
  have hpc : p.closed = false := by rw [r.closed, hc]
  simp only [StepOK, sstep, pstep, hpc, Bool.false_eq_true, if_false]
  refine ⟨r, ?_⟩
  simp [sameOut, eraseRet, eraseErr, BufFile.tell, hp]

private theorem step_flush (maxReq : Nat) (hm : 1 ≤ maxReq) (f : BF Srv) (p : PF) (r : Rel f p)
    (ht : triggers (sftpOps maxReq) f .flush = []) : StepOK (sftpOps maxReq) f p .flush := by
  simp only [triggers] at ht
  have hc : f.closed = false := untriggered ht
  have hpc : p.closed = false := by rw [r.closed, hc]
  obtain ⟨f', h, g2, _⟩ := rel_after_flush maxReq hm f p r hc
  simp only [StepOK, sstep, pstep, hpc, Bool.false_eq_true, if_false]
  rw [h]
  exact ⟨g2, by simp [outOf, sameOut, eraseRet, eraseErr]⟩

private theorem step_close (maxReq : Nat) (hm : 1 ≤ maxReq) (f : BF Srv) (p : PF) (r : Rel f p) :
    StepOK (sftpOps maxReq) f p .close := by
  simp only [StepOK, sstep, pstep, SftpFile.close]
  by_cases hc : f.closed = true
  · rw [if_pos hc]
    refine ⟨?_, by simp [outOf, sameOut, eraseRet, eraseErr]⟩
    simp only [outOf]
    exact { r with closed := (by simp [hc]), dead := fun _ => r.dead hc,
                   content := fun h => r.content h, ppos := fun h => r.ppos h }
  · have hc' : f.closed = false := by simpa using hc
    rw [if_neg hc]
    obtain ⟨f1, h, g2, g3, g4, _, _⟩ := rel_after_flush maxReq hm f p r hc'
    rw [BufFile.close, h]
    refine ⟨?_, by simp [outOf, sameOut, eraseRet, eraseErr]⟩
    simp only [outOf]
    have hcont := (rel_wnil_facts g2 g4 g3).1
    exact { g2 with closed := rfl, w := ⟨g2.w.pos0, g2.w.rp, g2.w.coh, g2.w.sapp, g2.w.asize⟩,
                    dead := fun _ => ⟨hcont, rfl, g3⟩, hopen := fun h => Bool.noConfusion h,
                    content := fun h => Bool.noConfusion h, ppos := fun h => Bool.noConfusion h }

/-- dropping read-ahead and re-synchronising `_realpos` (what `seek` and `truncate` do after the flush) -/
private theorem rel_norm {f : BF Srv} {p : PF} (r : Rel f p) : Rel { f with rbuf := [], realpos := f.pos } p :=
  { r with w := ⟨r.w.pos0, (by simp), r.w.coh, r.w.sapp, r.w.asize⟩, rbufOK := (by simp) }

private theorem step_seek (maxReq : Nat) (hm : 1 ≤ maxReq) (f : BF Srv) (p : PF) (off : Int) (wh : Nat)
    (r : Rel f p) (ht : triggers (sftpOps maxReq) f (.seek off wh) = []) :
    StepOK (sftpOps maxReq) f p (.seek off wh) := by
  simp only [triggers, List.append_eq_nil_iff] at ht
  have hc : f.closed = false := untriggered ht.1
  have hpc : p.closed = false := by rw [r.closed, hc]
  have hneg := untriggered ht.2
  obtain ⟨f1, hres, g2, g3, g4, _, _⟩ := rel_after_flush maxReq hm f p r hc
  simp only [StepOK, sstep, pstep, SftpFile.seek, hpc, Bool.false_eq_true, if_false]
  rw [hres] at hneg ⊢
  simp only [outOf] at hneg ⊢
  obtain ⟨hcont, hpos⟩ := rel_wnil_facts g2 g4 g3
  -- both sides compute the same target, and it is not negative
  have hsz : getSize f1.s = (p.content.length : Int) := by simp [getSize, g2.hopen g4, hcont]
  rw [hpos, ← hsz]
  generalize (if (wh == 0) = true then off else if (wh == 1) = true then f1.pos + off else getSize f1.s + off) = t
    at hneg ⊢
  have ht0 : 0 ≤ t := by simpa [hc] using hneg
  rw [if_neg (by omega)]
  exact ⟨rel_open_flushed g2 g4 ⟨rfl, rfl, rfl, rfl, rfl⟩ ⟨rfl, rfl, rfl, rfl⟩ ⟨ht0, by simp, g2.w.coh, g2.w.sapp, g2.w.asize⟩ g2.nstale
    (g2.hopen g4) g3 (by simp) hcont (by show ((t.toNat : Nat) : Int) = t; omega),
    by simp [sameOut, eraseRet, eraseErr]⟩

private theorem step_truncate (maxReq : Nat) (hm : 1 ≤ maxReq) (f : BF Srv) (p : PF) (n : Int) (r : Rel f p)
    (ht : triggers (sftpOps maxReq) f (.truncate n) = []) : StepOK (sftpOps maxReq) f p (.truncate n) := by
  simp only [StepOK, sstep, pstep, SftpFile.truncate]
  by_cases hc : f.closed = true
  · -- closed: nothing to flush, and the call raises on both sides (negative size, or the handle is gone)
    obtain ⟨_, hh, hwb⟩ := r.dead hc
    rw [flush_nil _ f hwb, if_pos (show (p.closed || !p.wr || decide (n < 0)) = true by simp [r.closed, hc])]
    simp only
    by_cases hn : n < 0
    · rw [if_pos hn]; exact ⟨rel_norm r, sameOut_err _ _⟩
    · rw [if_neg hn, if_pos (show (!f.s.hopen) = true by simp [hh])]; exact ⟨rel_norm r, sameOut_err _ _⟩
  · have hc' : f.closed = false := by simpa using hc
    simp only [triggers, hc', Bool.not_false, Bool.true_and, List.append_eq_nil_iff] at ht
    obtain ⟨⟨⟨t2, t3⟩, t4⟩, t5⟩ := ht
    have hwr : f.wr = true := by simpa using untriggered t2
    have hz : f.s.truncZero = true → ¬ n > 0 := by simpa [hwr] using untriggered t3
    have happ : f.app = false := untriggered t4
    have hdr : f.s.didRead = false := untriggered t5
    obtain ⟨f1, hres, g2, g3, g4, g5, g6⟩ := rel_after_flush maxReq hm f p r hc'
    rw [hres]
    simp only
    by_cases hn : n < 0
    · rw [if_pos hn, if_pos (show (p.closed || !p.wr || decide (n < 0)) = true by simp [hn])]
      exact ⟨rel_norm g2, sameOut_err _ _⟩
    · have hho := g2.hopen g4
      obtain ⟨hcont, hppos⟩ := rel_wnil_facts g2 g4 g3
      rw [if_neg hn, if_neg (show ¬ (!f1.s.hopen) = true by simp [hho]),
        if_neg (show ¬ (p.closed || !p.wr || decide (n < 0)) = true by simp [r.closed, r.wr, hc', hwr, hn])]
      refine ⟨?_, by simp [outOf, sameOut, eraseRet, eraseErr]⟩
      simp only [outOf]
      refine rel_open_flushed g2 g4 ⟨rfl, rfl, rfl, rfl, rfl⟩ ⟨r.closed.trans hc', rfl, rfl, rfl⟩
        ⟨g2.w.pos0, by simp, g2.w.coh, g2.w.sapp, fun h => ?_⟩ ?_ hho g3 (by simp) ?_ hppos
      · exact absurd ((g2.app.symm.trans r.app).symm.trans h) (by rw [happ]; decide)
      · simp [srvTruncate, g2.nstale, g6, hdr]
      · -- a server that zeroes the file is only met with size 0
        show _ = (srvTruncate f1.s n.toNat).content
        simp only [srvTruncate]
        by_cases hz' : f1.s.truncZero = true
        · have : n.toNat = 0 := by have := hz (g5 ▸ hz'); omega
          simp [hz', this]
        · simp [hz', hcont]

/-- the spec state after `write(d)` on an open writable file -/
private def specWrite (p : PF) (d : Bytes) : PF :=
  if p.app = true then
    { p with content := p.content ++ d, pos := if d.isEmpty = true then p.pos else (p.content ++ d).length }
  else { p with content := overlay p.content p.pos d, pos := p.pos + d.length }

private theorem specWrite_flags (p : PF) (d : Bytes) :
    (specWrite p d).closed = p.closed ∧ (specWrite p d).rd = p.rd ∧ (specWrite p d).wr = p.wr ∧ (specWrite p d).app = p.app := by
  unfold specWrite; split <;> exact ⟨rfl, rfl, rfl, rfl⟩

private theorem ppos_noapp {f : BF Srv} {p : PF} (r : Rel f p) (hc : f.closed = false) (ha : ¬ f.app = true) :
    p.pos = f.pos.toNat + f.wbuf.length := by
  have hpos := r.ppos hc
  have hp0 := r.w.pos0
  by_cases hw : f.wbuf = []
  · rw [if_pos hw] at hpos; rw [hw]; simp; omega
  · rw [if_neg hw, if_neg ha] at hpos; omega

/-- buffering `d` (no I/O) keeps the relation with the spec state after the write; the state is given the
    buffering flag `true` (the unbuffered path goes through here too, on its way to `rel_after_writeAll`) -/
private theorem rel_buffered (f : BF Srv) (p : PF) (d : Bytes) (r : Rel f p) (hc : f.closed = false) :
    Rel { f with wbuf := f.wbuf ++ d, buffered := true } (specWrite p d) := by
  obtain ⟨q1, q2, q3, q4⟩ := specWrite_flags p d
  have hcont := r.content hc
  have hp0 := r.w.pos0
  refine rel_open r hc ⟨rfl, rfl, rfl, rfl, rfl⟩ ⟨q1.trans (r.closed.trans hc), q2, q3, q4⟩
    (r.w.congr rfl rfl rfl rfl rfl rfl) r.nstale (r.hopen hc) (fun h => Bool.noConfusion h) r.rbufOK ?_ ?_
  · simp only [specContent]
    unfold specWrite
    by_cases ha : f.app = true
    · rw [if_pos (r.app.trans ha), if_pos ha, hcont, if_pos ha, List.append_assoc]
    · rw [if_neg (fun h => ha (r.app.symm.trans h)), if_neg ha, hcont, if_neg ha, ppos_noapp r hc ha, overlay_append]
  · simp only [specPos]
    unfold specWrite
    by_cases ha : f.app = true
    · rw [if_pos (r.app.trans ha)]
      by_cases hd : d = []
      · subst hd
        simpa using r.ppos hc
      · have hde : d.isEmpty = false := by simpa using hd
        rw [if_neg (show ¬ f.wbuf ++ d = [] by simp [hd]), if_pos ha, hcont, if_pos ha]
        simp only [hde, Bool.false_eq_true, if_false, List.length_append]
        push_cast; omega
    · rw [if_neg (fun h => ha (r.app.symm.trans h)), if_neg ha]
      show ((p.pos + d.length : Nat) : Int) = _
      rw [ppos_noapp r hc ha]
      split
      · rename_i h
        obtain ⟨hw, hd⟩ := List.append_eq_nil_iff.1 h
        rw [hw, hd]; simp; omega
      · rw [List.length_append]; push_cast; omega

private theorem rel_unbuffer {f : BF Srv} {p : PF} (b : Bool) (r : Rel f p) (hw : f.wbuf = []) :
    Rel { f with buffered := b } p :=
  { r with w := (r.w.congr rfl rfl rfl rfl rfl rfl), unbuf := fun _ => hw }

private theorem step_write (maxReq : Nat) (hm : 1 ≤ maxReq) (f : BF Srv) (p : PF) (d : Bytes) (r : Rel f p) :
    StepOK (sftpOps maxReq) f p (.write d) := by
  simp only [StepOK, sstep, pstep]
  rcases usable f.closed f.wr with ⟨hc, hw⟩ | hx
  · unfold BufFile.write
    rw [if_neg (show ¬ f.closed = true by simp [hc]), if_neg (show ¬ (!f.wr) = true by simp [hw]),
      if_neg (show ¬ (p.closed || !p.wr) = true by simp [r.closed, r.wr, hc, hw])]
    have hspec : (if p.app = true then
          ({ p with content := p.content ++ d, pos := if d.isEmpty = true then p.pos else (p.content ++ d).length }, Out.pos d.length)
        else ({ p with content := overlay p.content p.pos d, pos := p.pos + d.length }, Out.pos d.length))
        = (specWrite p d, Out.pos d.length) := by
      unfold specWrite; split <;> rfl
    rw [hspec]
    have hso : ∀ m : BF Srv, sameOut (.write d) (outOf (fun _ => Out.unit) (m, Except.ok ())).2 (Out.pos d.length) = true := by
      intro m; simp [outOf, sameOut, eraseRet, eraseErr]
    have r2 := rel_buffered f p d r hc
    by_cases hb : f.buffered = true
    · rw [if_neg (show ¬ (!f.buffered) = true by simp [hb])]
      simp only
      rw [← hb] at r2
      by_cases hl : f.lineBuf = true
      · rw [if_pos hl]
        cases hq : rfindLF d with
        | none => exact ⟨r2, hso _⟩
        | some q =>
          simp only
          have hq1 := (rfindLF_spec d q hq).1
          have hne : (f.wbuf ++ d).take (q + ((f.wbuf ++ d).length - d.length) + 1) ≠ [] := by
            intro h
            have := congrArg List.length h
            rw [List.length_take] at this
            simp only [List.length_append, List.length_nil] at this
            omega
          rw [← List.take_append_drop (q + ((f.wbuf ++ d).length - d.length) + 1) (f.wbuf ++ d)] at r2
          obtain ⟨f3, hres, k2, _, _, _, _, k7⟩ := rel_after_writeAll maxReq hm { f with wbuf := f.wbuf ++ d } (specWrite p d)
            _ _ f.buffered r2 hc hne (fun _ => hb)
          have k7 : f3.buffered = f.buffered := k7
          rw [← k7] at k2
          rw [hres]
          exact ⟨k2, hso _⟩
      · rw [if_neg hl]
        by_cases hfull : (f.wbuf ++ d).length ≥ f.bufsize
        · rw [if_pos hfull]
          obtain ⟨f3, hres, g2, _⟩ := rel_after_flush maxReq hm { f with wbuf := f.wbuf ++ d } (specWrite p d) r2 hc
          rw [hres]
          exact ⟨g2, hso _⟩
        · rw [if_neg hfull]
          exact ⟨r2, hso _⟩
    · -- unbuffered: nothing is pending, and `d` goes out at once
      have hb' : f.buffered = false := by simpa using hb
      rw [if_pos (show (!f.buffered) = true by simp [hb'])]
      have hwb := r.unbuf hb'
      by_cases hd : d = []
      · subst hd
        rw [writeAll_nil]
        rw [List.append_nil] at r2
        have h3 := rel_unbuffer f.buffered r2 hwb
        exact ⟨h3, hso _⟩
      · have r2' : Rel { f with wbuf := d ++ [], buffered := true } (specWrite p d) := by
          rw [hwb] at r2; rw [List.append_nil]; exact r2
        obtain ⟨f3, hres, k2, _, _, _, k6, _⟩ := rel_after_writeAll maxReq hm f (specWrite p d) d [] true r2' hc hd
          (fun h => absurd rfl h)
        have e : ({ f3 with wbuf := [], buffered := f3.buffered } : BF Srv) = f3 := by
          rw [← show f3.wbuf = [] from k6.trans hwb]
        rw [hres]
        exact ⟨e ▸ rel_unbuffer f3.buffered k2 rfl, hso _⟩
  · rw [write_refused _ _ _ hx,
      if_pos (show (p.closed || !p.wr) = true by rw [r.closed, r.wr]; rcases hx with h | h <;> simp [h])]
    exact ⟨r, sameOut_err _ _⟩

/-- One call: on related states, a call that fires no defect trigger returns the same value (modulo
    `eraseRet` and the exception class) and leaves related states. -/
theorem step_refines (maxReq : Nat) (hm : 1 ≤ maxReq) (f : BF Srv) (p : PF) (op : FOp) (r : Rel f p)
    (ht : triggers (sftpOps maxReq) f op = []) : StepOK (sftpOps maxReq) f p op := by
  cases op with
  | read n => exact step_read maxReq hm f p n r
  | readline n => exact step_readline maxReq hm f p n r ht
  | readlines h => exact step_readlines maxReq hm f p h r ht
  | write d => exact step_write maxReq hm f p d r
  | seek off wh => exact step_seek maxReq hm f p off wh r ht
  | tell => exact step_tell _ f p r ht
  | flush => exact step_flush maxReq hm f p r ht
  | truncate n => exact step_truncate maxReq hm f p n r ht
  | close => exact step_close maxReq hm f p r


/-- **Refinement (partial).**  For every request-size limit, every buffer size / buffering mode, every file
    content, every mode (append included) and EVERY program of read / readline / readlines / write / seek / tell /
    flush / truncate / close calls: if no defect trigger fires along the run, SFTPFile returns what the local file
    returns at every call (modulo `eraseRet` and the exception class) and the two stay related — the server
    file equals the local file once closed, and equals it up to the not-yet-flushed write buffer before.
    "Partial" = the hypothesis `runTags … = []`: the remaining triggers are the API-convention findings
    (tell with buffered writes, negative seek, calls on a closed file, truncate on a read-only / append-mode file,
    readlines with a hint, readline(0) on an unreadable file, mode "x") and one modelling exclusion
    (`unmodelled_server_readahead`). -/
theorem refines_partial (maxReq : Nat) (hm : 1 ≤ maxReq) (f : BF Srv) (p : PF) (prog : List FOp) (r : Rel f p)
    (_hops : ∀ op ∈ prog, Covered op) (ht : runTags (sftpOps maxReq) f prog = []) :
    sameOuts prog (srun (sftpOps maxReq) f prog).2 (prun p prog).2 = true ∧
    Rel (srun (sftpOps maxReq) f prog).1 (prun p prog).1 := by
  induction prog generalizing f p with
  | nil => exact ⟨rfl, r⟩
  | cons op ops ih =>
    simp only [runTags, List.append_eq_nil_iff] at ht
    obtain ⟨s1, s2⟩ := step_refines maxReq hm f p op r ht.1
    obtain ⟨i1, i2⟩ := ih _ _ s1 (fun o ho => _hops o (by simp [ho])) ht.2
    exact ⟨by show (sameOut op _ _ && sameOuts ops _ _) = true; rw [s2, i1]; rfl, i2⟩

/-- consequence for the bytes on the server: a closed file holds exactly what the local file holds -/
theorem closed_contents_equal (f : BF Srv) (p : PF) (r : Rel f p) (hc : f.closed = true) :
    f.s.content = p.content := (r.dead hc).1.symm

/-! ## freshly opened files are related -/

/-- The relation holds between what `SFTPClient.open` and the local `open` return: any content `c` the two
    start from, any buffer size, any mode string (`app` = the mode contains "a": server handle in O_APPEND,
    both positions at the end). -/
theorem rel_init (c : Bytes) (tz rb : Bool) (mode : List Char) (bs : Int) (dflt : Nat) (hd : 1 ≤ dflt) :
    Rel (setMode ({ s := { content := c, append := mode.contains 'a', truncZero := tz, rbuffered := rb }, dflt := dflt,
                    bufsize := dflt } : BF Srv) mode bs
          (getSize { content := c, append := mode.contains 'a', truncZero := tz, rbuffered := rb }))
        { content := c, pos := if mode.contains 'a' then c.length else 0,
          rd := (mode.contains 'r' || mode.contains '+'),
          wr := (mode.contains 'w' || mode.contains '+' || mode.contains 'a'),
          app := mode.contains 'a' } := by
  have hsz : getSize ({ content := c, append := mode.contains 'a', truncZero := tz, rbuffered := rb } : Srv)
      = (c.length : Int) := by simp [getSize]
  rw [hsz, setMode, setFlags_eq, setBuf_eq]
  generalize mode.contains 'a' = ba
  have hbs : 1 ≤ (if 1 < bs then bs.toNat else dflt) := by split <;> omega
  exact {
    closed := rfl
    rd := (by cases (mode.contains 'r' || mode.contains '+') <;> rfl)
    wr := (by cases (mode.contains 'w' || mode.contains '+' || ba) <;> rfl)
    app := (by cases ba <;> rfl)
    w := ⟨(by cases ba <;> simp), (by cases ba <;> simp), Or.inl rfl, (by cases ba <;> rfl), (by cases ba <;> simp)⟩
    nstale := rfl
    bs := hbs
    dflt := hd
    unbuf := fun _ => rfl
    dead := fun h => nomatch h
    hopen := fun _ => rfl
    rbufOK := (by simp)
    content := fun _ => (by cases ba <;> simp [overlay_nil])
    ppos := fun _ => (by cases ba <;> simp) }

/-- e.g. `sftp.open(name, "r+b", bufsize)` vs `open(name, "r+b")` on an existing file, any buffer size -/
example (c : Bytes) (bs : Int) :
    ∃ f0 p0, sftpOpen (some c) "r+b".toList bs 8192 false = some f0 ∧ pyOpen (some c) "r+b".toList = some p0 ∧
      Rel f0 p0 :=
  ⟨_, _, rfl, rfl, rel_init c false true "r+b".toList bs 8192 (by decide)⟩

/-- … `"a+b"` (append and read) on an existing file … -/
example (c : Bytes) (bs : Int) :
    ∃ f0 p0, sftpOpen (some c) "a+b".toList bs 8192 false = some f0 ∧ pyOpen (some c) "a+b".toList = some p0 ∧
      Rel f0 p0 :=
  ⟨_, _, rfl, rfl, rel_init c false true "a+b".toList bs 8192 (by decide)⟩

/-- … and `"wb"` on a new or existing file (truncated on both sides) -/
example (fs : Option Bytes) (bs : Int) :
    ∃ f0 p0, sftpOpen fs "wb".toList bs 8192 false = some f0 ∧ pyOpen fs "wb".toList = some p0 ∧ Rel f0 p0 := by
  cases fs <;> exact ⟨_, _, rfl, rfl, rel_init [] false true "wb".toList bs 8192 (by decide)⟩

/-- non-vacuity: a disciplined program mixing reads, buffered writes, seeks, truncate and close on a line-buffered
    r+ file split into 2-byte requests fires no trigger -/
def demoProg : List FOp :=
  [.readline none, .write (str "X\nY"), .read (some 1), .seek 1 0, .tell, .write (str "Z"), .readlines none,
   .seek 0 2, .write (str "!"), .flush, .close]

example : ∀ op ∈ demoProg, Covered op := by simp [demoProg, Covered]

example :
    let f0 := (sftpOpen (some (str "ab\ncdef")) "r+b".toList 1 8192 false).get (by decide)
    runTags (sftpOps 2) f0 demoProg = [] ∧
    (srun (sftpOps 2) f0 demoProg).1.s.content = str "aZ\nX\nYf!" := by
  decide +kernel

end PV.Props.C27
