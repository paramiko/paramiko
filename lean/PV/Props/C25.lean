/-
  C25 — sendall either delivers all data or raises.
  Model: the `sendall` / `sendall_stderr` loop over `send` in PV/Model/ChanWindow.lean (thread states
  `loopHead`, `waiting … (some l)`, `hold … (Kont.loop …)`; actions `sendall`, `iter`, `wake`, `emit`), running
  concurrently with every other action of the channel.  Lemmas: PV/Model/ChanLoopLemmas.lean.
  `fixedCfg` = the repaired code (sendall raises when send returns 0); `oldCfg` = before the repair.
-/
import PV.Model.ChanLoopLemmas
import PV.Model.ChanNotifyLemmas
import PV.Generated.ChanLock
import PV.Generated.C25
namespace PV.Props.C25
open PV.Chan

private theorem out_thread {s s' : St} {t want : Nat} {ext : Bool} {l : Loop} {old : TSt}
    (hr : s.thr[t]? = some old) (h : SendEff fixedCfg s t want ext (some l) s') :
    ∃ x, s'.thr[t]? = some x ∧
      (x = .idle .sockClosed ∨ x = .idle .timeout ∨ (∃ left, x = .waiting want ext left (some l)) ∨
       ∃ n, 0 < n ∧ n ≤ want ∧ x = .hold [mkData ext n] (.loop l ext n)) := by
  obtain ⟨x, d, e, ho⟩ := h
  refine ⟨x, by rw [e]; exact setThr_get x hr, ?_⟩
  cases ho with
  | sockClosed => exact .inl rfl
  | timeout => exact .inr (.inl rfl)
  | wait left => exact .inr (.inr (.inl ⟨left, rfl⟩))
  | zeroPlain h => cases h
  | zeroLoopOld l' _ h => cases h
  | granted _ h1 h2 => exact .inr (.inr (.inr ⟨d, h1, h2, rfl⟩))

/-- **One iteration of the loop.**  The thread is at `while s:` with `l.rem > 0` bytes left and runs the lock
    region of `self.send(s)`, whatever state the channel is in and whatever the other threads did before:
    it raises (socket.error / socket.timeout), or goes to sleep waiting for window with the same remainder,
    or reserves `n` bytes with `0 < n ≤ remainder`.  It is never back at the loop head with the remainder
    unchanged. -/
theorem iteration_raises_or_shortens (s : St) (t : Nat) (l : Loop) (ext : Bool)
    (hr : s.thr[t]? = some (.loopHead l ext)) :
    ∃ x, (step fixedCfg s (.iter t)).thr[t]? = some x ∧
      (x = .idle .sockClosed ∨ x = .idle .timeout ∨ (∃ left, x = .waiting l.rem ext left (some l)) ∨
       ∃ n, 0 < n ∧ n ≤ l.rem ∧ x = .hold [mkData ext n] (.loop l ext n)) := by
  simp only [step, hr]
  exact out_thread hr (sendRegion_out fixedCfg s t l.rem ext (some l))

/-- the same after a wake-up inside `_wait_for_send_window` (window adjusted, channel closed, timeout or a
    spurious wake-up) -/
theorem wakeup_raises_or_shortens (s : St) (t dt : Nat) (l : Loop) (ext : Bool) (left : Option Nat)
    (hr : s.thr[t]? = some (.waiting l.rem ext left (some l))) :
    ∃ x, (step fixedCfg s (.wake t dt)).thr[t]? = some x ∧
      (x = .idle .sockClosed ∨ x = .idle .timeout ∨ (∃ left', x = .waiting l.rem ext left' (some l)) ∨
       ∃ n, 0 < n ∧ n ≤ l.rem ∧ x = .hold [mkData ext n] (.loop l ext n)) := by
  simp only [step, hr]
  exact out_thread hr (wakeRegion_out fixedCfg s t dt l.rem ext left (some l))

/-- writing the reserved bytes: exactly `n` bytes go to the transport, then the loop head is reached with a
    strictly smaller remainder — or, when nothing is left, `sendall` returns, having handed over `handed + n` -/
theorem write_then_shorter_or_done (cfg : Cfg) (s : St) (t n : Nat) (l : Loop) (ext : Bool)
    (hr : s.thr[t]? = some (.hold [mkData ext n] (.loop l ext n))) :
    (step cfg s (.emit t)).wire = s.wire ++ [mkData ext n] ∧
    (step cfg s (.emit t)).thr[t]? = some (if l.rem - n = 0 then .idle (.doneAll (l.handed + n) l.total)
      else .loopHead { rem := l.rem - n, handed := l.handed + n, total := l.total } ext) := by
  simp only [step, hr, holdOrDone, kontState]
  exact ⟨rfl, setThr_get _ hr⟩

/-- **Closed or shut down for writing ⇒ raise.**  An iteration that starts after `close()`, `shutdown_write()`,
    a peer CLOSE, a failed request or transport loss raises `socket.error` instead of returning 0 bytes. -/
theorem iteration_after_shutdown_raises (s : St) (t : Nat) (l : Loop) (ext : Bool)
    (hr : s.thr[t]? = some (.loopHead l ext)) (h : s.closed = true ∨ s.eofSent = true) :
    (step fixedCfg s (.iter t)).thr[t]? = some (.idle .sockClosed) := by
  simp only [step, hr, sendRegion]
  split
  · exact setThr_get _ hr
  · next hc =>
    simp only [h.resolve_left hc, if_true, zeroResult, fixedCfg]
    exact setThr_get _ hr

/-- … and a writer that was asleep in `_wait_for_send_window` when that happened raises when it wakes up
    (or reports the timeout that expired meanwhile) -/
theorem wakeup_after_shutdown_raises (s : St) (t dt want : Nat) (l : Loop) (ext : Bool) (left : Option Nat)
    (hr : s.thr[t]? = some (.waiting want ext left (some l))) (h : s.closed = true ∨ s.eofSent = true) :
    (step fixedCfg s (.wake t dt)).thr[t]? = some (.idle .sockClosed) ∨
    (step fixedCfg s (.wake t dt)).thr[t]? = some (.idle .timeout) := by
  have hce : (s.closed || s.eofSent) = true := by rcases h with h | h <;> simp [h]
  simp only [step, hr, wakeRegion, hce, if_true, zeroResult, fixedCfg]
  cases left with
  | none =>
    simp only
    split <;> exact .inl (setThr_get _ hr)
  | some v =>
    simp only
    split
    · exact .inr (setThr_get _ hr)
    · split <;> exact .inl (setThr_get _ hr)

private theorem loopinv_init (inWin peerWin peerMax nthr : Nat) (c : Bool) :
    LoopInv (init inWin peerWin peerMax nthr c) := by
  intro x hx
  simp only [init, List.mem_replicate] at hx
  rw [hx.2]; trivial

/-- **Returns only with nothing left.**  In every schedule (any threads, closes, peer messages, window
    adjustments interleaved in any way, either code version): whenever a `sendall` call has returned, the bytes
    that call handed to the transport equal the length it was given; and at every moment of a call in progress
    remainder + handed over = length. -/
theorem returns_only_when_all_sent (cfg : Cfg) (inWin peerWin peerMax nthr : Nat) (c : Bool) (sched : List Act)
    (t : Nat) :
    (∀ h tot, (run cfg (init inWin peerWin peerMax nthr c) sched).thr[t]? = some (.idle (.doneAll h tot)) → h = tot) ∧
    (∀ l ext, (run cfg (init inWin peerWin peerMax nthr c) sched).thr[t]? = some (.loopHead l ext) →
      0 < l.rem ∧ l.rem + l.handed = l.total) := by
  have hi := run_loopinv cfg _ sched (loopinv_init inWin peerWin peerMax nthr c)
  refine ⟨?_, ?_⟩
  · intro h tot hr; exact hi _ (List.mem_of_getElem? hr)
  · intro l ext hr; exact hi _ (List.mem_of_getElem? hr)

/-- entering `sendall` with n > 0 bytes: at the loop head with remainder n, nothing handed over yet -/
theorem sendall_enters (cfg : Cfg) (s : St) (t n : Nat) (ext : Bool) (r : Res)
    (hr : s.thr[t]? = some (.idle r)) (hn : n ≠ 0) :
    (step cfg s (.sendall t n ext)).thr[t]? = some (.loopHead { rem := n, handed := 0, total := n } ext) := by
  simp only [step, idleOf_of_get hr, if_true, hn, if_false]
  exact setThr_get _ hr

/-- **The defect (code before the repair).**  After `shutdown_write()` (EOF sent, channel not closed) an
    iteration of the loop changes NOTHING: same channel state, same thread state, same remainder — `sendall`
    spins forever.  (A repeated (state, remainder) pair is how the check detects it on the real code.) -/
theorem C25_witness (s : St) (t : Nat) (l : Loop) (ext : Bool)
    (hr : s.thr[t]? = some (.loopHead l ext)) (hc : s.closed = false) (he : s.eofSent = true) :
    step oldCfg s (.iter t) = s := by
  simp only [step, hr, sendRegion, hc, he, if_true, zeroResult, oldCfg, Bool.false_eq_true, if_false]
  exact setThr_self hr

/-- non-vacuity of `C25_witness` and of the repaired behaviour on the same schedule -/
example :
    (run oldCfg (init 32768 32768 32768 2 false) [.shutdownWrite 1, .emit 1, .sendall 0 10 false, .iter 0, .iter 0]).thr
      = [.loopHead { rem := 10, handed := 0, total := 10 } false, .idle .none] ∧
    (run fixedCfg (init 32768 32768 32768 2 false) [.shutdownWrite 1, .emit 1, .sendall 0 10 false, .iter 0]).thr
      = [.idle .sockClosed, .idle .none] := by
  decide +kernel

/-- non-vacuity: a 10000-byte sendall through a 4096-byte packet limit and a 5000-byte window, blocked once,
    completed after an adjustment; and one interrupted by close() while asleep -/
example :
    (run fixedCfg (init 32768 5000 4096 2 false)
      [.sendall 0 10000 true, .iter 0, .emit 0, .iter 0, .emit 0, .iter 0, .adjust 6000, .wake 0 1, .emit 0,
       .iter 0, .emit 0]).thr[0]? = some (.idle (.doneAll 10000 10000)) ∧
    (run fixedCfg (init 32768 100 4096 2 false)
      [.sendall 0 500 false, .iter 0, .emit 0, .iter 0, .close 1, .wake 0 0]).thr[0]? = some (.idle .sockClosed) := by
  decide +kernel

/-! ## a blocked sendall is woken when window arrives (several senders parked on one channel) -/

/-- `_window_adjust` wakes ALL sleepers (every `out_buffer_cv.notify…` call site in `_window_adjust`, from the AST
    of channel.py on this run, is `notify_all`, and there is one) -/
theorem window_adjust_notifies_all :
    (PV.Generated.ChanLock.notifies.filter (·.caller == "_window_adjust")).all (·.all) = true ∧
    (PV.Generated.ChanLock.notifies.filter (·.caller == "_window_adjust")) ≠ [] := by
  decide

/-- **No sendall is left asleep with window available.**  Strict scheduling (a sleeper runs again only when the
    code notified it or its timeout expired), any number of threads blocked in sendall / sendall_stderr / send on
    the channel, every schedule: a sender that is asleep in `_wait_for_send_window` while `out_window_size > 0` has
    a notification pending — so it runs, and `wakeup_raises_or_shortens` applies: it raises or gets its bytes out.
    (With `notify()` in `_window_adjust` this is false: PV.Props.C20.notify_one_strands_second_sender_witness.) -/
theorem blocked_sendall_is_notified (n : NCfg) (hn : n.adjustAll = true) (cfg : Cfg)
    (inWin peerWin peerMax nthr : Nat) (c : Bool) (sched : List Act) (t : Nat) :
    isWaitingAt (nrun n cfg (ninit (init inWin peerWin peerMax nthr c)) sched).base t = true →
    0 < (nrun n cfg (ninit (init inWin peerWin peerMax nthr c)) sched).base.outWin →
    t ∈ (nrun n cfg (ninit (init inWin peerWin peerMax nthr c)) sched).sig :=
  parked_sender_notified n hn cfg inWin peerWin peerMax nthr c sched t

/-! ## transport loss: channels are closed before the transport starts dropping packets -/

/-- **In the tail of `Transport.run()` every channel is unlinked (closed) BEFORE the transport is marked inactive**
    (order of the statements after the except ladder, from the AST of transport.py on this run).
    `_send_user_message` silently drops a packet once `active` is false; that is safe only because by then
    `Channel._send` raises "Socket is closed" — the model's `unlink` action comes first.  With the order reversed a
    `sendall` in between returns normally for bytes the transport dropped. -/
theorem channels_unlinked_before_transport_inactive :
    "unlink_channels" ∈ PV.Generated.C25.runTail ∧ "set_inactive" ∈ PV.Generated.C25.runTail ∧
    PV.Generated.C25.runTail.idxOf "unlink_channels" < PV.Generated.C25.runTail.idxOf "set_inactive" := by
  decide

end PV.Props.C25
