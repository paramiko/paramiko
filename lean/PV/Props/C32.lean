/-
  C32 — SFTP check-file returns the correct hashes for the requested ranges.
  Property theorems only (helpers: PV/Model/CheckFileLemmas.lean).  Model: PV/Model/CheckFile.lean
  (`SFTPServer._check_file` as repaired).
-/
import PV.Model.CheckFileLemmas
namespace PV.Props.C32
open PV PV.CheckFile

/-- **check-file = specification.** For every streaming hash (`HashLaws`), every file, every handle read
policy that makes progress (short reads allowed) and does not fail, and every start / length / block size:
the server's answer is the specification's — "Block size too small" exactly when the effective block size
is below 256, otherwise the concatenation of `H` over the consecutive `block`-sized pieces of the requested
range clipped at end of file (`length = 0` ⇒ to EOF; `block = 0` ⇒ one block). -/
theorem checkFile_eq_spec (A : HashAlg) (H : Bytes → Bytes) (hl : HashLaws A H) (e : Env)
    (hp : e.Progress) (hre : ∀ off n, e.readErr off n = none) (hst : e.statErr = none)
    (start length bs : Nat) :
    checkFile A e start length bs = spec H e.content start length bs := by
  unfold checkFile spec
  simp only [hst, ite_self]
  by_cases hb : effBlock e.content.length start length bs < 256
  · simp [hb]
  · simp only [hb, if_false]
    have hbs : 1 ≤ (effBlock e.content.length start length bs).toNat := by omega
    have := outer_spec A H hl e hp hre (start + (effLength e.content.length start length).toNat)
      (effBlock e.content.length start length bs).toNat hbs
      ((effLength e.content.length start length).toNat + 1) start [] (by omega)
    rw [this]
    simp only [List.nil_append, range]
    have : start + (effLength e.content.length start length).toNat - start
        = (effLength e.content.length start length).toNat := by omega
    rw [this]

/-- **Termination ("answers promptly").** For EVERY handle — short reads, empty reads before EOF, reads or `stat`
failing with an error code at any point — and every start / length / block size, both `while` loops of
`_check_file` finish within their bounds (`blocklen + 1` reads per block, `length + 1` blocks): the answer is
never "out of fuel".  (The unrepaired code spins forever on an empty read.) -/
theorem terminates (A : HashAlg) (e : Env) (start length bs : Nat) :
    checkFile A e start length bs ≠ .noFuel := by
  unfold checkFile
  cases hs : (if length = 0 then e.statErr else none) with
  | some code => simp
  | none =>
    simp only
    by_cases hb : effBlock e.content.length start length bs < 256
    · simp [hb]
    · simp only [hb, if_false]
      have := outer_total A e (start + (effLength e.content.length start length).toNat)
        (effBlock e.content.length start length bs).toNat
        ((effLength e.content.length start length).toNat + 1) start [] (by omega)
      cases ho : outer A e (start + (effLength e.content.length start length).toNat)
          (effBlock e.content.length start length bs).toNat
          ((effLength e.content.length start length).toNat + 1) start [] with
      | none => exact absurd ho this
      | some r => cases r <;> simp

/-- the complete request (`request`): an unknown handle or no known algorithm is refused before anything is read;
otherwise the reply is `checkFile`'s and names the first offered algorithm the server knows -/
theorem request_cases (A : HashAlg) (handle : Option Env) (known algs : List Bytes) (start length bs : Nat) :
    (handle = none → request A handle known algs start length bs = (.badHandle, [])) ∧
    (∀ e, handle = some e → selectAlg known algs = none →
      request A handle known algs start length bs = (.noAlg, [])) ∧
    (∀ e a, handle = some e → selectAlg known algs = some a →
      request A handle known algs start length bs = (checkFile A e start length bs, a) ∧ a ∈ known ∧ a ∈ algs) := by
  refine ⟨?_, ?_, ?_⟩
  · intro h; subst h; rfl
  · intro e h hs; subst h; simp [request, hs]
  · intro e a h hs; subst h
    exact ⟨by simp [request, hs], selectAlg_mem hs⟩

/-- The blocks of the specification, by index: block `k` exists iff `k·bs` lies inside the range, and it is
the bytes `[k·bs, (k+1)·bs)` of the range (fewer for the last block). -/
theorem block_index (bs : Nat) (hbs : 1 ≤ bs) (d : Bytes) (k : Nat) :
    (blocksOf bs d)[k]? = if k * bs < d.length then some ((d.drop (k * bs)).take bs) else none := by
  induction k generalizing d with
  | zero =>
    by_cases hd : d = []
    · subst hd; simp [blocksOf_nil]
    · have : 0 < d.length := List.length_pos_iff.mpr hd
      rw [blocksOf_cons bs hbs d hd]
      simp [this]
  | succ k ih =>
    by_cases hd : d = []
    · subst hd; simp [blocksOf_nil]
    · rw [blocksOf_cons bs hbs d hd, List.getElem?_cons_succ, ih (d.drop bs)]
      have e1 : (k * bs < (d.drop bs).length) ↔ ((k + 1) * bs < d.length) := by
        simp only [List.length_drop, Nat.add_mul, Nat.one_mul]; omega
      have e2 : (d.drop bs).drop (k * bs) = d.drop ((k + 1) * bs) := by
        rw [List.drop_drop]; congr 1; simp only [Nat.add_mul, Nat.one_mul]; omega
      by_cases h : k * bs < (d.drop bs).length
      · simp only [h, if_true, e1.mp h, e2]
      · have h' : ¬ ((k + 1) * bs < d.length) := fun x => h (e1.mpr x)
        simp only [h, h', if_false]

/-- the blocks tile the range: concatenated they are the range itself -/
theorem blocks_concat (bs : Nat) (hbs : 1 ≤ bs) (d : Bytes) : (blocksOf bs d).flatten = d := by
  generalize hn : d.length = n
  induction n using Nat.strongRecOn generalizing d with
  | _ n ih =>
    by_cases hd : d = []
    · subst hd; rfl
    · have : 0 < d.length := List.length_pos_iff.mpr hd
      rw [blocksOf_cons bs hbs d hd, List.flatten_cons,
        ih (d.drop bs).length (by simp only [List.length_drop]; omega) (d.drop bs) rfl,
        List.take_append_drop]

/-- the requested range is the file from `start` up to `start + len`, clipped at end of file -/
theorem range_length (content : Bytes) (start : Nat) (len : Int) :
    (range content start len).length = min len.toNat (content.length - start) := by
  simp [range, List.length_take, List.length_drop]

/-! ## the hypotheses are satisfiable -/

theorem toy_laws : HashLaws toyAlg toyH :=
  ⟨⟨fun h => h, rfl, fun _ _ => rfl, fun _ => rfl⟩⟩

/-- a plain file: every read returns all the requested bytes that exist -/
def fullReads (content : Bytes) : Env := { content := content, short := fun _ n => n }

theorem fullReads_progress (content : Bytes) : (fullReads content).Progress := fun _ _ h => h

/-- a handle that returns at most 3 bytes per call still satisfies the hypothesis -/
example : ({ content := [1, 2, 3, 4, 5, 6, 7], short := fun _ _ => 3 } : Env).Progress :=
  fun _ _ _ => Nat.zero_lt_succ 2

/-- the theorem instantiated: toy hash, plain file of 600 bytes, range from 100 to EOF in 256-byte blocks -/
example : checkFile toyAlg (fullReads (List.replicate 600 7)) 100 0 256
    = spec toyH (List.replicate 600 7) 100 0 256 :=
  checkFile_eq_spec toyAlg toyH toy_laws _ (fullReads_progress _) (fun _ _ => rfl) rfl 100 0 256

/-- a 500-byte range in 256-byte blocks is exactly two blocks: bytes [0,256) and [256,500) -/
example (d : Bytes) (h : d.length = 500) :
    (blocksOf 256 d)[0]? = some (d.take 256) ∧ (blocksOf 256 d)[1]? = some ((d.drop 256).take 256) ∧
      (blocksOf 256 d)[2]? = none := by
  rw [block_index 256 (by decide), block_index 256 (by decide), block_index 256 (by decide)]
  simp [h]

example : checkFile toyAlg (fullReads (List.replicate 10 7)) 0 0 0 = .tooSmall := by decide +kernel

end PV.Props.C32
