/-
  C08 — Key exchange rejects invalid peer public values and out-of-range groups.
  Model: PV/Model/Kex.lean; helpers: PV/Model/KexLemmas.lean.

  "Rejected" always means the same three things at once: the step ends with an exception, the
  engine made no call on its transport at all (`eff = []`: no `_set_K_H`, nothing sent, no
  `_expect_packet`, no NEWKEYS), and — at the level of `Transport.run()` — the session is dead
  and stays dead whatever arrives afterwards.
-/
import PV.Model.KexLemmas
namespace PV.Props.C08
open PV PV.Wire PV.Kex

/-! ## what the engines read from a packet body (arbitrary bytes, well-formed or not) -/

/-- `f` of KEXDH_REPLY / KEXDH_GEX_REPLY: second field, read as mpint -/
def replyF (m : Bytes) : Int := inflate ((rd m).getString.2.getString.1)
/-- `e` of KEXDH_INIT / KEXDH_GEX_INIT, `p` of KEXDH_GEX_GROUP: first field, read as mpint -/
def firstMpint (m : Bytes) : Int := inflate ((rd m).getString.1)
/-- the peer's point of KEXECDH_INIT: first field -/
def initPoint (m : Bytes) : Bytes := (rd m).getString.1
/-- the peer's point of KEXECDH_REPLY: second field -/
def replyPoint (m : Bytes) : Bytes := (rd m).getString.2.getString.1

/-- a well-formed reply body `string K_S ‖ mpint f ‖ string sig` is read back as `f` -/
theorem replyF_wire (ks sig : Bytes) (f : Int) (hk : ks.length < 4294967296)
    (hf : (mpintBody f).length < 4294967296) :
    replyF (encStr ks ++ encMpint f ++ encStr sig) = f := by
  rw [replyF, (parse2 (b := mpintBody f) hk hf (rd_remainder (encStr ks ++ encMpint f ++ encStr sig))).2]
  exact inflate_mpintBody f

/-- a well-formed init body `mpint e` is read back as `e` -/
theorem firstMpint_wire (e : Int) (rest : Bytes) (he : (mpintBody e).length < 4294967296) :
    firstMpint (encMpint e ++ rest) = e := by
  rw [firstMpint, getString_at (s := mpintBody e) he (rd_remainder (encMpint e ++ rest))]
  exact inflate_mpintBody e

/-! ## fixed groups (group1 / group14 / group16), both roles, every modulus -/

/-- client: `f ∉ [1, P-1]` ⇒ SSHException, no call on the transport -/
theorem grp_client_rejects (c : Env) (g : Group) (st : GrpSt) (m : Bytes)
    (h : replyF m < 1 ∨ replyF m > (g.P : Int) - 1) :
    grpReply c g st m = ⟨[], .error .ssh⟩ := by
  unfold replyF at h
  simp only [grpReply, h, if_true]

/-- server: `e ∉ [1, P-1]` ⇒ SSHException, no call on the transport -/
theorem grp_server_rejects (c : Env) (g : Group) (st : GrpSt) (m : Bytes)
    (h : firstMpint m < 1 ∨ firstMpint m > (g.P : Int) - 1) :
    grpInit c g st m = ⟨[], .error .ssh⟩ := by
  unfold firstMpint at h
  simp only [grpInit, h, if_true]

/-- client: anything at all happening (hash, `_set_K_H`, …) means `f ∈ [1, P-1]` -/
theorem grp_client_effect_in_range (c : Env) (g : Group) (st : GrpSt) (m : Bytes)
    (h : (grpReply c g st m).eff ≠ []) : 1 ≤ replyF m ∧ replyF m ≤ (g.P : Int) - 1 := by
  by_cases hr : replyF m < 1 ∨ replyF m > (g.P : Int) - 1
  · rw [grp_client_rejects c g st m hr] at h; exact absurd rfl h
  · omega

theorem grp_server_effect_in_range (c : Env) (g : Group) (st : GrpSt) (m : Bytes)
    (h : (grpInit c g st m).eff ≠ []) : 1 ≤ firstMpint m ∧ firstMpint m ≤ (g.P : Int) - 1 := by
  by_cases hr : firstMpint m < 1 ∨ firstMpint m > (g.P : Int) - 1
  · rw [grp_server_rejects c g st m hr] at h; exact absurd rfl h
  · omega

/-- the same on the wire: a well-formed KEXDH_REPLY carrying an out-of-range `f` -/
theorem grp_client_rejects_wire (c : Env) (g : Group) (st : GrpSt) (ks sig : Bytes) (f : Int)
    (hk : ks.length < 4294967296) (hf : (mpintBody f).length < 4294967296)
    (h : f < 1 ∨ f > (g.P : Int) - 1) :
    grpReply c g st (encStr ks ++ encMpint f ++ encStr sig) = ⟨[], .error .ssh⟩ :=
  grp_client_rejects c g st _ (by rw [replyF_wire ks sig f hk hf]; exact h)

/-- … and a well-formed KEXDH_INIT carrying an out-of-range `e` -/
theorem grp_server_rejects_wire (c : Env) (g : Group) (st : GrpSt) (e : Int)
    (he : (mpintBody e).length < 4294967296) (h : e < 1 ∨ e > (g.P : Int) - 1) :
    grpInit c g st (encMpint e) = ⟨[], .error .ssh⟩ :=
  grp_server_rejects c g st _ (by rw [← List.append_nil (encMpint e), firstMpint_wire e [] he]; exact h)

/-- through `parse_next`: whatever the role and the packet type, an out-of-range value yields no effect -/
theorem grp_next_rejects (c : Env) (g : Group) (st : GrpSt) (t : Nat) (m : Bytes)
    (hf : replyF m < 1 ∨ replyF m > (g.P : Int) - 1)
    (he : firstMpint m < 1 ∨ firstMpint m > (g.P : Int) - 1) :
    grpNext c g st t m = ⟨[], .error .ssh⟩ := by
  unfold grpNext
  split
  · exact grp_server_rejects c g st m he
  · split
    · exact grp_client_rejects c g st m hf
    · rfl

/-! ## group exchange -/

/-- `util.bit_length` is `⌊log₂|n|⌋ + 1` -/
theorem bitLength_eq_log2 (z : Int) (h : z ≠ 0) : bitLength z = Nat.log2 z.natAbs + 1 :=
  natBits_eq_log2 _ (by omega)

/-- client: a modulus that is not positive, or shorter than 1024 bits, or longer than 8192 bits
    ⇒ SSHException, nothing sent (in particular no KEXDH_GEX_INIT), no exponent drawn -/
theorem gex_group_rejects (c : Env) (st : GexSt) (m : Bytes) (x : Nat)
    (h : firstMpint m < 1 ∨ bitLength (firstMpint m) < 1024 ∨ bitLength (firstMpint m) > 8192) :
    gexGroup c st m x = ⟨[], .error .ssh⟩ := by
  unfold firstMpint at h
  simp only [gexGroup, h, if_true]

/-- client: a group that is used lies in the window `2^1023 ≤ p < 2^8192` -/
theorem gex_group_effect_window (c : Env) (st : GexSt) (m : Bytes) (x : Nat)
    (h : (gexGroup c st m x).eff ≠ []) :
    ∃ p : Nat, firstMpint m = (p : Int) ∧ 2 ^ 1023 ≤ p ∧ p < 2 ^ 8192 := by
  by_cases hr : firstMpint m < 1 ∨ bitLength (firstMpint m) < 1024 ∨ bitLength (firstMpint m) > 8192
  · rw [gex_group_rejects c st m x hr] at h; exact absurd rfl h
  · have hp : firstMpint m = ((firstMpint m).toNat : Int) := by omega
    rw [hp] at hr
    exact ⟨_, hp, (bitLength_window _ 1023 8192).mp (by omega)⟩

/-- conversely every size outside the window is refused: `p < 2^1023` or `p ≥ 2^8192` -/
theorem gex_group_rejects_sizes (c : Env) (st : GexSt) (m : Bytes) (x : Nat) (p : Nat)
    (hp : firstMpint m = (p : Int)) (h : p < 2 ^ 1023 ∨ 2 ^ 8192 ≤ p) :
    gexGroup c st m x = ⟨[], .error .ssh⟩ := by
  apply gex_group_rejects
  rw [hp]
  have := mt (bitLength_window p 1023 8192).mp (by omega)
  omega

/-- client: `f ∉ [1, p-1]` for the group in use ⇒ SSHException, no call on the transport;
    with no group yet the step fails as well (TypeError) -/
theorem gex_client_rejects (c : Env) (st : GexSt) (m : Bytes)
    (h : replyF m < 1 ∨ ∀ p, st.p = some p → replyF m > p - 1) :
    (gexReply c st m).eff = [] ∧ ∃ e, (gexReply c st m).out = .error e := by
  rcases gexReply_cases c st m with ⟨e, he⟩ | ⟨p, hp, h1, h2, _⟩
  · rw [he]; exact ⟨rfl, e, rfl⟩
  · rcases h with h | h
    · exact absurd h1 (by unfold replyF at h; omega)
    · exact absurd h2 (by have := h p hp; unfold replyF at this; omega)

/-- client: any effect of a GEX_REPLY means `1 ≤ f ≤ p-1` for the stored group -/
theorem gex_client_effect_in_range (c : Env) (st : GexSt) (m : Bytes)
    (h : (gexReply c st m).eff ≠ []) : ∃ p, st.p = some p ∧ 1 ≤ replyF m ∧ replyF m ≤ p - 1 := by
  rcases gexReply_cases c st m with ⟨e, he⟩ | ⟨p, hp, h1, h2, _⟩
  · rw [he] at h; exact absurd rfl h
  · exact ⟨p, hp, h1, h2⟩

/-- server: `e ∉ [1, p-1]` ⇒ no call on the transport, the step raises -/
theorem gex_server_rejects (c : Env) (st : GexSt) (m : Bytes) (x : Nat)
    (h : firstMpint m < 1 ∨ ∀ p, st.p = some p → firstMpint m > p - 1) :
    (gexInit c st m x).eff = [] ∧ ∃ e, (gexInit c st m x).out = .error e := by
  rcases gexInit_cases c st m x with ⟨e, he⟩ | ⟨p, hp, h1, h2⟩
  · rw [he]; exact ⟨rfl, e, rfl⟩
  · rcases h with h | h
    · exact absurd h1 (by unfold firstMpint at h; omega)
    · exact absurd h2 (by have := h p hp; unfold firstMpint at this; omega)

theorem gex_server_effect_in_range (c : Env) (st : GexSt) (m : Bytes) (x : Nat)
    (h : (gexInit c st m x).eff ≠ []) : ∃ p, st.p = some p ∧ 1 ≤ firstMpint m ∧ firstMpint m ≤ p - 1 := by
  rcases gexInit_cases c st m x with ⟨e, he⟩ | ⟨p, hp, h1, h2⟩
  · rw [he] at h; exact absurd rfl h
  · exact ⟨p, hp, h1, h2⟩

/-! ## elliptic curves: the library's verdict on the point is obeyed, X25519 zero secret is refused -/

/-- NIST curves, server: a point the library does not accept ⇒ the step raises, no effect -/
theorem ec_server_rejects_bad_point (c : Env) (cv : Curve) (st : EcSt) (m : Bytes)
    (h : cv.decode (initPoint m) = false) : ecInit c cv st m = ⟨[], .error .value⟩ := by
  unfold initPoint at h
  simp [ecInit, h]

theorem ec_client_rejects_bad_point (c : Env) (cv : Curve) (st : EcSt) (m : Bytes)
    (h : cv.decode (replyPoint m) = false) : ecReply c cv st m = ⟨[], .error .value⟩ := by
  unfold replyPoint at h
  simp [ecReply, h]

/-- NIST curves: any effect means the point was accepted and the exchange produced a secret -/
theorem ec_server_effect_valid (c : Env) (cv : Curve) (st : EcSt) (m : Bytes)
    (h : (ecInit c cv st m).eff ≠ []) :
    cv.decode (initPoint m) = true ∧ ∃ s, cv.exchange st.priv (initPoint m) = .ok s := by
  cases hd : cv.decode (initPoint m) with
  | false => rw [ec_server_rejects_bad_point c cv st m hd] at h; exact absurd rfl h
  | true =>
    refine ⟨rfl, ?_⟩
    unfold initPoint at hd ⊢
    cases hx : cv.exchange st.priv (rd m).getString.1 with
    | ok s => exact ⟨s, rfl⟩
    | error e => simp [ecInit, hd, hx] at h

theorem ec_client_effect_valid (c : Env) (cv : Curve) (st : EcSt) (m : Bytes)
    (h : (ecReply c cv st m).eff ≠ []) :
    cv.decode (replyPoint m) = true ∧ ∃ s, cv.exchange st.priv (replyPoint m) = .ok s := by
  cases hd : cv.decode (replyPoint m) with
  | false => rw [ec_client_rejects_bad_point c cv st m hd] at h; exact absurd rfl h
  | true =>
    refine ⟨rfl, ?_⟩
    unfold replyPoint at hd ⊢
    cases hx : cv.exchange st.priv (rd m).getString.2.getString.1 with
    | ok s => exact ⟨s, rfl⟩
    | error e => simp [ecReply, hd, hx] at h

/-- X25519: `_perform_exchange` turns an all-zero shared secret into an SSHException -/
theorem cv_exchange_refuses_zero (cv : Curve) (d : Nat) (peer : Bytes)
    (h : cv.exchange d peer = .ok (zeros 32)) : cvExchange cv d peer = .error .ssh := by
  simp [cvExchange, h]

/-- X25519, either role: wrong-length key, the library's refusal, or an all-zero shared secret
    ⇒ the step raises and has no effect -/
theorem cv_server_rejects (c : Env) (cv : Curve) (st : EcSt) (m : Bytes)
    (h : cv.decode (initPoint m) = false ∨ ∀ s, cvExchange cv st.priv (initPoint m) ≠ .ok s) :
    (cvInit c cv st m).eff = [] ∧ ∃ e, (cvInit c cv st m).out = .error e := by
  unfold initPoint at h
  simp only [cvInit]
  split
  · exact ⟨rfl, _, rfl⟩
  next hd =>
  split
  · exact ⟨rfl, _, rfl⟩
  next s hs => exact absurd hs (h.resolve_left (by simpa using hd) s)

theorem cv_client_rejects (c : Env) (cv : Curve) (st : EcSt) (m : Bytes)
    (h : cv.decode (replyPoint m) = false ∨ ∀ s, cvExchange cv st.priv (replyPoint m) ≠ .ok s) :
    (cvReply c cv st m).eff = [] ∧ ∃ e, (cvReply c cv st m).out = .error e := by
  unfold replyPoint at h
  simp only [cvReply, conclude_fold]
  split
  · exact ⟨rfl, _, rfl⟩
  next hd =>
  split
  · exact ⟨rfl, _, rfl⟩
  next s hs => exact absurd hs (h.resolve_left (by simpa using hd) s)

private theorem cv_valid (cv : Curve) (d : Nat) (peer : Bytes)
    (h : ¬ (cv.decode peer = false ∨ ∀ s, cvExchange cv d peer ≠ .ok s)) :
    cv.decode peer = true ∧ ∃ s, cv.exchange d peer = .ok s ∧ s ≠ zeros 32 := by
  refine ⟨Bool.not_eq_false _ ▸ fun hd => h (.inl hd), ?_⟩
  obtain ⟨s, hs⟩ := Classical.not_forall_not.mp fun hn => h (.inr hn)
  unfold cvExchange at hs
  split at hs
  · cases hs
  next s' hx =>
  split at hs
  · cases hs
  next hz => cases hs; exact ⟨s, hx, hz⟩

/-- X25519: a secret that is used is never all-zero and comes from an accepted key -/
theorem cv_server_effect_valid (c : Env) (cv : Curve) (st : EcSt) (m : Bytes)
    (h : (cvInit c cv st m).eff ≠ []) :
    cv.decode (initPoint m) = true ∧
      ∃ s, cv.exchange st.priv (initPoint m) = .ok s ∧ s ≠ zeros 32 :=
  cv_valid cv st.priv _ fun hh => h (cv_server_rejects c cv st m hh).1

theorem cv_client_effect_valid (c : Env) (cv : Curve) (st : EcSt) (m : Bytes)
    (h : (cvReply c cv st m).eff ≠ []) :
    cv.decode (replyPoint m) = true ∧
      ∃ s, cv.exchange st.priv (replyPoint m) = .ok s ∧ s ≠ zeros 32 :=
  cv_valid cv st.priv _ fun hh => h (cv_client_rejects c cv st m hh).1

/-! ## at the level of `Transport.run()`: a refused value kills the session for good -/

/-- a step that raises without effect leaves the trace as it was and marks the session dead -/
theorem feed_rejecting_step (c : Env) (en : Engine) (s : Sess) (t : Nat) (m : Bytes) (x : Nat) (e : Err)
    (halive : s.dead = none) (hexp : t ∈ s.expected) (hk : 30 ≤ t ∧ t ≤ 41)
    (hstep : en.next c s.st t m x = ⟨[], .error e⟩) :
    (Sess.feed c en s (t, m, x)).trace = s.trace ∧ (Sess.feed c en s (t, m, x)).dead = some e := by
  have hne : s.expected ≠ [] := by intro h; rw [h] at hexp; cases hexp
  have hr : ¬ (t < 30 ∨ t > 41) := by omega
  simp [Sess.feed, halive, hne, hexp, hr, hstep]

/-- a dead session ignores every later packet: no `_set_K_H`, nothing sent, ever -/
theorem dead_absorbing (c : Env) (en : Engine) (s : Sess) (hdead : s.dead.isSome)
    (pkts : List (Nat × Bytes × Nat)) : pkts.foldl (Sess.feed c en) s = s := by
  induction pkts with
  | nil => rfl
  | cons p ps ih =>
    have : Sess.feed c en s p = s := by simp [Sess.feed, hdead]
    rw [List.foldl_cons, this, ih]

/-- a trace without `_set_K_H` leaves `K`, `H` and the session id exactly as they were -/
theorem no_setKH_keeps_keys (t : TSt) (tr : List Effect) (h : ∀ k hh, Effect.setKH k hh ∉ tr) :
    t.apply tr = t := by
  induction tr generalizing t with
  | nil => rfl
  | cons e r ih =>
    have hr : ∀ k hh, Effect.setKH k hh ∉ r := fun k hh hin => h k hh (List.mem_cons_of_mem _ hin)
    cases e with
    | setKH k hh => exact absurd List.mem_cons_self (h k hh)
    | _ => exact ih t hr

/-- summary for the fixed groups on the client: from ANY live session state, an expected
    KEXDH_REPLY with `f ∉ [1, P-1]`, followed by any packets whatsoever, leaves the trace unchanged
    and the session dead with SSHException -/
theorem grp_client_session_rejects (c : Env) (g : Group) (s : Sess) (gs : GrpSt) (m : Bytes) (x : Nat)
    (later : List (Nat × Bytes × Nat))
    (hclient : c.serverMode = false) (hst : s.st = .grp gs) (halive : s.dead = none)
    (hexp : 31 ∈ s.expected) (h : replyF m < 1 ∨ replyF m > (g.P : Int) - 1) :
    let s' := (((31, m, x) :: later).foldl (Sess.feed c (.grp g)) s)
    s'.trace = s.trace ∧ s'.dead = some .ssh := by
  have hstep : (Engine.grp g).next c s.st 31 m x = ⟨[], .error .ssh⟩ := by
    rw [hst]
    simp only [Engine.next, grpNext, hclient]
    simp [grp_client_rejects c g gs m h, mapRes]
  have h1 := feed_rejecting_step c (.grp g) s 31 m x .ssh halive hexp (by omega) hstep
  simp only [List.foldl_cons]
  rw [dead_absorbing c (.grp g) _ (by rw [h1.2]; rfl) later]
  exact h1

/-! ## non-vacuity -/

private def env0 : Env :=
  { serverMode := false, localVersion := [1], remoteVersion := [2], localKexInit := [3],
    remoteKexInit := [4], hostKey := [5], hash := toyHash, sign := toySign [6] [5],
    verify := fun _ _ _ => true, modulus := fun _ _ _ => none }

/-- `f = 0` and `f = P` (P = 23) are out of range … -/
example : replyF ([0,0,0,1,9] ++ [0,0,0,0] ++ [0,0,0,0]) < 1 := by decide +kernel
example : replyF ([0,0,0,1,9] ++ [0,0,0,1,23] ++ [0,0,0,0]) > ((23 : Nat) : Int) - 1 := by decide +kernel
/-- … and `f = 22 = P-1` is accepted: the step has effects -/
example : (grpReply env0 ⟨23, 5⟩ ⟨6, 8, 0⟩ [0,0,0,1,9, 0,0,0,1,22, 0,0,0,0]).eff ≠ [] := by
  have hf : replyF [0,0,0,1,9, 0,0,0,1,22, 0,0,0,0] = 22 := by decide +kernel
  unfold replyF at hf
  simp [grpReply, hf, env0]
/-- X25519: the toy curve does produce the all-zero secret for the point 0 -/
example : toyX.exchange 5 (zeros 32) = .ok (zeros 32) := by
  have h0 : beVal (zeros 32) = 0 := by decide +kernel
  have hz : beBytes 32 0 = zeros 32 := by decide +kernel
  simp only [toyX, h0, powMod_eq, toyQ]
  rw [if_neg (by decide +kernel), ← hz]
example : toyNist.decode [4, 0] = false := by decide +kernel

end PV.Props.C08
