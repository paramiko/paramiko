/-
  C39 — SSH wire encoding round-trips and integers are encoded canonically.
  Property theorems only (helpers: PV/Base/WireLemmas.lean).  Model: PV/Base/Wire.lean.
-/
import PV.Base.WireLemmas
namespace PV.Props.C39
open PV PV.Wire

/-! ## mpint: inflate ∘ deflate = id, minimality, zero -/

/-- `inflate_long(deflate_long(z)) == z` for every integer, negative ones included. -/
theorem inflate_deflate (z : Int) : inflate (deflate z) = z := PV.Wire.inflate_deflate z

/-- RFC 4251 minimality: no leading byte of the encoding is redundant. -/
def Minimal (s : Bytes) : Prop :=
  s ≠ [] ∧ ∀ b c r, s = b :: c :: r →
    ¬ (b = 0 ∧ c.toNat < 128) ∧ ¬ (b = 255 ∧ c.toNat ≥ 128)

/-- `deflate_long` of a non-negative number: first byte below 128, and zero only to keep the next byte's top
    bit from reading as a sign (for 0 itself the single byte `00`) -/
private theorem deflatePos_minimal (n : Nat) :
    ∃ b r, deflatePos n = b :: r ∧ b.toNat < 128 ∧
      (∀ c r', r = c :: r' → ¬ (b = 0 ∧ c.toNat < 128)) := by
  unfold deflatePos
  split
  · exact ⟨0, [], rfl, by decide, fun _ _ h => nomatch h⟩
  next h =>
  cases hq : natBytes n with
  | nil => exact absurd hq (natBytes_ne_nil n h)
  | cons b r =>
    by_cases hb : b.toNat ≥ 128
    · refine ⟨0, b :: r, by simp [signPad, hb], by decide, fun c r' hcr hbad => ?_⟩
      cases hcr; omega
    · exact ⟨b, r, by simp [signPad, hb], by omega, fun c r' _ hbad => natBytes_head_ne_zero n b r hq hbad.1⟩

private theorem minimal_and_compl (b : UInt8) (r : Bytes) (hb : b.toNat < 128)
    (hmin : ∀ c r', r = c :: r' → ¬ (b = 0 ∧ c.toNat < 128)) :
    Minimal (b :: r) ∧ Minimal (compl (b :: r)) := by
  refine ⟨⟨List.cons_ne_nil _ _, fun b' c r' heq => ?_⟩, ⟨List.cons_ne_nil _ _, fun b' c' r' heq => ?_⟩⟩
  · cases heq
    exact ⟨hmin c r' rfl, fun hbad => by rw [hbad.1] at hb; exact absurd hb (by decide)⟩
  · cases r with
    | nil => exact absurd heq (by simp [compl])
    | cons c rr =>
      rw [show compl (b :: c :: rr) = (255 - b) :: (255 - c) :: compl rr from rfl] at heq
      simp only [List.cons.injEq] at heq
      obtain ⟨rfl, rfl, -⟩ := heq
      have hbn := compl_toNat b
      have hcn := compl_toNat c
      refine ⟨fun hbad => ?_, fun hbad => hmin c rr rfl ⟨UInt8.toNat_inj.mp ?_, by omega⟩⟩
      · have := congrArg UInt8.toNat hbad.1
        rw [hbn] at this; simp at this; omega
      · have := congrArg UInt8.toNat hbad.1
        rw [hbn] at this; simp at this ⊢; omega

theorem deflate_minimal (z : Int) (hz : z ≠ 0) : Minimal (deflate z) := by
  unfold deflate
  split
  · obtain ⟨b, r, hd, hb, hmin⟩ := deflatePos_minimal z.toNat
    rw [hd]; exact (minimal_and_compl b r hb hmin).1
  · obtain ⟨b, r, hd, hb, hmin⟩ := deflatePos_minimal (-z - 1).toNat
    rw [hd]; exact (minimal_and_compl b r hb hmin).2
/-- zero is the empty string on the wire (RFC 4251 §5) -/
theorem mpint_zero_is_empty : encode (.mpint 0) = [0, 0, 0, 0] := by decide

/-- non-zero mpints carry exactly `deflate_long`'s minimal form -/
theorem mpint_nonzero (z : Int) (hz : z ≠ 0) : encode (.mpint z) = encStr (deflate z) := by
  simp [encode, encMpint, hz]

/-! ## already-read bytes ++ unread remainder = whole message -/

theorem soFar_append_remainder (r : Rd) : r.soFar ++ r.remainder = r.content :=
  List.take_append_drop _ _

private theorem decode_content (r : Rd) (k : Kind) : (decode r k).2.content = r.content := by
  cases k <;> simp only [decode, Rd.getInt, Rd.getString] <;>
    (try split) <;> simp [getBytes_content]

theorem decodeAll_content (r : Rd) (ks : List Kind) : (decodeAll r ks).2.content = r.content := by
  induction ks generalizing r with
  | nil => rfl
  | cons k ks ih => simp only [decodeAll]; rw [ih, decode_content]

/-- after any sequence of `get_*` calls on any bytes: `get_so_far() + get_remainder()` is the message -/
theorem soFar_remainder_after_any_reads (content : Bytes) (ks : List Kind) :
    let r := (decodeAll { content := content, pos := 0 } ks).2
    r.soFar ++ r.remainder = content := by
  simp only
  rw [soFar_append_remainder, decodeAll_content]

/-! ## round trip of typed field sequences -/

theorem split_join (l : List Bytes) (hne : l ≠ []) (hl : ∀ x ∈ l, (44 : UInt8) ∉ x) :
    splitComma (joinComma l) = l := PV.Wire.split_join l hne hl

/-- one field: what `add_x` wrote, `get_x` reads back, leaving the position just after it -/
theorem decode_encode (f : Field) (hf : f.WF) (pre rest : Bytes) :
    decode { content := pre ++ encode f ++ rest, pos := pre.length } f.kind
      = (f, { content := pre ++ encode f ++ rest, pos := pre.length + (encode f).length }) :=
  decode_at f hf (rest := rest) (by rw [List.append_assoc, remainder_at])

/-- **Round trip.** Any sequence of well-formed fields written with the `add_*` methods is read back
unchanged and in order by the matching `get_*` methods, whatever precedes or follows it. -/
theorem roundtrip (fs : List Field) (hfs : ∀ f ∈ fs, f.WF) (pre rest : Bytes) :
    decodeAll { content := pre ++ encodeAll fs ++ rest, pos := pre.length } (fs.map Field.kind)
      = (fs, { content := pre ++ encodeAll fs ++ rest, pos := pre.length + (encodeAll fs).length }) :=
  decodeAll_at fs hfs (rest := rest) (by rw [List.append_assoc, remainder_at])

/-- the remainder after reading back is exactly what followed the fields -/
theorem roundtrip_remainder (fs : List Field) (hfs : ∀ f ∈ fs, f.WF) (rest : Bytes) :
    (decodeAll { content := encodeAll fs ++ rest, pos := 0 } (fs.map Field.kind)).2.remainder = rest := by
  rw [decodeAll_at fs hfs (r := ⟨encodeAll fs ++ rest, 0⟩) (rest := rest) rfl]
  exact adv_remainder (r := ⟨encodeAll fs ++ rest, 0⟩) rfl rfl

/-! ## non-vacuity: concrete well-formed instances -/

private theorem natBytes_255 : natBytes 255 = [255] := by
  rw [natBytes_pos 255 (by decide)]
  simp [natBytes_zero]

example : (Field.mpint (-256)).WF := by
  simp [Field.WF, deflate, deflatePos, natBytes_255, signPad, compl]
example : (Field.list [[97], [], [98, 99]]).WF := by
  refine ⟨by simp, ?_, by simp [joinComma]⟩
  intro a ha
  simp at ha
  rcases ha with h | h | h <;> subst h <;> decide
example : (Field.str [1, 2, 3]).WF := by simp [Field.WF]
example : encode (.mpint (-256)) = [0, 0, 0, 2, 255, 0] := by
  simp [encode, encMpint, encStr, deflate, deflatePos, natBytes_255, signPad, compl, be32, beBytes]
example : Minimal (deflate 128) := deflate_minimal 128 (by decide)

end PV.Props.C39
