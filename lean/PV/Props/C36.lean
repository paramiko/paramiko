/-
  C36 — Keys survive serialisation and new key files are private to the owner.   (PARTIAL)
  Model: PV/Model/PubKey.lean (helpers: PV/Model/PubKeyLemmas.lean).

  Proved, for every primitive set `P` and all key material:
    * public blob round trip per key type: `Class(data=k.asbytes())` rebuilds exactly `k`'s public
      material with no certificate attached (`rsa_roundtrip`, `ec_roundtrip`, `ed_roundtrip`), and a
      certificate blob yields the same public material plus the stored certificate (`*_cert_decode`);
    * identity: `__eq__`/`__hash__` are functions of the public material only — the presence of a
      private half or of a certificate never matters (`eq_public_only`, `hash_public_only`); equal keys
      have equal blobs hence equal fingerprints (`eq_same_fingerprint`), and different public
      material gives different blobs (`encode_injective`);
    * a key file created by `_write_private_key_file` has no group/other permission bit and nothing
      beyond rw for the owner, for every umask (`new_file_private`).
    * the write path: which `encryption_algorithm` paramiko hands to `private_bytes` for which passphrase
      (`write_unencrypted_iff_none`, `write_passphrase_encrypts`, `write_refusals`), and the mode of the
      target in every destination state (`write_file_mode`, `created_file_private`).
  NOT modelled (validated by the oracle on the real code only): the private-key serialisation itself
  (what cryptography's `private_bytes` emits and the PEM reader accepts), the digest functions.
-/
import PV.Model.PubKeyLemmas
import PV.Model.KeyWrite
namespace PV.Props.C36
open PV PV.Wire PV.Sig PV.KeyUtf8 PV.PubKey

/-! ## what the encoders accept (sizes that fit the 32-bit length fields; coordinates that fit the curve) -/

def Pub.WF : Pub → Prop
  | .rsa e n => (deflate e).length < 4294967296 ∧ (deflate n).length < 4294967296
  | .ec c x y => x < 256 ^ c.size ∧ y < 256 ^ c.size
  | .ed pk => pk.length < 4294967296

private theorem body_len (z : Int) (h : (deflate z).length < 4294967296) :
    (if z = 0 then ([] : Bytes) else deflate z).length < 4294967296 := by
  split
  · simp
  · exact h

private theorem names_ok :
    utf8Valid nSshRsa = true ∧ utf8Valid nEd = true ∧
    (∀ c : Curve, utf8Valid c.name = true ∧ c.name.length < 4294967296 ∧
      utf8Valid c.nist = true ∧ c.nist.length < 4294967296 ∧ 0 < c.size) := by
  refine ⟨by decide, by decide, ?_⟩
  intro c; cases c <;> decide

/-! ## public blob round trips -/

/-- the part of `RSAKey(data=…)` behind `_check_type_and_load_cert`: the reader stands at the two mpints -/
private theorem rsa_decode_body (P : Prims) {blob : Bytes} (pre rest : Bytes) (cert : Option Bytes) (e n : Int)
    (hwf : Pub.WF (.rsa e n)) (hacc : P.rsaMake e n = none)
    (hb : blob = pre ++ encMpint e ++ encMpint n ++ rest)
    (hc : checkType blob [nSshRsa] = .ok (cert, { content := blob, pos := pre.length })) :
    rsaDecode P blob = .ok { pub := .rsa e n, hasPrivate := false, cert := cert } := by
  unfold rsaDecode
  rw [hc]
  dsimp only
  rw [getString_after pre _ (encMpint n ++ rest) (by rw [hb, ← encMpint_eq, List.append_assoc]) (body_len e hwf.1)]
  simp only [← encMpint_eq]
  rw [getString_after (pre ++ encMpint e) _ rest hb (body_len n hwf.2)]
  simp only [inflate_encMpint, hacc]

/-- RSA: `RSAKey(data=asbytes(e, n))` has exactly the numbers `(e, n)` and no certificate.
    `hacc`: cryptography accepts these public numbers (it does for every real key). -/
theorem rsa_roundtrip (P : Prims) (e n : Int) (hwf : Pub.WF (.rsa e n)) (hacc : P.rsaMake e n = none) :
    rsaDecode P (encode (.rsa e n)) = .ok { pub := .rsa e n, hasPrivate := false, cert := none } :=
  rsa_decode_body P (encStr nSshRsa) [] none e n hwf hacc (List.append_nil _).symm
    (checkType_plain _ nSshRsa _ (List.append_assoc ..) (by decide) names_ok.1 (by decide))

/-- SEC1 law for one point: the primitive decodes `04 ‖ X ‖ Y` (fixed-width big-endian halves) to the
    affine coordinates.  (cryptography's `from_encoded_point`; on-curve points only.) -/
def Sec1 (P : Prims) (c : Curve) (x y : Nat) : Prop :=
  ∀ X Y : Bytes, X.length = c.size → Y.length = c.size → beVal X = x → beVal Y = y →
    P.ecPoint c (4 :: (X ++ Y)) = .ok (x, y)

/-- the part of `ECDSAKey(data=…)` behind the type name `t` and `_check_type_and_load_cert`: the reader stands at the
curve name and the point -/
private theorem ec_decode_body (P : Prims) {blob : Bytes} (t pre rest : Bytes) (r0 : Rd) (cert : Option Bytes)
    (c : Curve) (x y : Nat) (hwf : Pub.WF (.ec c x y)) (hp : Sec1 P c x y)
    (hb : blob = pre ++ encStr c.nist ++ encStr (pointBytes c x y) ++ rest)
    (ht : getTextE { content := blob, pos := 0 } = .ok (t, r0)) (hcurve : curveOfName (stripCert t) = some c)
    (hc : checkType blob [nEc256, nEc384, nEc521] = .ok (cert, { content := blob, pos := pre.length })) :
    ecDecode P blob = .ok { pub := .ec c x y, hasPrivate := false, cert := cert } := by
  obtain ⟨hx, hy⟩ := hwf
  obtain ⟨_, _, hcv, hcl, hsz⟩ := names_ok.2.2 c
  have hxl := padCoord_length _ _ hsz hx
  have hyl := padCoord_length _ _ hsz hy
  have hpt : P.ecPoint c (pointBytes c x y) = .ok (x, y) := hp _ _ hxl hyl (padCoord_val _ _) (padCoord_val _ _)
  have hptl : (pointBytes c x y).length < 4294967296 := by
    simp only [pointBytes, List.length_cons, List.length_append, hxl, hyl]
    cases c <;> decide
  unfold ecDecode
  rw [ht]
  dsimp only
  rw [hc]
  dsimp only
  rw [hcurve]
  dsimp only
  rw [getTextE_at pre c.nist (encStr (pointBytes c x y) ++ rest) (by rw [hb, List.append_assoc]) hcl hcv]
  simp only [ne_eq, not_true_eq_false, if_false]
  rw [getString_after (pre ++ encStr c.nist) _ rest hb hptl, hpt]

/-- ECDSA, all three curves: `asbytes` is the SEC1 uncompressed encoding, and decoding it gives the
    same curve and coordinates. -/
theorem ec_roundtrip (P : Prims) (c : Curve) (x y : Nat) (hwf : Pub.WF (.ec c x y)) (hp : Sec1 P c x y) :
    ecDecode P (encode (.ec c x y)) = .ok { pub := .ec c x y, hasPrivate := false, cert := none } := by
  obtain ⟨hnv, hnl, _⟩ := names_ok.2.2 c
  have hb : encode (.ec c x y) = encStr c.name ++ (encStr c.nist ++ encStr (pointBytes c x y)) := List.append_assoc ..
  exact ec_decode_body P c.name (encStr c.name) [] _ none c x y hwf hp (List.append_nil _).symm
    (getTextE_head c.name _ hb hnl hnv) (by cases c <;> decide)
    (checkType_plain _ c.name _ hb hnl hnv (by cases c <;> decide))

private theorem ed_decode_body (P : Prims) {blob : Bytes} (pre rest : Bytes) (cert : Option Bytes) (pk : Bytes)
    (hwf : Pub.WF (.ed pk)) (hacc : P.edMake pk = none) (hb : blob = pre ++ encStr pk ++ rest)
    (hc : checkType blob [nEd] = .ok (cert, { content := blob, pos := pre.length })) :
    edDecode P blob = .ok { pub := .ed pk, hasPrivate := false, cert := cert } := by
  unfold edDecode
  rw [hc]
  dsimp only
  rw [getString_after pre pk rest hb hwf]
  simp only [hacc]

/-- Ed25519: `hacc` = nacl accepts the 32 bytes. -/
theorem ed_roundtrip (P : Prims) (pk : Bytes) (hwf : Pub.WF (.ed pk)) (hacc : P.edMake pk = none) :
    edDecode P (encode (.ed pk)) = .ok { pub := .ed pk, hasPrivate := false, cert := none } :=
  ed_decode_body P (encStr nEd) [] none pk hwf hacc (List.append_nil _).symm
    (checkType_plain _ nEd _ rfl (by decide) names_ok.2.1 (by decide))

/-- the reference primitives: accept everything / plain SEC1 split -/
def refPrims : Prims where
  rsaMake := fun _ _ => none
  ecPoint := fun c b =>
    match b with
    | t :: rest =>
      if t = 4 ∧ rest.length = 2 * c.size then .ok (beVal (rest.take c.size), beVal (rest.drop c.size))
      else .error "ValueError"
    | [] => .error "ValueError"
  edMake := fun b => if b.length = 32 then none else some "ValueError"

theorem refPrims_sec1 (c : Curve) (x y : Nat) : Sec1 refPrims c x y := by
  intro X Y hX hY hx hy
  simp only [refPrims]
  have hl : (X ++ Y).length = 2 * c.size := by simp [hX, hY]; omega
  simp only [hl, and_self, if_true]
  rw [← hX]
  simp [hx, hy]

/-- non-vacuity: a concrete P-256 point and a concrete RSA key -/
example : ecDecode refPrims (encode (.ec .p256 258 7)) = .ok { pub := .ec .p256 258 7, hasPrivate := false, cert := none } :=
  ec_roundtrip refPrims .p256 258 7 (by unfold Pub.WF; decide) (refPrims_sec1 _ _ _)

example : rsaDecode refPrims (encode (.rsa 65537 3233)) = .ok { pub := .rsa 65537 3233, hasPrivate := false, cert := none } :=
  rsa_roundtrip refPrims 65537 3233
    ⟨by have h := deflate_length_int 65537 3 (by decide) (by decide)
        omega,
     by have h := deflate_length_int 3233 2 (by decide) (by decide)
        omega⟩ rfl

/-! ## certificate-bearing blobs -/

/-- a key built from an `ssh-rsa-cert-v01@openssh.com` blob takes `(e, n)` from behind the nonce and
    keeps the whole blob as its certificate; `asbytes()` of the result is the plain key again -/
theorem rsa_cert_decode (P : Prims) (nonce rest : Bytes) (e n : Int) (hwf : Pub.WF (.rsa e n))
    (hnonce : nonce.length < 4294967296) (hacc : P.rsaMake e n = none) :
    let blob := encStr (nSshRsa ++ certSuffix) ++ encStr nonce ++ encMpint e ++ encMpint n ++ rest
    rsaDecode P blob = .ok { pub := .rsa e n, hasPrivate := false, cert := some blob } :=
  rsa_decode_body P (encStr (nSshRsa ++ certSuffix) ++ encStr nonce) rest _ e n hwf hacc rfl
    (checkType_cert _ _ nonce (encMpint e ++ encMpint n ++ rest) (by simp only [List.append_assoc])
      (by decide) (by decide) (by decide) (by decide) hnonce)

theorem ed_cert_decode (P : Prims) (nonce rest pk : Bytes) (hwf : Pub.WF (.ed pk))
    (hnonce : nonce.length < 4294967296) (hacc : P.edMake pk = none) :
    let blob := encStr (nEd ++ certSuffix) ++ encStr nonce ++ encStr pk ++ rest
    edDecode P blob = .ok { pub := .ed pk, hasPrivate := false, cert := some blob } :=
  ed_decode_body P (encStr (nEd ++ certSuffix) ++ encStr nonce) rest _ pk hwf hacc rfl
    (checkType_cert _ _ nonce (encStr pk ++ rest) (by simp only [List.append_assoc])
      (by decide) (by decide) (by decide) (by decide) hnonce)

theorem ec_cert_decode (P : Prims) (c : Curve) (nonce rest : Bytes) (x y : Nat) (hwf : Pub.WF (.ec c x y))
    (hnonce : nonce.length < 4294967296) (hp : Sec1 P c x y) :
    let blob := encStr (c.name ++ certSuffix) ++ encStr nonce ++ encStr c.nist ++ encStr (pointBytes c x y) ++ rest
    ecDecode P blob = .ok { pub := .ec c x y, hasPrivate := false, cert := some blob } := by
  have hcn : utf8Valid (c.name ++ certSuffix) = true ∧ (c.name ++ certSuffix).length < 4294967296 := by
    cases c <;> decide
  exact ec_decode_body P (c.name ++ certSuffix) (encStr (c.name ++ certSuffix) ++ encStr nonce) rest _ _ c x y hwf hp rfl
    (getTextE_head _ (encStr nonce ++ encStr c.nist ++ encStr (pointBytes c x y) ++ rest)
      (by simp only [List.append_assoc]) hcn.2 hcn.1)
    (by cases c <;> decide)
    (checkType_cert _ _ nonce (encStr c.nist ++ encStr (pointBytes c x y) ++ rest) (by simp only [List.append_assoc])
      hcn.2 hcn.1 (by cases c <;> decide) (by cases c <;> decide) hnonce)

/-! ## identity depends on the public material only -/

/-- `__eq__` compares `_fields`, i.e. public material: private half and certificate are irrelevant -/
theorem eq_public_only (a b : KeyObj) : keyEq a b = true ↔ a.pub = b.pub := by
  simp [keyEq, fields]

theorem eq_ignores_private_and_cert (p : Pub) (h1 h2 : Bool) (c1 c2 : Option Bytes) :
    keyEq ⟨p, h1, c1⟩ ⟨p, h2, c2⟩ = true := by
  simp [keyEq, fields]

/-- `__hash__`: equal keys hash equally, for every hash of the field tuple -/
theorem hash_public_only (h : Pub → Nat) (a b : KeyObj) (hab : keyEq a b = true) :
    keyHash h a = keyHash h b := by
  rw [eq_public_only] at hab
  simp [keyHash, fields, hab]

/-- equal keys have the same blob, hence the same fingerprint under every digest -/
theorem eq_same_fingerprint (d : Bytes → Bytes) (a b : KeyObj) (hab : keyEq a b = true) :
    encode a.pub = encode b.pub ∧ fingerprint d a = fingerprint d b := by
  rw [eq_public_only] at hab
  simp [fingerprint, hab]

/-- the object rebuilt from a key's public bytes equals the key and has its fingerprint — whatever
    route built the original (private half / certificate present or not) -/
theorem rebuilt_equal (P : Prims) (k k' : KeyObj) (d : Bytes → Bytes)
    (_hdec : (match k.pub with
              | .rsa _ _ => rsaDecode P (encode k.pub)
              | .ec _ _ _ => ecDecode P (encode k.pub)
              | .ed _ => edDecode P (encode k.pub)) = .ok k')
    (hrt : k'.pub = k.pub) : keyEq k' k = true ∧ fingerprint d k' = fingerprint d k := by
  have : keyEq k' k = true := (eq_public_only _ _).mpr hrt
  exact ⟨this, (eq_same_fingerprint d _ _ this).2⟩

/-- the first string of a blob is the key type name -/
private def typeName : Pub → Bytes
  | .rsa _ _ => nSshRsa
  | .ec c _ _ => c.name
  | .ed _ => nEd

private theorem head_typeName (p : Pub) :
    (Rd.getString { content := encode p, pos := 0 }).1 = typeName p := by
  cases p with
  | rsa e n =>
    simp only [PubKey.encode, typeName, List.append_assoc]
    rw [getString_head nSshRsa _ (by decide)]
  | ec c x y =>
    simp only [PubKey.encode, typeName, List.append_assoc]
    rw [getString_head c.name _ (names_ok.2.2 c).2.1]
  | ed pk =>
    simp only [PubKey.encode, typeName]
    rw [getString_head nEd _ (by decide)]

/-- different public material ⇒ different blobs (so equal fingerprints can only come from a digest
    collision): the blobs start with the same type name, and for one type the decoder (with primitives that
    accept everything) recovers the material from either -/
theorem encode_injective (p q : Pub) (hp : Pub.WF p) (hq : Pub.WF q) (h : encode p = encode q) : p = q := by
  have hn : typeName p = typeName q := by rw [← head_typeName p, ← head_typeName q, h]
  have hne : nSshRsa ≠ nEd ∧ ∀ c : Curve, c.name ≠ nSshRsa ∧ c.name ≠ nEd :=
    ⟨by decide, fun c => by cases c <;> decide⟩
  let P : Prims := { refPrims with edMake := fun _ => none }
  cases p with
  | rsa e n =>
    cases q with
    | rsa e' n' =>
      have h1 := rsa_roundtrip P e n hp rfl
      rw [h, rsa_roundtrip P e' n' hq rfl] at h1
      cases h1; rfl
    | ec c x y => exact absurd hn.symm (hne.2 c).1
    | ed pk => exact absurd hn hne.1
  | ec c x y =>
    cases q with
    | rsa e' n' => exact absurd hn (hne.2 c).1
    | ec c' x' y' =>
      have h1 := ec_roundtrip P c x y hp (refPrims_sec1 _ _ _)
      rw [h, ec_roundtrip P c' x' y' hq (refPrims_sec1 _ _ _)] at h1
      cases h1; rfl
    | ed pk => exact absurd hn (hne.2 c).2
  | ed pk =>
    cases q with
    | rsa e' n' => exact absurd hn.symm hne.1
    | ec c x y => exact absurd hn.symm (hne.2 c).2
    | ed pk' =>
      have h1 := ed_roundtrip P pk hp rfl
      rw [h, ed_roundtrip P pk' hq rfl] at h1
      cases h1; rfl

/-! ## mode of a newly created key file -/

/-- for every umask a file created by `_write_private_key_file` carries no group/other bit and
    nothing outside `rw-------` -/
theorem new_file_private (umask : Nat) :
    keyFileMode none umask &&& 0o077 = 0 ∧ keyFileMode none umask &&& 0o600 = keyFileMode none umask := by
  unfold keyFileMode openMode
  simp only
  generalize (0o7777 ^^^ (umask &&& 0o7777)) = X
  constructor
  · rw [Nat.and_comm 0o600 X, Nat.and_assoc]
    simp
  · rw [Nat.and_comm 0o600 X, Nat.and_assoc]
    simp

/-- with the usual umasks the mode is exactly 0600 -/
theorem new_file_mode_usual : keyFileMode none 0o022 = 0o600 ∧ keyFileMode none 0o077 = 0o600 ∧
    keyFileMode none 0 = 0o600 ∧ keyFileMode none 0o277 = 0o400 := by decide

/-- an existing target keeps its mode (the code documents this: "it will not act like a chmod") -/
theorem existing_file_keeps_mode (m umask : Nat) : keyFileMode (some m) umask = m := rfl

/-! ## the write path: which serialisation call paramiko makes for which passphrase -/

open PV.KeyWrite in
private theorem chooseEnc_none_iff (p : Pass) (enc : Enc) (h : chooseEnc p = .ok enc) :
    enc = .noEncryption ↔ p = .none := by
  cases p with
  | none => simp [chooseEnc] at h; subst h; simp
  | bytes b =>
    simp only [chooseEnc, KeyWrite.toBytes] at h
    split at h
    · simp at h
    · simp at h; subst h; simp
  | str b =>
    simp only [chooseEnc, KeyWrite.toBytes] at h
    split at h
    · simp at h
    · simp at h; subst h; simp
  | other => simp [chooseEnc, KeyWrite.toBytes] at h

open PV.KeyWrite in
/-- no passphrase ⇒ `NoEncryption()`; this is the only way an unencrypted file is written -/
theorem write_unencrypted_iff_none (c : KeyWrite.Cls) (hp : Bool) (p : Pass) (call : Call)
    (h : writeKey c hp p = .ok call) : call.enc = .noEncryption ↔ p = .none := by
  unfold writeKey at h
  cases c <;> simp only at h
  · split at h
    · simp at h
    · next enc he => split at h <;> simp at h; subst h; exact chooseEnc_none_iff p enc he
  · split at h
    · simp at h
    · next enc he => split at h <;> simp at h; subst h; exact chooseEnc_none_iff p enc he
  · simp at h

open PV.KeyWrite in
/-- a (non-empty) passphrase, `bytes` or `str`, is handed to `BestAvailableEncryption` as exactly its
    bytes / its UTF-8 encoding — so the same passphrase given as `str` or as `bytes` protects alike -/
theorem write_passphrase_encrypts (c : KeyWrite.Cls) (b : Bytes) (hb : b ≠ []) (hc : c ≠ .ed) :
    writeKey c true (.bytes b) = .ok { enc := .best b } ∧ writeKey c true (.str b) = .ok { enc := .best b } := by
  cases c <;> simp_all [writeKey, chooseEnc, KeyWrite.toBytes]

open PV.KeyWrite in
/-- the statement does not cover the empty passphrase: it is refused (`ValueError`), never written
    unencrypted; a non-bytes/str passphrase is a `TypeError`; Ed25519Key cannot write at all -/
theorem write_refusals (c : KeyWrite.Cls) (hp : Bool) (hc : c ≠ .ed) :
    writeKey c hp (.bytes []) = .error .valueError ∧ writeKey c hp (.str []) = .error .valueError ∧
    writeKey c hp .other = .error .typeError ∧ (∀ p, writeKey .ed hp p = .error .notImplemented) := by
  cases c <;> simp_all [writeKey, chooseEnc, KeyWrite.toBytes]

open PV.KeyWrite in
/-- whatever the passphrase and whether or not the write succeeds, a target created by
    `write_private_key_file` is private to the owner (and an existing one keeps its mode) -/
theorem write_file_mode (c : KeyWrite.Cls) (hc : c ≠ .ed) (hp : Bool) (p : Pass) (existing : Option Nat) (umask : Nat) :
    ∃ fa, (writeKeyFile c hp p existing umask).2 = some fa ∧ fa.mode = keyFileMode existing umask ∧
      (existing = none → fa.mode &&& 0o077 = 0) := by
  cases c
  · unfold writeKeyFile
    simp only
    split <;> exact ⟨_, rfl, rfl, fun he => by subst he; exact (new_file_private umask).1⟩
  · unfold writeKeyFile
    simp only
    split <;> exact ⟨_, rfl, rfl, fun he => by subst he; exact (new_file_private umask).1⟩
  · exact absurd rfl hc

open PV.KeyWrite in
/-- every destination state: a file that `write_private_key_file` CREATES (nothing at the path, or a
    dangling symlink) is private to the owner for every umask; existing files keep their mode; with a
    missing directory nothing is created at all (the error is passed on) -/
theorem created_file_private (d : Dest) (umask m : Nat) (h : openDest d umask = .ok (m, true)) :
    m &&& 0o077 = 0 ∧ m &&& 0o600 = m := by
  cases d <;> simp [openDest] at h
  all_goals (subst h; exact new_file_private umask)

open PV.KeyWrite in
theorem missing_parent_creates_nothing (umask : Nat) :
    openDest .missingParent umask = .error .fileNotFound := rfl

end PV.Props.C36
