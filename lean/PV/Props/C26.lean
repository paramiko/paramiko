/-
  C26 — Channel receive buffers are lossless FIFOs with correct close and timeout rules.
  Property theorems only (helpers: PV/Model/BufferedPipeLemmas.lean).  Model: PV/Model/BufferedPipe.lean.

  A *schedule* is any `List Act` (feed / read-entry / wake-up of a waiting reader / empty / close / set_event, by any
  number of threads, in any order, of any length): the theorems below are stated for every schedule.
-/
import PV.Model.BufferedPipeLemmas
namespace PV.Props.C26
open PV PV.BufferedPipe

/-! ## lossless FIFO -/

/-- **FIFO.** After every schedule: everything handed out by `read`/`empty` (in the order it was handed out)
followed by what is still buffered is exactly everything that was fed, in order. -/
theorem fifo (acts : List Act) :
    takenOf (run init acts).log ++ (run init acts).buf = fedOfActs acts := by
  rw [run_eq_runG, run_taken]; rfl

/-- the ghost log records the feeds of the schedule faithfully (so `fifo` is not about a doctored log) -/
theorem log_records_feeds (acts : List Act) : fedOf (run init acts).log = fedOfActs acts := by
  rw [run_eq_runG, run_fed]; rfl

/-- the same equation from any state reached earlier: nothing is lost or duplicated by a continuation -/
theorem fifo_from (s : St) (acts : List Act) :
    takenOf (run s acts).log ++ (run s acts).buf = takenOf s.log ++ s.buf ++ fedOfActs acts :=
  run_taken true s acts

/-! ## what a single step hands out -/

private theorem newEvents_snoc (s : St) (s' : St) (e : List Ev) (h : s'.log = s.log ++ e) :
    newEvents s s' = e := by
  simp [newEvents, h]

private theorem take_eq_nil {n : Nat} {b : Bytes} (hn : 1 ≤ n) (h : b.take n = []) : b = [] := by
  cases b with
  | nil => rfl
  | cons x xs =>
    cases n with
    | zero => omega
    | succ k => simp at h

/-- A `read` (entry region or wake-up) that hands out the empty string does so only when the pipe is closed and
drained.  Stated for an arbitrary state `s` whose parked readers asked for ≥ 1 byte — in particular for every
state reachable by a schedule of reads with sizes ≥ 1 (`read_empty_only_closed_drained`). -/
theorem read_empty_step (s : St) (a : Act) (tid : Nat) (hs : WaitersOk s) (ha : a.sizeOk)
    (h : Ev.got tid (.data []) ∈ newEvents s (step s a)) : s.closed = true ∧ s.buf = [] := by
  unfold step at h
  cases stepG_effect true s a with
  | silent _ hl => rw [newEvents, hl, List.drop_length] at h; cases h
  | data t n _ hl _ hd hn =>
    rw [newEvents_snoc s _ _ hl, List.mem_singleton, Ev.got.injEq, Res.data.injEq] at h
    have hb := take_eq_nil (hn hs ha) h.2.symm
    exact ⟨hd.resolve_left (· hb), hb⟩
  | fed d _ hl => rw [newEvents_snoc s _ _ hl] at h; simp at h
  | timeout t _ hl => rw [newEvents_snoc s _ _ hl] at h; simp at h
  | emptied t _ hl => rw [newEvents_snoc s _ _ hl] at h; simp at h
  | closed _ hl => rw [newEvents_snoc s _ _ hl] at h; simp at h

/-- **Empty result ⇒ closed and drained**, for every schedule prefix `pre` and every next action `a`. -/
theorem read_empty_only_closed_drained (pre : List Act) (a : Act) (tid : Nat)
    (hok : ∀ x ∈ pre ++ [a], x.sizeOk)
    (h : Ev.got tid (.data []) ∈ newEvents (run init pre) (step (run init pre) a)) :
    (run init pre).closed = true ∧ (run init pre).buf = [] := by
  have hw : WaitersOk (run init pre) :=
    waitersOk_run true init pre (by intro w hw; simp [init] at hw) (fun x hx => hok x (by simp [hx]))
  exact read_empty_step _ a tid hw (hok a (by simp)) h

/-- conversely, once closed and drained every `read` returns the empty string at once (any size, any timeout) -/
theorem closed_drained_read_returns_empty (s : St) (tid n : Nat) (t : Option Int)
    (hc : s.closed = true) (hb : s.buf = []) (hw : isWaiting s tid = false) :
    newEvents s (step s (.read tid n t)) = [.got tid (.data [])] ∧ (step s (.read tid n t)).buf = [] := by
  simp [step, stepG, hw, hb, hc, newEvents]

/-- a parked reader is released with the empty string by `close` + wake-up (no timeout needed) -/
theorem closed_drained_wake_returns_empty (s : St) (w : Waiter) (e : Int)
    (hf : findWaiter s w.tid = some w) (hc : s.closed = true) (hb : s.buf = []) (hn : ¬ isExpired (w.timeout.map (· - e)) = true) :
    newEvents s (step s (.wake w.tid e)) = [.got w.tid (.data [])] := by
  simp only [step, stepG, hf]
  apply newEvents_snoc
  unfold wakeWith
  simp [hn, hb, hc, deliver_log]

/-! ## timeouts -/

/-- **A timeout is raised only if no data was available, and it leaves the buffer untouched** (which is empty:
nothing that was fed before the raise is lost — see `fifo`).  Any state, any action. -/
theorem timeout_only_without_data (s : St) (a : Act) (tid : Nat)
    (h : Ev.got tid .timeout ∈ newEvents s (step s a)) :
    s.buf = [] ∧ s.closed = false ∧ (step s a).buf = s.buf := by
  unfold step at h ⊢
  cases stepG_effect true s a with
  | silent _ hl => rw [newEvents, hl, List.drop_length] at h; cases h
  | timeout t _ _ hb he => exact ⟨(he rfl).1, (he rfl).2, hb⟩
  | data t n _ hl => rw [newEvents_snoc s _ _ hl] at h; simp at h
  | fed d _ hl => rw [newEvents_snoc s _ _ hl] at h; simp at h
  | emptied t _ hl => rw [newEvents_snoc s _ _ hl] at h; simp at h
  | closed _ hl => rw [newEvents_snoc s _ _ hl] at h; simp at h

/-- **Deadline clause.**  A parked reader whose wait ends while data is buffered gets that data — also when the
wake-up comes at or after its deadline (`elapsed ≥ remaining`).  This is the clause that was false before
`fix: BufferedPipe.read …` (see `deadline_witness_before_fix`). -/
theorem wake_with_data_delivers (s : St) (w : Waiter) (e : Int)
    (hf : findWaiter s w.tid = some w) (hb : s.buf ≠ []) :
    newEvents s (step s (.wake w.tid e)) = [.got w.tid (.data (s.buf.take w.n))] := by
  simp only [step, stepG, hf]
  have hne : s.buf.isEmpty = false := by simpa using hb
  apply newEvents_snoc
  unfold wakeWith
  simp only [hne]
  split <;> simp [deliver_log]

/-- the code before the fix: reader 1 waits with 5 ticks left, `feed(b"A")` arrives, the wait returns with
`elapsed = 5 ≥ remaining`: PipeTimeout is raised although `A` is buffered. -/
theorem deadline_witness_before_fix :
    let s := runG false init [.read 1 10 (some 5), .feed [65], .wake 1 5]
    s.log = [.fed [65], .got 1 .timeout] ∧ s.buf = [65] := by decide

/-- the same schedule on the current code -/
theorem deadline_witness_after_fix :
    (run init [.read 1 10 (some 5), .feed [65], .wake 1 5]).log = [.fed [65], .got 1 (.data [65])] := by decide

/-! ## empty() -/

/-- `empty()` returns the whole buffer and leaves it empty -/
theorem empty_returns_everything (s : St) (tid : Nat) (hw : isWaiting s tid = false) :
    newEvents s (step s (.empty tid)) = [.emptied tid s.buf] ∧ (step s (.empty tid)).buf = [] := by
  simp [step, stepG, hw, newEvents]

/-! ## the attached event (what `Channel.fileno()` hangs the descriptor on) -/

/-- **Event tracks the buffer.**  Once an event is attached (`set_event`, as `fileno()` does), at every lock-free
point of every schedule: `event.is_set()` ⇔ the pipe is closed or holds data.  (True since `feed` leaves the event
alone for empty data; before that fix an empty feed broke it — C24's `empty_feed_witness`.) -/
theorem event_tracks_buffer (acts : List Act) (b : Bool) (h : (run init acts).event = some b) :
    b = ((run init acts).closed || !(run init acts).buf.isEmpty) :=
  evOk_run true init acts (by intro b hb; simp [init] at hb) b h

/-- the same from the moment of attachment on, whatever happened before -/
theorem event_tracks_buffer_after_set_event (s : St) (acts : List Act) (b : Bool)
    (h : (run (step s .setEvent) acts).event = some b) :
    b = ((run (step s .setEvent) acts).closed || !(run (step s .setEvent) acts).buf.isEmpty) :=
  evOk_run true _ acts (by intro b hb; simp [step, stepG] at hb; subst hb; simp [step, stepG]) b h

-- an event is really attached and really toggles: set by data, cleared by the draining read, set for good by close
example :
    ((run init [.setEvent, .feed [1, 2]]).event, (run init [.setEvent, .feed [1, 2], .read 1 5 none]).event,
      (run init [.setEvent, .feed [], .close, .read 1 5 none]).event) = (some true, some false, some true) := by decide

/-! ## non-vacuity -/

-- three threads: reader 1 parks, reader 2 parks with a deadline, feed, partial read by 2, the rest by `empty`, close,
-- reader 1 released with the empty string
example :
    let s := run init [.read 1 4 none, .read 2 2 (some 7), .feed [1, 2, 3], .wake 2 3, .empty 3, .close, .wake 1 0]
    s.log = [.fed [1, 2, 3], .got 2 (.data [1, 2]), .emptied 3 [3], .closedEv, .got 1 (.data [])] ∧
      takenOf s.log = [1, 2, 3] ∧ s.buf = [] := by decide

example : WaitersOk (run init [.read 1 4 none, .read 2 2 (some 7)]) := by
  intro w hw
  simp [run, step, stepG, init, isWaiting] at hw
  rcases hw with h | h <;> subst h <;> decide

-- a timeout that really occurs (nonblocking read on an empty open pipe), and an expiry with nothing buffered
example : (run init [.read 1 4 (some 0)]).log = [.got 1 .timeout] := by decide
example : (run init [.read 1 4 (some 5), .wake 1 9]).log = [.got 1 .timeout] := by decide

end PV.Props.C26
