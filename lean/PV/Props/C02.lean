/-
  C02 — Tampered encrypted traffic is never accepted as different data.
  Same model as C01 (PV/Model/Packet.lean) with an ARBITRARY byte string as the wire.
  Helpers: PV/Model/PacketAuth.lean (inversion of the receive paths), PacketEpoch.lean (membership form of the
  no-forgery hypothesis within one key epoch), PacketTrunc.lean (prefixes of a stream).  PARTIAL: unforgeability of the MAC / AEAD tag is the explicit hypothesis
  `hNoForge` of `prefix_of_sent_partial`; what is proved outright is that every delivery is preceded by a
  comparison of the complete tag over (sequence number ‖ length ‖ whole body).
-/
import PV.Model.PacketEpoch
import PV.Model.PacketTrunc
import PV.Generated.C03
namespace PV.Props.C02
open PV PV.Packet

/-- `util.constant_time_bytes_eq` accepts exactly equal byte strings (length test and every byte) -/
theorem tag_compare_is_equality (a b : Bytes) : ctEq a b = true ↔ a = b := ctEq_iff a b

example : ctEq [1, 2, 3, 4] [1, 2, 3] = false ∧ ctEq [1, 2, 3, 4] [1, 2, 3, 5] = false ∧ ctEq [1, 2] [1, 2] = true := by
  decide

/-- in the source (AST of `read_message`, regenerated on every run) each "Mismatched MAC" comparison is nested under
exactly one `if` — the test selecting the receive path (`self.__etm_in`, resp. `mac_size_in > 0 and not etm and not
aead`) — and never under a condition on the packet length; the model's branches (`readEtm`, `readClassic`) have the
same shape, so `accept_checks_tag_*` below hold for EVERY value of the length field -/
theorem mac_check_not_under_length_condition_generated :
    PV.Generated.C03.read_etm_mac_guard_depth = 1 ∧ PV.Generated.C03.read_classic_mac_guard_depth = 1 ∧
    PV.Generated.C03.read_mac_guards_are_the_mode_tests = true := by
  decide

/-- what the source MACs (AST of `compute_hmac`, `send_message`, `read_message`, regenerated on every run):
`compute_hmac` is ONE `HMAC(key, message, digest_class).digest()` over its whole `message` argument, the sender passes
`seqno ‖ (out | packet)` and both receive paths pass `seqno ‖ packet_size ‖ packet` — the complete packet, never a slice
or a prefix of it.  This is what `p.mac mk (be32 seq ++ …)` in the model (sender `encrypt`, receiver `readEtm` /
`readClassic`) stands for, for packets of every length. -/
theorem mac_covers_whole_packet_generated :
    PV.Generated.C03.compute_hmac_one_shot_over_whole_message = true ∧
    PV.Generated.C03.send_mac_input_is_seq_and_whole_packet = true ∧
    PV.Generated.C03.read_mac_input_is_seq_len_and_whole_packet = true := by
  decide

/-- **A rejection is final.** In the model a failed `read_message` leaves no receiver state behind (`Res.err`), so
`recvAll` delivers nothing after the first failure: the delivered list is exactly what was delivered before it. -/
theorem failure_is_absorbing {p : Prims} (r : Receiver p) (d rnd : Bytes) (ops : List (Op p)) (buf : Bytes) (e : Err)
    (h : runBuf (readMessage r) buf = .err e) :
    (recvAll r (.msg d rnd :: ops) buf).msgs = [] ∧ (recvAll r (.msg d rnd :: ops) buf).stop = some e := by
  simp only [recvAll, h, and_self]

/-- … and the real receiver has no state in which it could resynchronise behind a rejected packet (AST of
`class Packetizer`, regenerated on every run): the inbound sequence counter is written by `__init__`, `reset_seqno_in`
and ONE assignment in `read_message`, and that assignment comes after both "Mismatched MAC" checks and the AEAD
`decrypt` in statement order — a packet that fails authentication does not consume its sequence number, so every packet
behind it fails too (the oracle keeps reading after the first rejection and checks exactly that). -/
theorem seqno_stepped_only_after_authentication_generated :
    PV.Generated.C03.read_seqno_in_stepped_after_authentication = true ∧
    PV.Generated.C03.seqno_in_writers_are_init_reset_read = true := by
  decide

/-- **encrypt-then-MAC.** Whatever the bytes `buf` are: if `read_message` delivers, then `buf` starts with
`hdr ‖ more ‖ tag` where `hdr ‖ more` is the length field and the complete ciphertext body it announces, `tag` has
the full MAC length and *equals* `mac(key, seq_in ‖ hdr ‖ more)[:macLen]`; the message carries `seq_in`. -/
theorem accept_checks_tag_etm {p : Prims} (r : Receiver p) (st : p.CSt) (mk : p.MKey) (hc : r.ciph = .etm st mk)
    (buf rest : Bytes) (o : RecvOut p) (h : runBuf (readMessage r) buf = .ok o rest) :
    ∃ hdr more tag, buf = hdr ++ more ++ tag ++ rest ∧ hdr.length = r.block ∧ 4 ≤ hdr.length ∧
      (more.length : Int) = max ((beVal (hdr.take 4) : Int) - r.block + 4) 0 ∧
      tag.length = r.macLen ∧ tag = (p.mac mk (be32 r.seq ++ (hdr ++ more))).take r.macLen ∧
      o.auth = some ⟨r.seq, [], hdr ++ more⟩ ∧ o.msg.seqno = r.seq := by
  obtain ⟨hdr, y, rfl, hhl, h⟩ := readMessage_ok_inv h
  rw [hc] at h
  obtain ⟨h4, more, tag, rfl, htl, hml, htag, hf⟩ := readEtm_ok_inv h
  obtain ⟨ha, -, -, hsq, -⟩ := finish_ok_inv hf
  exact ⟨hdr, more, tag, by simp only [List.append_assoc], hhl, h4, hml, htl, htag, ha, hsq⟩

/-- **classic (MAC over the plaintext).** If `read_message` delivers with a MAC configured, then `buf` starts with
`hdr ‖ c1 ‖ tag`, the blocking test passed, and the first `macLen` bytes of `tag` *equal*
`mac(key, seq_in ‖ Dec(hdr) ‖ Dec(c1))[:macLen]` — the whole decrypted packet including its length field. -/
theorem accept_checks_tag_classic {p : Prims} (r : Receiver p) (st : p.CSt) (mk : p.MKey)
    (hc : r.ciph = .classic st mk) (hm : 0 < r.macLen)
    (buf rest : Bytes) (o : RecvOut p) (h : runBuf (readMessage r) buf = .ok o rest) :
    ∃ hdr c1 tag, buf = hdr ++ c1 ++ tag ++ rest ∧ hdr.length = r.block ∧
      badBlocking (beVal ((p.dec st hdr).2.take 4)) ((p.dec st hdr).2.drop 4).length r.block = false ∧
      tag.take r.macLen
        = (p.mac mk (be32 r.seq ++ ((p.dec st hdr).2 ++ (p.dec (p.dec st hdr).1 c1).2))).take r.macLen ∧
      o.auth = some ⟨r.seq, [], (p.dec st hdr).2 ++ (p.dec (p.dec st hdr).1 c1).2⟩ ∧ o.msg.seqno = r.seq := by
  obtain ⟨hdr, y, rfl, hhl, h⟩ := readMessage_ok_inv h
  rw [hc] at h
  obtain ⟨-, hbb, c1, tag, rfl, -, -, htag, hf⟩ := readClassic_ok_inv h hm
  obtain ⟨ha, -, -, hsq, -⟩ := finish_ok_inv hf
  exact ⟨hdr, c1, tag, by simp only [List.append_assoc], hhl, hbb, htag, ha, hsq⟩

/-- **AES-GCM.** If `read_message` delivers, then `buf` starts with `hdr ‖ more`, and the AEAD `decrypt` with the
receiver's current nonce accepted `ciphertext ‖ tag = hdr[4:] ‖ more` with the length field as associated data. -/
theorem accept_checks_tag_aead {p : Prims} (r : Receiver p) (k : p.AKey) (iv : Bytes) (hc : r.ciph = .aead k iv)
    (buf rest : Bytes) (o : RecvOut p) (h : runBuf (readMessage r) buf = .ok o rest) :
    ∃ hdr more plain, buf = hdr ++ more ++ rest ∧ hdr.length = r.block ∧
      p.adec k iv (hdr.drop 4 ++ more) (hdr.take 4) = some plain ∧
      o.auth = some ⟨r.seq, iv, hdr ++ more⟩ ∧ o.msg.seqno = r.seq := by
  obtain ⟨hdr, y, rfl, hhl, h⟩ := readMessage_ok_inv h
  rw [hc] at h
  obtain ⟨-, more, plain, iv', rfl, hd, -, hf⟩ := readAead_ok_inv h
  obtain ⟨ha, -, -, hsq, -⟩ := finish_ok_inv hf
  exact ⟨hdr, more, plain, by simp only [List.append_assoc], hhl, hd, ha, hsq⟩

/-- **Delivered ⊑ sent (partial: no-forgery is a hypothesis).**
Sender and receiver keyed alike with an authenticating configuration (not "no cipher", classic with a non-empty
MAC), the sender put `ops` on the wire, the adversary hands the receiver ANY byte string `w`.  If — `hNoForge` —
every record the receiver's verifications accepted is the record the sender authenticated at the same position
(sequence number / nonce and the complete authenticated bytes), then the messages delivered are a prefix of the
messages sent (same type, payload, sequence number), and the receiver either stopped with an error / end of
data or delivered all of them.  FULL statement (not provable: it is a cryptographic property of HMAC / GCM, not
of paramiko): the same without `hNoForge`. -/
theorem prefix_of_sent_partial {p : Prims} (W : Laws p) (Bj : CipherBij p W.blk W.Paired) (ops : List (Op p))
    (s : Sender p) (r : Receiver p) (hp : PairedSt W s r) (hA : AuthCfg r.ciph r.macLen)
    (hok : ∀ op ∈ ops, OpOk W op ∧ OpAuth op)
    (s' : Sender p) (wire : Bytes) (log : List Auth) (hs : sendAll s ops = .ok (s', wire, log)) (w : Bytes)
    (hNoForge : ∀ (k : Nat) (e : Auth), (recvAll r ops w).auths[k]? = some e → log[k]? = some e) :
    (recvAll r ops w).msgs <+: msgsOf s.seq ops ∧
    ((∃ e, (recvAll r ops w).stop = some e) ∨ (recvAll r ops w).msgs = msgsOf s.seq ops) := by
  obtain ⟨h1, h2⟩ := prefix_seq W Bj ops s r hp hA hok s' wire log hs w hNoForge
  refine ⟨h1, ?_⟩
  cases hst : (recvAll r ops w).stop with
  | none => exact Or.inr (h2 hst)
  | some e => exact Or.inl ⟨e, rfl⟩

/-- **Set-membership form of the hypothesis** for one key epoch of a MAC mode (classic with a MAC, or
encrypt-then-MAC), message-only histories of at most 2^32 packets: it is enough that every record the receiver's
verifications accept was authenticated by the sender *at some time* (`hMem`, the usual shape of MAC
unforgeability).  Because the sequence number is part of every authenticated record (`accept_checks_tag_*`) and
numbers do not repeat within 2^32 packets, replayed, reordered or dropped packets then cannot verify, and the
delivered messages are a prefix of the sent ones. -/
theorem prefix_of_sent_membership_partial {p : Prims} (W : Laws p) (Bj : CipherBij p W.blk W.Paired)
    (ops : List (Op p)) (s : Sender p) (r : Receiver p) (hp : PairedSt W s r)
    (hm : MacModeIn r.ciph r.macLen) (hmo : MsgOnly ops) (hlen : ops.length ≤ 4294967296)
    (hlt : s.seq < 4294967296)
    (s' : Sender p) (wire : Bytes) (log : List Auth) (hs : sendAll s ops = .ok (s', wire, log)) (w : Bytes)
    (hMem : ∀ e ∈ (recvAll r ops w).auths, e ∈ log) :
    (recvAll r ops w).msgs <+: msgsOf s.seq ops ∧
    ((∃ e, (recvAll r ops w).stop = some e) ∨ (recvAll r ops w).msgs = msgsOf s.seq ops) := by
  have hA := hm.authCfg
  have hok : ∀ op ∈ ops, OpOk W op ∧ OpAuth op := by
    intro op hop
    obtain ⟨d, rnd, rfl⟩ := hmo op hop
    exact ⟨trivial, trivial⟩
  exact prefix_of_sent_partial W Bj ops s r hp hA hok s' wire log hs w
    (positional_of_membership W ops s r hp hA hmo hlen hlt s' wire log hs w hMem)

/-- **Truncation, unconditionally** (no cryptographic hypothesis): a receiver that is handed only the first `k`
bytes of the honest stream — the tail was deleted, or has not arrived yet — delivers a prefix of the sent messages
and then has either finished or stopped with EOF (it waits for more data); it never fails differently and never
delivers anything else.  Every history, every `k`. -/
theorem truncated_stream_prefix {p : Prims} (W : Laws p) (ops : List (Op p)) (s : Sender p) (r : Receiver p)
    (hp : PairedSt W s r) (hok : ∀ op ∈ ops, OpOk W op)
    (s' : Sender p) (wire : Bytes) (log : List Auth) (hs : sendAll s ops = .ok (s', wire, log))
    (t : Bytes) (k : Nat) :
    (recvAll r ops ((wire ++ t).take k)).msgs <+: msgsOf s.seq ops ∧
    ((recvAll r ops ((wire ++ t).take k)).stop = none ∨ (recvAll r ops ((wire ++ t).take k)).stop = some .eof) :=
  truncated_seq W ops s r hp hok s' wire log hs t k

/-- `hNoForge` is satisfiable: on the untampered wire (followed by anything) the receiver verifies exactly the
sender's records -/
theorem honest_stream_satisfies_noforge {p : Prims} (W : Laws p) (ops : List (Op p)) (s : Sender p) (r : Receiver p)
    (hp : PairedSt W s r) (hok : ∀ op ∈ ops, OpOk W op)
    (s' : Sender p) (wire : Bytes) (log : List Auth) (hs : sendAll s ops = .ok (s', wire, log)) (t : Bytes) :
    (recvAll r ops (wire ++ t)).auths = log :=
  (roundtrip_seq W ops s r hp hok s' wire log hs t).2.2.2.1

/-! ## non-vacuity: toy primitives, an authenticating configuration, a tampered stream -/

def toyLaws : Laws toyPrims where
  blk := fun st => 8 * (st.1 % 4 + 1)
  Paired := toyPaired
  ZPaired := fun a b => a = b
  tagLen := 16
  ciph := toyCipherLaws _ (fun _ _ => rfl)
  aead := toyAeadLaws
  comp := toyCompLaws

private def exS : Sender toyPrims := { block := 16, macLen := 12, ciph := .etm (1, 0) [7, 7], seq := 3, kexDone := true }
private def exR : Receiver toyPrims := { block := 16, macLen := 12, ciph := .etm (1, 0) [7, 7], seq := 3, kexDone := true }
private def exOps : List (Op toyPrims) := [.msg [20, 1, 2] [], .msg [21] [9], .msg [22, 5] []]

example : PairedSt toyLaws exS exR ∧ AuthCfg exR.ciph exR.macLen ∧ CipherBij toyPrims toyLaws.blk toyLaws.Paired ∧
    (∃ res, sendAll exS exOps = .ok res) :=
  ⟨⟨rfl, rfl, rfl, rfl, by decide, ⟨rfl, rfl, rfl, toyMacOk _ _ (by decide)⟩, trivial⟩, trivial,
   toyCipherBij _, ⟨_, rfl⟩⟩

/-- flip one bit in the second packet of the toy stream: the model delivers the first message only and stops with
`macMismatch`; dropping the second packet's last byte instead makes it wait (`eof`) -/
example : (match sendAll exS exOps with
    | .ok (_, w, _) =>
      let flipped := w.take 40 ++ [(w.getD 40 0) ^^^ 1] ++ w.drop 41
      let l := recvAll exR exOps flipped
      let l2 := recvAll exR exOps (w.take 50)
      (l.msgs.map (fun m => (m.cmd, m.seqno)), l.stop, l2.msgs.map (fun m => (m.cmd, m.seqno)), l2.stop)
    | .error _ => ([], none, [], none)) = ([(20, 3)], some .macMismatch, [(20, 3)], some .eof) := by
  decide +kernel

end PV.Props.C02
