/-
  C28 — Prefetched and vectored SFTP reads return exactly the file's bytes.
  Model: PV/Model/Prefetch.lean (reader, prefetch threads, short-reading server; one
  action = one atomic region; `run s acts` = the state after the schedule `acts`, any length, any interleaving).
  Invariant proofs: PV/Model/PrefetchInv.lean (content), PV/Model/PrefetchLive.lean (everything a waiting party depends
  on is in flight), PV/Model/PrefetchUniq.lean (request numbers are fresh and in flight at most once),
  PV/Model/PrefetchCtx.lean (a running read keeps its start and size).
-/
import PV.Model.PrefetchUniq
import PV.Model.PrefetchCtx
import PV.Generated.C28
namespace PV.Props.C28
open PV PV.Prefetch

/-- Every prefetch buffer holds true file content at its offset — after any schedule of any operations
    (any chunk lists: overlapping, unordered, beyond EOF; any caps; any short reads `serve k`; failing requests;
    unbuffered or buffered file, `bufsize`). -/
theorem buffers_hold_file_content (file : Bytes) (maxReq : Nat) (hm : 0 < maxReq) (bufsize : Nat) (acts : List Act) :
    ∀ e ∈ (run (init file maxReq bufsize) acts).bufs, e.2 = slice file e.1 e.2.length := by
  intro e he
  have := (run_ok (init_ok file maxReq hm bufsize) acts).1.base.bufs e he
  rw [run_file] at this
  exact this

/-- **Reads are exact.**  Every completed `read(n)` that was issued at file position `p` (`_pos`: read-ahead in
    `_rbuffer` accounted for) returned `file[p : p+n]` (Python slicing: truncated at end of file), and every
    completed `read()` returned `file[p:]` — for every schedule, every program of prefetch/readv/seek/read, every
    cap, every short-read choice, failing requests, unbuffered and buffered files. -/
theorem reads_exact (file : Bytes) (maxReq : Nat) (hm : 0 < maxReq) (bufsize : Nat) (acts : List Act) :
    ∀ e ∈ (run (init file maxReq bufsize) acts).out,
      e.2.2 = (match e.2.1 with | some n => slice file e.1 n | none => file.drop e.1) := by
  intro e he
  have := (run_ok (init_ok file maxReq hm bufsize) acts).1.base.out e he
  rw [run_file] at this
  exact this

/-- The read-ahead bookkeeping of BufferedFile: after any schedule `_rbuffer` holds the file's bytes at `_pos`, and
    between calls `_realpos = _pos + len(_rbuffer)`. -/
theorem read_ahead_consistent (file : Bytes) (maxReq : Nat) (hm : 0 < maxReq) (bufsize : Nat) (acts : List Act) :
    RbOK (run (init file maxReq bufsize) acts) :=
  (run_ok (init_ok file maxReq hm bufsize) acts).2

/-- **readv blocks are exact** (with `reads_exact`): one step of readv's final loop — `seek(off); read(n)`, the
    model's `readAt off n` — starts a read at exactly `off` whatever read-ahead was buffered before (or has already
    completed it: the new `out` entry is for `(off, n)`), -/
theorem readv_block_starts_at_its_offset (s s' : St) (off : Nat) (want : Option Nat)
    (h : step s (.rOp (.readAt off want)) = some s') : Continues off want s s' := by
  cases step_sound h with
  | readAt => exact advance_continues _ _ _

/-- …and a running read keeps its start position and requested size through every later step of the reader until
    it completes (its entry in `out` is `(start, want, bytes)`, and `reads_exact` says `bytes = file[start :
    start+want]`) or raises. -/
theorem running_read_keeps_its_start (s s' : St) (c : RCtx) (hc : pcCtx s.pc = some c)
    (h : step s .rStep = some s') : Continues c.start c.want s s' :=
  rStep_continues hc (step_sound h)

/-- non-vacuity (read-ahead): a buffered file (`bufsize` 4) reads 1 byte — 4 are fetched, 3 stay in `_rbuffer`,
    `_pos` = 1, `_realpos` = 4 — and a readv block that starts exactly where the read-ahead ended (offset 4 =
    `_realpos`) still returns file[4:6], not the buffered bytes at `_pos`. -/
example :
    let s := run (init [10, 11, 12, 13, 14, 15, 16, 17] 8 4)
      [.rOp (.read (some 1)), .rStep, .rStep, .serve 4, .rStep]
    s.out = [(0, some 1, [10])] ∧ s.pos = 1 ∧ s.rbuf = [11, 12, 13] ∧ s.realpos = 4 ∧
    (run s [.rOp (.readAt 4 (some 2)), .rStep, .rStep, .serve 2, .rStep]).out
      = [(0, some 1, [10]), (4, some 2, [14, 15])] := by decide

/-- the theorem instantiated at paramiko's real request size (generated from the source) -/
theorem reads_exact_paramiko (file : Bytes) (bufsize : Nat) (acts : List Act) :
    ∀ e ∈ (run (init file PV.Generated.C28.maxRequestSize bufsize) acts).out,
      e.2.2 = (match e.2.1 with | some n => slice file e.1 n | none => file.drop e.1) :=
  reads_exact file _ (by decide) bufsize acts

/-- non-vacuity: a concrete schedule in which a capped readv with a beyond-EOF chunk first (the input that hung
    before the fix) completes both reads with the right bytes. -/
example :
    (run (init [10, 11, 12, 13, 14, 15, 16, 17] 4)
      [.rOp (.readv [(20, 3), (2, 3)] (some 1)), .tCheck 0, .tAlloc 0, .tSend 0, .tReg 0, .serve 3,
       .rOp (.seek 20), .rOp (.read (some 3)), .rStep, .rStep, .rStep, .rStep, .serve 3, .rStep,
       .rOp (.seek 2), .rOp (.read (some 3)), .rStep, .rStep, .serve 2, .rStep, .rStep, .rStep, .serve 9, .rStep]).out
      = [(20, some 3, []), (2, some 3, [12, 13, 14])] := by decide


/-! ## no hang -/

/-- Request numbers are never reused while in flight.  The model's allocation step (`tAlloc`, `allocSync`) takes a
    fresh number *and* makes it the id of the packet in one atomic action; that this is what the code does is read
    from the AST of `SFTPClient._async_request` on every run (`idReadUnderLock`: every use of `self.request_number`
    — the id written into the message, the registration in `_expecting`, the increment — lies inside the
    `self._lock` region) and is part of this theorem.  Then, after any schedule: every request number occurs at most
    once among the requests on the wire, the queued responses and the response being dispatched; a registered
    extent is keyed by the number of a request that is still in flight; and an answer whose extent is not registered
    yet belongs to a prefetch thread that is between "packet sent" and "extent registered". -/
theorem request_numbers_unique (file : Bytes) (maxReq bufsize : Nat) (acts : List Act) (hcaps : ∀ a ∈ acts, actOK a) :
    PV.Generated.C28.idReadUnderLock = true ∧
    Live (run (init file maxReq bufsize) acts) ∧ Uniq (run (init file maxReq bufsize) acts) :=
  ⟨by decide, run_live_uniq (init_live file maxReq bufsize) (init_uniq file maxReq bufsize) acts hcaps⟩

/-- The model's locked regions (`tCheck`, `tReg`, the locked part of `_async_response`) are single atomic actions that
    never wait for the lock themselves; that the code does not ask for `_prefetch_lock` — a plain, non-re-entrant
    `threading.Lock` — while holding it (no `with self._prefetch_lock:` block calls its own method or another one
    that takes the lock) is read from the AST of `SFTPFile` on every run.  The no-hang theorems below stand on it. -/
theorem prefetch_lock_never_reentered : PV.Generated.C28.prefetchLockNotReentered = true := by decide

/-- **A blocked reader is never stuck.**  After any schedule of any program whose caps are `None` or ≥ 1: whenever
    the reader cannot take its next step — it waits for a response packet (inside `_read_prefetch` or inside a
    synchronous read) and none is queued, **or** it spins in `_async_response` because the answer in hand arrived
    before `_prefetch_thread` registered its extent — some other task (the server or a prefetch thread) is enabled.
    Before the fix this failed: a STATUS answer left its extent behind, so with nothing in flight the reader
    waited and a capped prefetch thread spun. -/
theorem waiting_reader_not_stuck (file : Bytes) (maxReq bufsize : Nat) (acts : List Act)
    (hcaps : ∀ a ∈ acts, actOK a) (hb : ReaderBlocked (run (init file maxReq bufsize) acts)) :
    ∃ a, nonReader a ∧ (step (run (init file maxReq bufsize) acts) a).isSome = true := by
  obtain ⟨hl, hu⟩ := run_live_uniq (init_live file maxReq bufsize) (init_uniq file maxReq bufsize) acts hcaps
  exact blocked_not_stuck hl hu hb

/-- The other tasks cannot keep running for ever without the reader: every non-reader action strictly decreases
    the measure `mu` (7 per chunk still to be requested, 2 per request on the wire, 1 per queued response). -/
theorem nonreader_actions_decrease_measure (s s' : St) (a : Act) (hn : nonReader a) (h : step s a = some s') :
    mu s' < mu s :=
  nonReader_step_decreases hn h

/-- **Bounded wait.**  From any reachable state, let the server and the prefetch threads run (any interleaving,
    every action enabled when taken): that takes at most `mu` steps, and once none of them can move the reader is
    not blocked — so under any fair schedule a blocked reader proceeds. -/
theorem bounded_wait (file : Bytes) (maxReq bufsize : Nat) (acts : List Act) (hcaps : ∀ a ∈ acts, actOK a)
    (others : List Act) (ho : ∀ a ∈ others, nonReader a) (s' : St)
    (hrun : runStrict (run (init file maxReq bufsize) acts) others = some s') :
    others.length ≤ mu (run (init file maxReq bufsize) acts) ∧
    ((∀ a, nonReader a → step s' a = none) → ¬ ReaderBlocked s') := by
  constructor
  · have := nonReader_run_bounded ho hrun
    omega
  · intro hnone hb
    obtain ⟨hl0, hu0⟩ := run_live_uniq (init_live file maxReq bufsize) (init_uniq file maxReq bufsize) acts hcaps
    obtain ⟨hl, hu⟩ := runStrict_live_uniq hl0 hu0 (fun a ha => nonReader_actOK (ho a ha)) hrun
    obtain ⟨a, ha, hen⟩ := blocked_not_stuck hl hu hb
    rw [hnone a ha] at hen
    cases hen

/-- **cap = 0** (`max_concurrent_requests=0`, outside the property's range None, 1..8 and excluded by `actOK`): the
    code's test `len(self._prefetch_extents) < 0` never holds, so the prefetch thread never sends anything while
    `_start_prefetch` has cleared `_prefetch_done`: the first read outside the buffers waits for a response with
    nothing outstanding and nothing enabled.  The model does exactly that (and so does the real code: the lockstep
    run replays this case every time). -/
theorem cap_zero_starves_witness :
    let s := run (init [1, 2, 3, 4, 5, 6, 7, 8] 4) [.rOp (.readv [(2, 3)] (some 0)), .rOp (.seek 2), .rOp (.read (some 3))]
    ReaderBlocked s ∧ (step s (.serve 1)).isSome = false ∧ (step s (.tCheck 0)).isSome = false ∧
    (step s (.tAlloc 0)).isSome = false ∧ (step s (.tSend 0)).isSome = false ∧ (step s (.tReg 0)).isSome = false := by
  refine ⟨⟨by decide, by decide⟩, by decide, by decide, by decide, by decide, by decide⟩

/-- non-vacuity: a reachable state in which the reader does wait for a response (capped readv, first chunk beyond
    EOF, nothing answered yet), and the enabled peer the theorem promises. -/
example :
    ReaderBlocked (run (init [1, 2, 3, 4, 5, 6, 7, 8] 4)
      [.rOp (.readv [(20, 3), (2, 3)] (some 1)), .tCheck 0, .tAlloc 0, .tSend 0, .tReg 0,
       .rOp (.seek 20), .rOp (.read (some 3))]) ∧
    (step (run (init [1, 2, 3, 4, 5, 6, 7, 8] 4)
      [.rOp (.readv [(20, 3), (2, 3)] (some 1)), .tCheck 0, .tAlloc 0, .tSend 0, .tReg 0,
       .rOp (.seek 20), .rOp (.read (some 3))]) (.serve 1)).isSome = true := by
  refine ⟨⟨by decide, by decide⟩, by decide⟩

/-- non-vacuity of the spin case: the answer is in the reader's hands (`dispPf`) while the thread has sent the
    request but not registered the extent; the reader is blocked and `tReg` is the enabled peer. -/
example :
    ReaderBlocked (run (init [1, 2, 3, 4, 5, 6, 7, 8] 4)
      [.rOp (.readv [(2, 3)] none), .tCheck 0, .tAlloc 0, .tSend 0, .serve 3, .rOp (.seek 2), .rOp (.read (some 3)),
       .rStep]) ∧
    (step (run (init [1, 2, 3, 4, 5, 6, 7, 8] 4)
      [.rOp (.readv [(2, 3)] none), .tCheck 0, .tAlloc 0, .tSend 0, .serve 3, .rOp (.seek 2), .rOp (.read (some 3)),
       .rStep]) (.tReg 0)).isSome = true := by
  refine ⟨⟨by decide, by decide⟩, by decide⟩

end PV.Props.C28
