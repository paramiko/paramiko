/-
  C41 — Known-hosts lookup, save and reload agree and loading is idempotent.
  Property theorems only.  Model: PV/Model/HostKeys.lean (`load` as repaired by 8a3539b and 0e23192).
  HMAC-SHA1 is a parameter (`Prims.hmac`); every theorem holds for every such function.
-/
import PV.Model.HostKeys
namespace PV.Props.C41
open PV PV.HostKeys

/-! ## lookup / check: exactly the entries that list the name, first entry per key type -/

/-- a listed name matches the looked-up name literally, or as its hash -/
theorem nameMatches_iff (p : Prims) (h q : Name) :
    nameMatches p h q = true ↔ h = q ∨ ∃ salt mac s, h = .hashed salt mac ∧ q = .plain s ∧ p.hmac salt s = mac := by
  unfold nameMatches
  cases h with
  | plain a =>
    cases q with
    | plain b => simp
    | hashed s m => simp
  | hashed salt mac =>
    cases q with
    | plain s => simp; exact eq_comm
    | hashed s m => simp

theorem nameMatches_refl (p : Prims) (h : Name) : nameMatches p h h = true := by simp [nameMatches]

/-- a hashed name being looked up only matches itself -/
theorem nameMatches_hashed_query (p : Prims) (h : Name) (salt mac : Bytes) :
    nameMatches p h (.hashed salt mac) = true ↔ h = .hashed salt mac := by
  rw [nameMatches_iff]; simp

/-- **`lookup` returns exactly the entries that list the name (plain, or hashed form), in table order.** -/
theorem mem_lookup (p : Prims) (t : Table) (q : Name) (e : Entry) :
    e ∈ lookup p t q ↔ e ∈ t ∧ ∃ h ∈ e.names, nameMatches p h q = true := by
  simp [lookup, hostnameMatches]

theorem lookup_sublist (p : Prims) (t : Table) (q : Name) : (lookup p t q).Sublist t := List.filter_sublist

/-- **The first entry per key type takes effect.** -/
theorem subGet_eq_some (es : List Entry) (ty : String) (k : Key) :
    subGet es ty = some k ↔
      ∃ pre e post, es = pre ++ e :: post ∧ e.key = k ∧ e.key.type = ty ∧ ∀ e' ∈ pre, e'.key.type ≠ ty := by
  simp only [subGet, Option.map_eq_some_iff, List.find?_eq_some_iff_append, beq_iff_eq, Bool.not_eq_true',
    beq_eq_false_iff_ne, ne_eq]
  constructor
  · rintro ⟨e, ⟨hty, pre, post, hes, hpre⟩, hk⟩
    exact ⟨pre, e, post, hes, hk, hty, hpre⟩
  · rintro ⟨pre, e, post, hes, hk, hty, hpre⟩
    exact ⟨e, ⟨hty, pre, post, hes, hpre⟩, hk⟩

theorem subGet_eq_none (es : List Entry) (ty : String) : subGet es ty = none ↔ ∀ e ∈ es, e.key.type ≠ ty := by
  simp [subGet]

private theorem subGet_append (l1 l2 : List Entry) (ty : String) :
    subGet (l1 ++ l2) ty = match subGet l1 ty with
      | some k => some k
      | none => subGet l2 ty := by
  unfold subGet
  rw [List.find?_append]
  cases h : l1.find? (fun e => e.key.type == ty) <;> simp

private theorem lookup_append (p : Prims) (a b : Table) (q : Name) :
    lookup p (a ++ b) q = lookup p a q ++ lookup p b q := by
  simp [lookup]

private theorem subGet_lookup_single (p : Prims) (e : Entry) (q : Name) (ty : String) :
    subGet (lookup p [e] q) ty = if hostnameMatches p q e = true ∧ e.key.type = ty then some e.key else none := by
  by_cases hm : hostnameMatches p q e = true <;> by_cases hty : e.key.type = ty <;> simp [lookup, subGet, hm, hty]

private theorem subGet_lookup_cons (p : Prims) (e : Entry) (es : Table) (q : Name) (ty : String) :
    subGet (lookup p (e :: es) q) ty =
      if hostnameMatches p q e = true ∧ e.key.type = ty then some e.key else subGet (lookup p es q) ty := by
  rw [show e :: es = [e] ++ es from rfl, lookup_append, subGet_append, subGet_lookup_single]
  by_cases h : hostnameMatches p q e = true ∧ e.key.type = ty
  · rw [if_pos h, if_pos h]
  · rw [if_neg h, if_neg h]

/-- **`check(hostname, key)` is true exactly when the first entry of the key's type among the entries listing the
hostname holds that very key.** -/
theorem check_iff (p : Prims) (t : Table) (q : Name) (k : Key) :
    check p t q k = true ↔ subGet (lookup p t q) k.type = some k := by
  unfold check
  cases h : subGet (lookup p t q) k.type with
  | none => simp
  | some k' =>
    have hty : k'.type = k.type := by
      obtain ⟨_, e, _, _, he, hty, _⟩ := (subGet_eq_some _ _ _).mp h
      rw [← he]; exact hty
    simp only [beq_iff_eq, Option.some.injEq]
    constructor
    · intro hb
      cases k; cases k'; simp_all
    · intro hk; rw [hk]

/-- **The whole mapping API reports the effective keys only**: every pair of `items()` (hence every element of
`values()`, every `get`) is a key type of a matching entry together with the first entry's key of that type — never a
shadowed later key; there is one pair per matching entry (`len`, iteration, `keys()`). -/
theorem subItems_effective (es : List Entry) :
    (subItems es).length = es.length ∧ (subItems es).map (·.1) = subKeys es ∧
    ∀ x ∈ subItems es, ∃ k, x.2 = some k ∧ subGet es x.1 = some k ∧ k.type = x.1 := by
  refine ⟨by simp [subItems], by simp [subItems, subKeys], ?_⟩
  intro x hx
  simp only [subItems, List.mem_map] at hx
  obtain ⟨e, he, rfl⟩ := hx
  cases h : subGet es e.key.type with
  | none => exact absurd rfl ((subGet_eq_none es e.key.type).mp h e he)
  | some k =>
    refine ⟨k, rfl, rfl, ?_⟩
    obtain ⟨_, e', _, _, hk, hty, _⟩ := (subGet_eq_some es e.key.type k).mp h
    rw [← hk]; exact hty

/-! ## loading the same file again changes nothing -/

private theorem hasEntry_append (p : Prims) (t extra : Table) (h : Name) (k : Key) (hh : hasEntry p t h k = true) :
    hasEntry p (t ++ extra) h k = true := by
  simp only [hasEntry, List.any_append, Bool.or_eq_true] at *
  exact Or.inl hh

private theorem pruneLoop_all (p : Prims) (t : Table) (k : Key) (names : List Name)
    (h : ∀ x ∈ names, hasEntry p t x k = true) : pruneLoop p t k names names = [] := by
  induction names with
  | nil => rfl
  | cons x xs ih =>
    simp only [pruneLoop, h x (by simp), if_true, List.erase_cons_head]
    exact ih (fun y hy => h y (by simp [hy]))

private theorem pruneLoop_keeps (p : Prims) (t : Table) (k : Key) (hs cur : List Name) (x : Name)
    (hx : hasEntry p t x k = false) (hc : x ∈ cur) : x ∈ pruneLoop p t k hs cur := by
  induction hs generalizing cur with
  | nil => exact hc
  | cons h hs ih =>
    simp only [pruneLoop]
    split
    · rename_i hh
      apply ih
      have hne : x ≠ h := by
        intro e; subst e; rw [hx] at hh; cases hh
      exact (List.mem_erase_of_ne hne).mpr hc
    · exact ih cur hc

private theorem loadEntry_of_covered (p : Prims) (t : Table) (names : List Name) (k : Key)
    (h : ∀ x ∈ names, hasEntry p t x k = true) : loadEntry p t names k = t := by
  simp [loadEntry, pruneLoop_all p t k names h]

/-- `load` only ever appends -/
private theorem loadEntry_mono (p : Prims) (t : Table) (names : List Name) (k : Key) (x : Name) (kx : Key)
    (h : hasEntry p t x kx = true) : hasEntry p (loadEntry p t names k) x kx = true := by
  unfold loadEntry
  simp only
  split
  · exact h
  · exact hasEntry_append p t _ x kx h

private theorem loadEntry_covers (p : Prims) (t : Table) (names : List Name) (k : Key) :
    ∀ x ∈ names, hasEntry p (loadEntry p t names k) x k = true := by
  intro x hx
  by_cases hc : hasEntry p t x k = true
  · exact loadEntry_mono p t names k x k hc
  · have hc' : hasEntry p t x k = false := by simpa using hc
    have hk := pruneLoop_keeps p t k names names x hc' hx
    unfold loadEntry
    simp only
    split
    · rename_i he
      rw [List.isEmpty_iff] at he
      rw [he] at hk; cases hk
    · simp only [hasEntry, List.any_append, List.any_cons, List.any_nil, Bool.or_false, Bool.or_eq_true,
        Bool.and_eq_true, beq_iff_eq, and_true]
      right
      simp only [hostnameMatches, List.any_eq_true]
      exact ⟨x, hk, nameMatches_refl p x⟩

private theorem load_mono (p : Prims) (ls : List Line) (t : Table) (x : Name) (kx : Key)
    (h : hasEntry p t x kx = true) : hasEntry p (load p t ls).1 x kx = true := by
  fun_induction load p t ls with
  | case1 t => exact h
  | case2 t names k ls ih => exact ih (loadEntry_mono p t names k x kx h)
  | case3 t ls ih => exact ih h
  | case4 t ls => exact h

/-- every entry line that `load` gets to (i.e. before a line that makes it raise) is covered by table `t` -/
def Covered (p : Prims) (t : Table) : List Line → Prop
  | [] => True
  | .entry names k :: ls => (∀ x ∈ names, hasEntry p t x k = true) ∧ Covered p t ls
  | .skip :: ls => Covered p t ls
  | .invalid :: _ => True

/-- whether `load` ends by raising depends on the file only -/
def raises : List Line → Bool
  | [] => false
  | .invalid :: _ => true
  | _ :: ls => raises ls

private theorem load_raises (p : Prims) (ls : List Line) (t : Table) : (load p t ls).2 = raises ls := by
  fun_induction load p t ls <;> simp [raises, *]

private theorem load_of_covered (p : Prims) (ls : List Line) (t : Table) (h : Covered p t ls) :
    load p t ls = (t, raises ls) := by
  fun_induction load p t ls with
  | case1 t => rfl
  | case2 t names k ls ih => rw [loadEntry_of_covered p t names k h.1] at ih ⊢; exact ih h.2
  | case3 t ls ih => exact ih h
  | case4 t ls => rfl

private theorem covered_after_load (p : Prims) (ls : List Line) (t : Table) : Covered p (load p t ls).1 ls := by
  fun_induction load p t ls with
  | case1 t => trivial
  | case2 t names k ls ih =>
    exact ⟨fun x hx => load_mono p ls _ x k (loadEntry_covers p t names k x hx), ih⟩
  | case3 t ls ih => exact ih
  | case4 t ls => trivial

/-- **Idempotent load.**  For every table (whatever history produced it), every file and every HMAC: loading the
same file a second time leaves the table — hence every lookup, key list, `keys()` and the saved text — exactly as
the first load left it, and ends the same way. -/
theorem load_idempotent (p : Prims) (t : Table) (ls : List Line) :
    load p (load p t ls).1 ls = load p t ls := by
  rw [load_of_covered p ls _ (covered_after_load p ls t)]
  rw [← load_raises p ls t]

/-- … and so does every further load -/
theorem load_idempotent_n (p : Prims) (t : Table) (ls : List Line) (n : Nat) :
    (Nat.repeat (fun t' => (load p t' ls).1) n (load p t ls).1) = (load p t ls).1 := by
  induction n with
  | zero => rfl
  | succ n ih => simp only [Nat.repeat, ih]; rw [load_idempotent]

/-! ## saving and reloading yields identical lookups -/

theorem nameMatches_trans (p : Prims) (a b c : Name) (h1 : nameMatches p a b = true)
    (h2 : nameMatches p b c = true) : nameMatches p a c = true := by
  rw [nameMatches_iff] at *
  rcases h1 with h1 | ⟨salt, mac, s, ha, hb, hm⟩
  · subst h1; exact h2
  · rcases h2 with h2 | ⟨salt', mac', s', hb', _, _⟩
    · subst h2; exact Or.inr ⟨salt, mac, s, ha, hb, hm⟩
    · rw [hb] at hb'; cases hb'

private theorem pruneLoop_subset (p : Prims) (t : Table) (k : Key) (hs cur : List Name) (x : Name)
    (hx : x ∈ pruneLoop p t k hs cur) : x ∈ cur := by
  induction hs generalizing cur with
  | nil => exact hx
  | cons h hs ih =>
    simp only [pruneLoop] at hx
    split at hx
    · exact List.mem_of_mem_erase (ih _ hx)
    · exact ih _ hx

/-- a lookup after one more line: what was there, then what is kept of the line (an entry left without names matches
nothing, so it makes no difference that `load` does not append it) -/
private theorem lookup_loadEntry (p : Prims) (t : Table) (names : List Name) (k : Key) (q : Name) :
    lookup p (loadEntry p t names k) q = lookup p t q ++ lookup p [⟨pruneLoop p t k names names, k⟩] q := by
  unfold loadEntry
  simp only
  split
  · rename_i he
    rw [List.isEmpty_iff] at he
    simp [he, lookup, hostnameMatches]
  · exact lookup_append p t _ q

/-- what one reloaded line contributes to a lookup, given that no earlier entry already answers it -/
private theorem reload_step (p : Prims) (A : Table) (e : Entry) (q : Name) (ty : String)
    (hA : subGet (lookup p A q) ty = none) :
    subGet (lookup p (loadEntry p A e.names e.key) q) ty = subGet (lookup p [e] q) ty := by
  rw [lookup_loadEntry, subGet_append, hA, subGet_lookup_single, subGet_lookup_single]
  by_cases hty : e.key.type = ty
  · -- of the names of `e`, pruning drops only those some entry of `A` already answers with this key: none matches `q`
    have hm : hostnameMatches p q ⟨pruneLoop p A e.key e.names e.names, e.key⟩ = hostnameMatches p q e := by
      rw [Bool.eq_iff_iff]
      simp only [hostnameMatches, List.any_eq_true]
      refine ⟨fun ⟨h, hh, hm⟩ => ⟨h, pruneLoop_subset p A e.key e.names e.names h hh, hm⟩, fun ⟨h, hh, hm⟩ => ?_⟩
      refine ⟨h, pruneLoop_keeps p A e.key e.names e.names h ?_ hh, hm⟩
      cases hc : hasEntry p A h e.key with
      | false => rfl
      | true =>
        simp only [hasEntry, List.any_eq_true, Bool.and_eq_true, beq_iff_eq, hostnameMatches] at hc
        obtain ⟨a, ha, ⟨⟨h', hh', hm'⟩, hta⟩, _⟩ := hc
        exact absurd (hta.trans hty) ((subGet_eq_none _ _).mp hA a
          ((mem_lookup p A q a).mpr ⟨ha, h', hh', nameMatches_trans p h' h q hm' hm⟩))
    simp only [hm]
  · simp only [hty, and_false, if_false]

private theorem reload_invariant (p : Prims) (es : List Entry) (A B : Table)
    (h : ∀ q ty, subGet (lookup p A q) ty = subGet (lookup p B q) ty) :
    ∀ q ty, subGet (lookup p (load p A (save es)).1 q) ty = subGet (lookup p (B ++ es) q) ty := by
  induction es generalizing A B with
  | nil => simpa [save, load] using h
  | cons e es ih =>
    have hstep : ∀ q ty, subGet (lookup p (loadEntry p A e.names e.key) q) ty
        = subGet (lookup p (B ++ [e]) q) ty := by
      intro q ty
      rw [lookup_append, subGet_append, ← h q ty]
      cases hA : subGet (lookup p A q) ty with
      | some k => rw [lookup_loadEntry, subGet_append, hA]
      | none => exact reload_step p A e q ty hA
    have := ih (loadEntry p A e.names e.key) (B ++ [e]) hstep
    simpa [save, load, List.append_assoc] using this

/-- **Save and reload.**  For every table (whatever history produced it) and every HMAC: writing the table out
and loading the result into a fresh `HostKeys` gives, for every hostname (plain or hashed) and key type, the same
effective key — hence the same `lookup()` mapping and the same `check()` answers; the reload never raises. -/
theorem save_reload_lookup (p : Prims) (t : Table) (q : Name) (ty : String) :
    subGet (lookup p (load p [] (save t)).1 q) ty = subGet (lookup p t q) ty ∧ (load p [] (save t)).2 = false := by
  refine ⟨?_, ?_⟩
  · have := reload_invariant p t [] [] (fun _ _ => rfl) q ty
    simpa using this
  · rw [load_raises]
    induction t with
    | nil => rfl
    | cons e es ih => simpa [save, raises] using ih

theorem save_reload_check (p : Prims) (t : Table) (q : Name) (k : Key) :
    check p (load p [] (save t)).1 q k = check p t q k := by
  have h := (save_reload_lookup p t q k.type).1
  unfold check
  rw [h]

/-! ## dict-style setters take effect — in memory and, by `save_reload_lookup`, after save + reload -/

private theorem subSetGo_spec (p : Prims) (q : Name) (kt : String) (k : Key) (hk : k.type = kt) (t : Table) :
    ((subSetGo p q kt k t).2 = true → subGet (lookup p (subSetGo p q kt k t).1 q) kt = some k) ∧
    ((subSetGo p q kt k t).2 = false → (subSetGo p q kt k t).1 = t ∧ subGet (lookup p t q) kt = none) := by
  induction t with
  | nil => exact ⟨nofun, fun _ => ⟨rfl, rfl⟩⟩
  | cons e es ih =>
    simp only [subSetGo]
    split
    · next hc =>
      simp only [Bool.and_eq_true, beq_iff_eq] at hc
      exact ⟨fun _ => by rw [subGet_lookup_cons, if_pos ⟨hc.1, hk⟩], nofun⟩
    · next hc =>
      have hc' : ¬ (hostnameMatches p q e = true ∧ e.key.type = kt) := by simpa using hc
      simp only [subGet_lookup_cons, if_neg hc']
      exact ⟨ih.1, fun h => ⟨by rw [(ih.2 h).1], (ih.2 h).2⟩⟩

/-- **`hostkeys[name][type] = key` takes effect**: afterwards the effective key of that type for `name` is `key`
(and, by `save_reload_lookup`, it still is after saving and reloading) -/
theorem subSet_effective (p : Prims) (t t' : Table) (q : Name) (k : Key)
    (h : subSet p t q k.type k = .ok t') :
    subGet (lookup p t' q) k.type = some k ∧
    subGet (lookup p (load p [] (save t')).1 q) k.type = some k := by
  have hmain : subGet (lookup p t' q) k.type = some k := by
    unfold subSet at h
    split at h
    · cases h
    · obtain ⟨g1, g2⟩ := subSetGo_spec p q k.type k rfl t
      simp only at h
      split at h
      · rename_i hr
        simp only [Except.ok.injEq] at h
        rw [← h]; exact g1 hr
      · rename_i hr
        have hr' : (subSetGo p q k.type k t).2 = false := by simpa using hr
        simp only [Except.ok.injEq] at h
        have : hostnameMatches p q ⟨[q], k⟩ = true := by simp [hostnameMatches, nameMatches_refl]
        rw [← h, lookup_append, subGet_append, (g2 hr').2, subGet_lookup_single, if_pos ⟨this, rfl⟩]
  exact ⟨hmain, by rw [(save_reload_lookup p t' q k.type).1]; exact hmain⟩

/-! ## non-vacuity -/

def demoPrims : Prims := { hmac := fun salt s => salt ++ s.toList.map (fun c => UInt8.ofNat c.toNat) }
def kA : Key := ⟨"ssh-rsa", [1]⟩
def kB : Key := ⟨"ssh-rsa", [2]⟩
def kC : Key := ⟨"ssh-ed25519", [3]⟩
def demoFile : List Line :=
  [.entry [.plain "a", .plain "b"] kA, .skip, .entry [.plain "a"] kB, .entry [.hashed [9] [9, 97], .plain "c"] kC]

/-- `demoFile` loaded once -/
private theorem demo_load : load demoPrims [] demoFile =
    ([⟨[.plain "a", .plain "b"], kA⟩, ⟨[.plain "a"], kB⟩, ⟨[.hashed [9] [9, 97], .plain "c"], kC⟩], false) := by
  decide +kernel

/-- the two defects of the unrepaired `load`: `a,b` lines and a shadowed second key of the same type -/
example : (load demoPrims [] demoFile).1 =
    [⟨[.plain "a", .plain "b"], kA⟩, ⟨[.plain "a"], kB⟩, ⟨[.hashed [9] [9, 97], .plain "c"], kC⟩] := by rw [demo_load]
example : load demoPrims (load demoPrims [] demoFile).1 demoFile = load demoPrims [] demoFile :=
  load_idempotent demoPrims [] demoFile
example : (load demoPrims [] (save [⟨[.plain "a"], kA⟩, ⟨[.plain "a", .plain "b"], kA⟩, ⟨[.plain "a"], kB⟩])).1 =
    [⟨[.plain "a"], kA⟩, ⟨[.plain "b"], kA⟩, ⟨[.plain "a"], kB⟩] := by decide +kernel
example : check demoPrims (load demoPrims [] demoFile).1 (.plain "a") kA = true ∧
    check demoPrims (load demoPrims [] demoFile).1 (.plain "a") kB = false ∧
    check demoPrims (load demoPrims [] demoFile).1 (.plain "a") kC = true := by rw [demo_load]; decide +kernel

end PV.Props.C41
