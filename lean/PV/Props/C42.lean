/-
  C42 — Buffered file wrappers preserve stream content and line structure.
  Property theorems only (helpers: PV/Model/BufFileLemmas.lean, PV/Model/ReadGeneric.lean).  Model: PV/Model/BufFile.lean —
  paramiko/file.py `BufferedFile` over `chanOps`, a stream that answers every `_read` with an
  ARBITRARY non-empty short chunk and accepts an ARBITRARY non-empty prefix on every `_write`
  (the grant lists `rg`/`wg` are universally quantified: "however the stream delivers its bytes").
  Binary and text mode (text mode only decodes the returned line); universal newlines ('U'): the section
  "universal-newline mode" below, over PV/Model/BufFileU.lean.

  `pending f` = read-ahead buffer ++ bytes the stream has not delivered yet = what the caller has
  still to receive.  `f.s.out` = bytes the stream has accepted.
-/
import PV.Model.ReadGeneric
import PV.Model.BufFileULemmas
import PV.Model.ChanFile
import PV.Model.ChanX
namespace PV.Props.C42
open PV PV.BufFile

/-- State invariant: `_set_mode` establishes it, every operation keeps it. -/
def Good (f : BF Chan) : Prop := WF f ∧ WInv f

/-! ## single calls: the result does not depend on the chunking -/

/-- `read(n)` returns exactly the next `n` bytes of the stream (fewer only at EOF), whatever the chunking. -/
theorem read_n_exact (f : BF Chan) (n : Nat) (hc : f.closed = false) (hr : f.rd = true) :
    (read chanOps f (some n)).2 = .ok ((pending f).take n) ∧
    pending (read chanOps f (some n)).1 = (pending f).drop n := by
  obtain ⟨f', out, h, rfl, p⟩ := (read_some_gen chanLaws f n (chanPre hc hr)).returns chanLaws_never_fails
  rw [h]
  exact ⟨rfl, p.pend_drop.trans (drop_take_length _ n)⟩

/-- `read()` returns everything up to EOF and leaves nothing behind. -/
theorem read_all_exact (f : BF Chan) (hg : Good f) (hc : f.closed = false) (hr : f.rd = true) :
    (read chanOps f none).2 = .ok (pending f) ∧ pending (read chanOps f none).1 = [] := by
  obtain ⟨f', out, h, rfl, _, p⟩ := (read_none_gen chanLaws f (chanPre hc hr) hg.1.1).returns chanLaws_never_fails
  rw [h]
  exact ⟨rfl, p⟩

/-- `readline(size)` returns the first line of what is pending, cut at `size`; the rest stays pending. -/
theorem readline_exact (f : BF Chan) (size : Option Nat) (hg : Good f) (hc : f.closed = false) (hr : f.rd = true) :
    (readline chanOps f size).2 = .ok (specLine size (pending f)) ∧
    pending (readline chanOps f size).1 = (pending f).drop (specLine size (pending f)).length := by
  obtain ⟨f', out, h, rfl, p⟩ := (readline_gen chanLaws f size (chanPre hc hr) hg.1.2).returns chanLaws_never_fails
  rw [h]
  exact ⟨rfl, p.pend_drop⟩

/-- Shape of a line: it ends at its only LF, or it has no LF and then it was cut by the size limit
    or the stream is exhausted. -/
theorem readline_ends_at_newline_or_limit_or_eof (f : BF Chan) (size : Option Nat) (l : Bytes)
    (hg : Good f) (hc : f.closed = false) (hr : f.rd = true)
    (h : (readline chanOps f size).2 = .ok l) :
    (∀ sz, size = some sz → l.length ≤ sz) ∧
    ((∃ body, l = body ++ [LF] ∧ body.contains LF = false) ∨
     (l.contains LF = false ∧ (size = some l.length ∨ pending (readline chanOps f size).1 = []))) := by
  obtain ⟨h1, h2⟩ := readline_exact f size hg hc hr
  rw [h1] at h
  injection h with h
  subst h
  refine ⟨?_, ?_⟩
  · intro sz hs; subst hs
    simp only [specLine]
    exact Nat.le_trans (lineOf_length_le _) (by simp [List.length_take]; omega)
  · cases size with
    | none =>
      simp only [specLine] at h2 ⊢
      rcases lineOf_shape (pending f) with ⟨body, hb, hn⟩ | ⟨he, hn⟩
      · exact Or.inl ⟨body, hb, hn⟩
      · refine Or.inr ⟨by rw [he]; exact hn, Or.inr ?_⟩
        rw [h2, he]; simp
    | some sz =>
      simp only [specLine] at h2 ⊢
      rcases lineOf_shape ((pending f).take sz) with ⟨body, hb, hn⟩ | ⟨he, hn⟩
      · exact Or.inl ⟨body, hb, hn⟩
      · refine Or.inr ⟨by rw [he]; exact hn, ?_⟩
        rw [h2, he, List.length_take]
        by_cases hle : sz ≤ (pending f).length
        · left; rw [Nat.min_eq_left hle]
        · right; rw [List.drop_of_length_le (by omega)]

/-- `list(f)` / a `for` loop: exactly the successive lines of the stream, nothing left. -/
theorem iteration_exact (f : BF Chan) (hg : Good f) (hc : f.closed = false) (hr : f.rd = true) :
    ∃ ls, (iterAll chanOps f).2 = .ok ls ∧ LinesOf (pending f) ls [] ∧ ls.flatten = pending f ∧
      pending (iterAll chanOps f).1 = [] := by
  unfold iterAll
  rw [if_neg (by simp [hc]), iterLoop_eq_readlinesLoop _ _ _ _ 0]
  obtain ⟨f', new, h, g2, _, g4⟩ := readlines_gen chanLaws chanLaws_never_fails none f (chanPre hc hr) hg.1.2
  have hnil : pending f' = [] := g4 rfl
  have g2 : LinesOf (pending f) new (pending f') := g2
  rw [h]
  rw [hnil] at g2
  exact ⟨new, rfl, g2, by simpa using g2.flatten_append, hnil⟩

/-- A successful `write` under any buffering mode: accepted-or-buffered bytes grow by exactly `data`,
    in order; nothing is held back when unbuffered; nothing up to the last LF is held back when line
    buffered; less than `bufsize` is held back when sized. -/
theorem write_law (f : BF Chan) (data : Bytes) (hg : Good f) (hc : f.closed = false) (hw : f.wr = true) :
    (write chanOps f data).2 = .ok () ∧
    (write chanOps f data).1.s.out ++ (write chanOps f data).1.wbuf = f.s.out ++ f.wbuf ++ data ∧
    WInv (write chanOps f data).1 := by
  obtain ⟨f', h, h2, _, _, _, h6⟩ := write_chan f data hg.1.2 hc hw hg.2
  rw [h]
  exact ⟨rfl, h2, h6⟩

/-- `flush()` pushes the whole write buffer to the stream, whatever partial writes the stream makes. -/
theorem flush_delivers (f : BF Chan) :
    (flush chanOps f).2 = .ok () ∧ (flush chanOps f).1.s.out = f.s.out ++ f.wbuf ∧ (flush chanOps f).1.wbuf = [] := by
  obtain ⟨f', h, h1, h2, _⟩ := flush_chan f
  rw [h]
  exact ⟨rfl, h1, h2⟩

theorem close_delivers (f : BF Chan) :
    (close chanOps f).2 = .ok () ∧ (close chanOps f).1.s.out = f.s.out ++ f.wbuf ∧ (close chanOps f).1.wbuf = [] ∧
    (close chanOps f).1.closed = true := by
  obtain ⟨f', h, h1, h2, _, _, h5⟩ := close_chan f
  rw [h]
  exact ⟨rfl, h1, h2, h5⟩

/-! ## `_set_mode` establishes the invariant -/

theorem setMode_good (f0 : BF Chan) (mode : List Char) (bufsize sz : Int) (hd : 1 ≤ f0.dflt) (hw : f0.wbuf = []) :
    Good (setMode f0 mode bufsize sz) ∧
    ((setMode f0 mode bufsize sz).buffered = false ↔ bufsize ≤ 0) ∧
    ((setMode f0 mode bufsize sz).lineBuf = true ↔ bufsize = 1) := by
  unfold setMode
  rw [setFlags_eq, setBuf_eq]
  have hbs : 1 ≤ (if 1 < bufsize then bufsize.toNat else f0.dflt) := by split <;> omega
  refine ⟨⟨⟨hd, hbs⟩, WInv.of_nil hw hbs⟩, ?_, ?_⟩
  · show decide (1 ≤ bufsize) = false ↔ bufsize ≤ 0
    simp; omega
  · show decide (bufsize = 1) = true ↔ bufsize = 1
    simp

/-! ## whole programs -/

/-- bytes the caller handed over in an operation that returned normally -/
def sentBy : Op → Out → Bytes
  | .write d, .unit => d
  | .writelines ds, .unit => ds.flatten
  | _, _ => []

/-- a step never fails because of the stream or the loop bounds -/
def Benign : Out → Prop
  | .err .closed => True
  | .err .notReadable => True
  | .err .notWritable => True
  | .err _ => False
  | _ => True

private theorem wf_of_cfg {f f' : BF Chan} (h2 : cfg f' = cfg f) (h : WF f) : WF f' := by
  unfold WF
  rw [show f'.dflt = f.dflt from congrArg Cfg.dflt h2, show f'.bufsize = f.bufsize from congrArg Cfg.bufsize h2]
  exact h

private theorem pending_of_rside {f f' : BF Chan} (h : rside f' = rside f) : pending f' = pending f := by
  simp only [rside, Prod.mk.injEq] at h
  simp only [pending, h.1, h.2.1]

def StepLaw (f : BF Chan) (op : Op) (r : BF Chan × Out) : Prop :=
  Good r.1 ∧ cfg r.1 = cfg f ∧ Benign r.2 ∧
  r.2.got ++ pending r.1 = pending f ∧
  r.1.s.out ++ r.1.wbuf = f.s.out ++ f.wbuf ++ sentBy op r.2 ∧
  (f.closed = true → r.1.closed = true)

private theorem readlike {f f1 : BF Chan} {op : Op} {o : Out} {out : Bytes} (hg : Good f)
    (p : ReadPost chanLaws f f1 out) (hb : Benign o) (hgot : o.got = out) (hs : sentBy op o = []) :
    StepLaw f op (f1, o) := by
  have hw : f1.wbuf = f.wbuf := p.cli.wbuf
  have hc : cfg f1 = cfg f := p.cli.conf
  refine ⟨⟨wf_of_cfg hc hg.1, ?_⟩, hc, hb, by rw [hgot]; exact p.pend, ?_, fun h => p.cli.closed.trans h⟩
  · unfold WInv
    rw [hw, show f1.buffered = f.buffered from congrArg Cfg.buffered hc,
      show f1.lineBuf = f.lineBuf from congrArg Cfg.lineBuf hc, show f1.bufsize = f.bufsize from congrArg Cfg.bufsize hc]
    exact hg.2
  · show f1.s.out ++ f1.wbuf = _
    rw [hs, p.fr.1, hw, List.append_nil]

private theorem unchanged {f : BF Chan} {op : Op} {e : Err} (hg : Good f) (hb : Benign (.err e)) :
    StepLaw f op (f, .err e) :=
  ⟨hg, rfl, hb, rfl, by cases op <;> exact (List.append_nil _).symm, fun h => h⟩


private theorem benign_refused (c : Bool) (e : Err) (he : e = .notReadable ∨ e = .notWritable) :
    Benign (.err (if c then .closed else e)) := by
  cases c <;> rcases he with rfl | rfl <;> trivial

private theorem step_read (f : BF Chan) (size : Option Nat) (hg : Good f) :
    StepLaw f (.read size) (step chanOps f (.read size)) := by
  simp only [step]
  rcases usable f.closed f.rd with ⟨hc, hr⟩ | hx
  · cases size with
    | none =>
      obtain ⟨f', out, h, -, p, -⟩ := (read_none_gen chanLaws f (chanPre hc hr) hg.1.1).returns chanLaws_never_fails
      rw [h]
      exact readlike hg p trivial rfl rfl
    | some n =>
      obtain ⟨f', out, h, -, p⟩ := (read_some_gen chanLaws f n (chanPre hc hr)).returns chanLaws_never_fails
      rw [h]
      exact readlike hg p trivial rfl rfl
  · rw [read_refused _ _ _ hx]
    exact unchanged hg (benign_refused _ _ (Or.inl rfl))

private theorem step_readline (f : BF Chan) (size : Option Nat) (hg : Good f) :
    StepLaw f (.readline size) (step chanOps f (.readline size)) := by
  simp only [step]
  rcases usable f.closed f.rd with ⟨hc, hr⟩ | hx
  · obtain ⟨f', out, h, -, p⟩ := (readline_gen chanLaws f size (chanPre hc hr) hg.1.2).returns chanLaws_never_fails
    rw [h]
    exact readlike hg p trivial rfl rfl
  · rw [readline_refused _ _ _ hx]
    exact unchanged hg (benign_refused _ _ (Or.inl rfl))

private theorem step_next (f : BF Chan) (hg : Good f) : StepLaw f .next (step chanOps f .next) := by
  simp only [step, next]
  rcases usable f.closed f.rd with ⟨hc, hr⟩ | hx
  · obtain ⟨f', out, h, -, p⟩ := (readline_gen chanLaws f none (chanPre hc hr) hg.1.2).returns chanLaws_never_fails
    rw [h]
    cases out with
    | nil => exact readlike hg p trivial rfl rfl
    | cons b t => exact readlike hg p trivial rfl rfl
  · rw [readline_refused _ _ _ hx]
    exact unchanged hg (benign_refused _ _ (Or.inl rfl))

/-- `readlines` and iteration run the same loop -/
private theorem lines_law (f : BF Chan) (hint : Option Int) (op : Op) (hg : Good f)
    (hs : ∀ ls, sentBy op (.lines ls) = []) :
    StepLaw f op (outOf .lines (readlinesLoop chanOps hint (f.rbuf.length + chanOps.bound f.s f.realpos + 1) f [] 0)) := by
  rcases usable f.closed f.rd with ⟨hc, hr⟩ | hx
  · obtain ⟨f', new, h, -, p, -⟩ := readlines_gen chanLaws chanLaws_never_fails hint f (chanPre hc hr) hg.1.2
    rw [h]
    exact readlike hg p trivial rfl (hs _)
  · rw [readlinesLoop, readline_refused _ _ _ hx]
    exact unchanged hg (benign_refused _ _ (Or.inl rfl))

private theorem step_readlines (f : BF Chan) (hint : Option Int) (hg : Good f) :
    StepLaw f (.readlines hint) (step chanOps f (.readlines hint)) := by
  simp only [step, readlines]
  rcases usable f.closed f.rd with ⟨hc, hr⟩ | hx
  · rw [if_neg (by simp [hc, hr]), syncForRead_chan]
    exact lines_law f hint _ hg (fun _ => rfl)
  · -- the first `readline` raises; nothing has changed
    rw [if_pos (by rcases hx with h | h <;> simp [h]), readlinesLoop, readline_refused _ _ _ hx]
    exact unchanged hg (benign_refused _ _ (Or.inl rfl))

private theorem step_iter (f : BF Chan) (hg : Good f) : StepLaw f .iter (step chanOps f .iter) := by
  simp only [step, iterAll]
  by_cases hc : f.closed = true
  · rw [if_pos hc]; exact unchanged hg trivial
  · rw [if_neg hc, iterLoop_eq_readlinesLoop _ _ _ _ 0]
    exact lines_law f none _ hg (fun _ => rfl)

private theorem step_write (f : BF Chan) (d : Bytes) (hg : Good f) :
    StepLaw f (.write d) (step chanOps f (.write d)) := by
  simp only [step]
  rcases usable f.closed f.wr with ⟨hc, hw⟩ | hx
  · obtain ⟨f', h, h2, h3, h4, h5, h6⟩ := write_chan f d hg.1.2 hc hw hg.2
    rw [h]
    exact ⟨⟨wf_of_cfg h4 hg.1, h6⟩, h4, trivial, pending_of_rside h3, h2, fun hcl => h5.trans hcl⟩
  · rw [write_refused _ _ _ hx]
    exact unchanged hg (benign_refused _ _ (Or.inr rfl))

private theorem writelines_ok (f : BF Chan) (ds : List Bytes) (hg : Good f) (hc : f.closed = false) (hw : f.wr = true) :
    ∃ f', writelines chanOps f ds = (f', .ok ()) ∧ f'.s.out ++ f'.wbuf = f.s.out ++ f.wbuf ++ ds.flatten ∧
      pending f' = pending f ∧ cfg f' = cfg f ∧ f'.closed = f.closed ∧ Good f' := by
  induction ds generalizing f with
  | nil => exact ⟨f, rfl, by simp, rfl, rfl, rfl, hg⟩
  | cons d ds ih =>
    obtain ⟨f1, h, h2, h3, h4, h5, h6⟩ := write_chan f d hg.1.2 hc hw hg.2
    obtain ⟨f', i, i2, i3, i4, i5, i6⟩ := ih f1 ⟨wf_of_cfg h4 hg.1, h6⟩ (h5.trans hc)
      ((show f1.wr = f.wr from congrArg Cfg.wr h4).trans hw)
    refine ⟨f', by rw [writelines, h]; exact i, ?_, i3.trans (pending_of_rside h3), i4.trans h4, i5.trans h5, i6⟩
    rw [i2, h2]; simp

private theorem step_writelines (f : BF Chan) (ds : List Bytes) (hg : Good f) :
    StepLaw f (.writelines ds) (step chanOps f (.writelines ds)) := by
  simp only [step]
  rcases usable f.closed f.wr with ⟨hc, hw⟩ | hx
  · obtain ⟨f', h, h2, h3, h4, h5, h6⟩ := writelines_ok f ds hg hc hw
    rw [h]
    exact ⟨h6, h4, trivial, h3, h2, fun hcl => h5.trans hcl⟩
  · cases ds with
    | nil => exact ⟨hg, rfl, trivial, rfl, by simp [writelines, outOf, sentBy], fun h => h⟩
    | cons d ds =>
      rw [writelines, write_refused _ _ _ hx]
      exact unchanged hg (benign_refused _ _ (Or.inr rfl))

private theorem good_flushed {f f1 : BF Chan} (hg : Good f) (h5 : cfg f1 = cfg f) (h3 : f1.wbuf = []) : Good f1 :=
  ⟨wf_of_cfg h5 hg.1, WInv.of_nil h3 (wf_of_cfg h5 hg.1).2⟩

private theorem step_flush (f : BF Chan) (hg : Good f) : StepLaw f .flush (step chanOps f .flush) := by
  simp only [step]
  obtain ⟨f', h, h2, h3, h4, h5, h6⟩ := flush_chan f
  rw [h]
  exact ⟨good_flushed hg h5 h3, h5, trivial, pending_of_rside h4, by simp [outOf, sentBy, h2, h3],
    fun hcl => h6.trans hcl⟩

private theorem step_close (f : BF Chan) (hg : Good f) : StepLaw f .close (step chanOps f .close) := by
  simp only [step]
  obtain ⟨f', h, h2, h3, h4, h5, h6⟩ := close_chan f
  rw [h]
  exact ⟨good_flushed hg h5 h3, h5, trivial, pending_of_rside h4, by simp [outOf, sentBy, h2, h3], fun _ => h6⟩

/-- Every single call keeps the invariant, hands the caller a prefix of what was pending, and moves
    exactly the bytes of a successful write towards the stream. -/
theorem step_law (f : BF Chan) (op : Op) (hg : Good f) : StepLaw f op (step chanOps f op) := by
  cases op with
  | read n => exact step_read f n hg
  | readline n => exact step_readline f n hg
  | readlines h => exact step_readlines f h hg
  | next => exact step_next f hg
  | iter => exact step_iter f hg
  | write d => exact step_write f d hg
  | writelines ds => exact step_writelines f ds hg
  | flush => exact step_flush f hg
  | close => exact step_close f hg
  | tell => exact ⟨hg, rfl, trivial, by simp [step, Out.got], by simp [step, sentBy], fun h => h⟩

/-- all bytes handed to the caller by a run, in call order -/
def gotAll (outs : List Out) : Bytes := (outs.map Out.got).flatten
/-- all bytes accepted from the caller by a run, in call order -/
def sentAll : List Op → List Out → Bytes
  | op :: ops, o :: os => sentBy op o ++ sentAll ops os
  | _, _ => []

private theorem run_append (g : BF Chan) (p q : List Op) :
    run chanOps g (p ++ q)
      = ((run chanOps (run chanOps g p).1 q).1, (run chanOps g p).2 ++ (run chanOps (run chanOps g p).1 q).2) := by
  induction p generalizing g with
  | nil => simp [run]
  | cons a p ih => simp [run, ih]

private theorem run_cfg (f : BF Chan) (prog : List Op) (hg : Good f) : cfg (run chanOps f prog).1 = cfg f := by
  induction prog generalizing f with
  | nil => rfl
  | cons op ops ih =>
    obtain ⟨s1, s2, _⟩ := step_law f op hg
    simp only [run]
    rw [ih _ s1, s2]

/-- **Stream preservation, for every program, every chunking of reads and of writes, every mode and
    buffer size.**  After any sequence of calls: what the caller received, followed by what is still
    pending, is exactly the byte stream (nothing lost, duplicated or reordered); what the stream has
    accepted, followed by the write buffer, is exactly what was written, in order; the buffering
    invariant holds (unbuffered: nothing held back; line buffered: nothing up to the last LF held
    back; sized: less than `bufsize` held back); and no call failed for any reason other than
    "closed" / "not open for reading" / "not open for writing". -/
theorem stream_preserved (f : BF Chan) (prog : List Op) (hg : Good f) :
    gotAll (run chanOps f prog).2 ++ pending (run chanOps f prog).1 = pending f ∧
    (run chanOps f prog).1.s.out ++ (run chanOps f prog).1.wbuf
      = f.s.out ++ f.wbuf ++ sentAll prog (run chanOps f prog).2 ∧
    Good (run chanOps f prog).1 ∧
    (∀ o ∈ (run chanOps f prog).2, Benign o) := by
  induction prog generalizing f with
  | nil => simp [run, gotAll, sentAll, hg]
  | cons op ops ih =>
    obtain ⟨s1, _, s3, s4, s5, _⟩ := step_law f op hg
    obtain ⟨i1, i2, i3, i4⟩ := ih (step chanOps f op).1 s1
    simp only [run]
    refine ⟨?_, ?_, i3, ?_⟩
    · simp only [gotAll, List.map_cons, List.flatten_cons, List.append_assoc] at i1 ⊢
      rw [i1, s4]
    · rw [i2, s5]; simp [sentAll, List.append_assoc]
    · intro o ho
      rcases List.mem_cons.1 ho with h | h
      · subst h; exact s3
      · exact i4 o h

/-- Reading to the end returns the whole stream: a program whose last call is `read()` has received,
    in order, every byte the stream held. -/
theorem read_to_eof_complete (f : BF Chan) (prog : List Op) (hg : Good f)
    (hopen : (run chanOps f prog).1.closed = false) (hr : f.rd = true) :
    gotAll (run chanOps f (prog ++ [.read none])).2 = pending f := by
  obtain ⟨p1, _, p3, _⟩ := stream_preserved f prog hg
  have hr' : (run chanOps f prog).1.rd = true :=
    (show (run chanOps f prog).1.rd = f.rd from congrArg Cfg.rd (run_cfg f prog hg)).trans hr
  obtain ⟨f1, out, h, rfl, _⟩ :=
    (read_none_gen chanLaws (run chanOps f prog).1 (chanPre hopen hr') p3.1.1).returns chanLaws_never_fails
  rw [run_append]
  simp only [run, step, h, outOf, Out.got, gotAll, List.map_append, List.flatten_append, List.map_cons, List.map_nil,
    List.flatten_cons, List.flatten_nil, List.append_nil]
  exact p1

/-- Written data reaches the stream complete and in order by `flush` (and by `close`). -/
theorem flush_complete (f : BF Chan) (prog : List Op) (hg : Good f) (h0 : f.s.out = [] ∧ f.wbuf = []) :
    (step chanOps (run chanOps f prog).1 .flush).1.s.out = sentAll prog (run chanOps f prog).2 ∧
    (step chanOps (run chanOps f prog).1 .close).1.s.out = sentAll prog (run chanOps f prog).2 := by
  obtain ⟨_, p2, _, _⟩ := stream_preserved f prog hg
  rw [h0.1, h0.2] at p2
  simp only [List.nil_append] at p2
  constructor
  · simp only [step]
    obtain ⟨f', h, h2, _⟩ := flush_chan (run chanOps f prog).1
    rw [h]
    exact h2.trans p2
  · simp only [step]
    obtain ⟨f', h, h2, _⟩ := close_chan (run chanOps f prog).1
    rw [h]
    exact h2.trans p2

/-- Line buffering: after every call of every program the stream has received everything written
    through the last newline (the bytes still buffered contain no LF); unbuffered: everything. -/
theorem line_buffered_pushes_each_newline (f : BF Chan) (prog : List Op) (hg : Good f) :
    ((run chanOps f prog).1.buffered = true → (run chanOps f prog).1.lineBuf = true →
        (run chanOps f prog).1.wbuf.contains LF = false) ∧
    ((run chanOps f prog).1.buffered = false → (run chanOps f prog).1.wbuf = []) := by
  obtain ⟨_, _, p3, _⟩ := stream_preserved f prog hg
  exact ⟨p3.2.2.1, p3.2.1⟩

/-! ## non-vacuity: concrete non-trivial runs (short reads of 1–3 bytes, short writes of 1–2 bytes) -/

def demoFile (mode : String) (bufsize : Int) : BF Chan :=
  setMode { s := { inp := "ab\ncd\nef".toUTF8.toList, rg := [0, 2, 0, 1], wg := [0, 1, 0] } } mode.toList bufsize 0

example : Good (demoFile "r+b" 1) := (setMode_good _ _ _ _ (by decide) rfl).1

example :
    ((run chanOps (demoFile "rb" 0) [.readline none, .read (some 1), .readline (some 1), .next, .read none]).2.map Out.got)
      = ["ab\n".toUTF8.toList, "c".toUTF8.toList, "d".toUTF8.toList, "\n".toUTF8.toList, "ef".toUTF8.toList] := by
  decide +kernel

example :
    let r := run chanOps (demoFile "wb" 1) [.write "xy\nz".toUTF8.toList]
    r.1.s.out = "xy\n".toUTF8.toList ∧ r.1.wbuf = "z".toUTF8.toList := by
  decide +kernel

/-! ## universal-newline mode ('U'): line structure does not depend on the chunking

  `upend u` = what a U-mode caller has still to receive: read-ahead ++ undelivered stream, minus a leading LF
  when the previous line ended in a bare CR that was the last byte available (`_at_trailing_cr`).
  `uSplit p` = (first line of `p` with its CR / CRLF / LF terminator translated to LF, rest of `p`). -/

/-- `readline()` in U mode returns the first universal-newline line of what is pending and leaves exactly the
    rest pending — for every chunking, wherever a CR happened to be the last byte of a chunk. -/
theorem universal_readline_exact (u : UF Chan) (hb : 1 ≤ u.f.bufsize) (hc : u.f.closed = false) (hr : u.f.rd = true) :
    (readlineU chanOps u none).2 = .ok (uSplit (upend u)).1 ∧
    upend (readlineU chanOps u none).1 = (uSplit (upend u)).2 :=
  ⟨(readlineU_chan u hb hc hr).1, (readlineU_chan u hb hc hr).2.1⟩

/-- a line returned in U mode ends in LF and contains no other CR or LF, or it is the unterminated tail -/
theorem universal_line_shape (p : Bytes) :
    (∃ body, (uSplit p).1 = body ++ [LF] ∧ body.any isNL = false) ∨ ((uSplit p).1 = p ∧ p.any isNL = false) := by
  unfold uSplit
  cases h : p.findIdx? isNL with
  | none =>
    right
    refine ⟨rfl, ?_⟩
    cases hq : p.any isNL with
    | false => rfl
    | true =>
      have := List.findIdx?_isSome (xs := p) (p := isNL)
      rw [hq, h] at this; cases this
  | some i =>
    left
    obtain ⟨hlt, _, hmin⟩ := List.findIdx?_eq_some_iff_getElem.1 h
    refine ⟨p.take i, rfl, ?_⟩
    cases hq : (p.take i).any isNL with
    | false => rfl
    | true =>
      obtain ⟨x, hx, hxx⟩ := List.any_eq_true.1 hq
      obtain ⟨j, hj, hjx⟩ := List.getElem_of_mem hx
      rw [List.length_take] at hj
      have hji : j < i := by omega
      have := hmin j hji
      rw [List.getElem_take] at hjx
      rw [hjx] at this
      exact absurd hxx this

/-- `list(f)` / a `for` loop in U mode: the result is a function of the pending bytes and the flag only. -/
theorem universal_iteration_exact (u : UF Chan) (hb : 1 ≤ u.f.bufsize) (hc : u.f.closed = false) (hr : u.f.rd = true) :
    (iterAllU chanOps u).2 = .ok (uLines (u.f.rbuf.length + u.f.s.inp.length + 2) (upend u)) ∧
    upend (iterAllU chanOps u).1 = [] := by
  unfold iterAllU
  rw [if_neg (by simp [hc])]
  have hlen : (upend u).length < linesFuel chanOps u.f := by
    unfold upend eff linesFuel
    simp only [chanOps_bound]
    split
    · simp only [List.length_tail, List.length_append]; omega
    · simp only [List.length_append]; omega
  obtain ⟨g1, g2, _⟩ := iterLoopU_chan (linesFuel chanOps u.f) u [] hb hc hr hlen
  refine ⟨?_, g2⟩
  rw [g1]; simp [linesFuel]

/-- **Chunk independence in U mode.**  Two freshly opened U-mode files over the same byte stream, with ANY two
    ways of chunking the reads, iterate to the same list of lines. -/
theorem universal_lines_independent_of_chunking (f1 f2 : BF Chan) (inp : Bytes)
    (h1 : f1.s.inp = inp ∧ f1.rbuf = [] ∧ 1 ≤ f1.bufsize ∧ f1.closed = false ∧ f1.rd = true)
    (h2 : f2.s.inp = inp ∧ f2.rbuf = [] ∧ 1 ≤ f2.bufsize ∧ f2.closed = false ∧ f2.rd = true) :
    (iterAllU chanOps { f := f1 }).2 = (iterAllU chanOps { f := f2 }).2 := by
  obtain ⟨a1, a2, a3, a4, a5⟩ := h1
  obtain ⟨b1, b2, b3, b4, b5⟩ := h2
  rw [(universal_iteration_exact { f := f1 } a3 a4 a5).1, (universal_iteration_exact { f := f2 } b3 b4 b5).1]
  simp [upend, eff, a1, a2, b1, b2]

def okLines : Except Err (List Bytes) → Option (List Bytes)
  | .ok ls => some ls
  | .error _ => none

/-- non-vacuity: the case from the field — CR is the last byte of the first chunk, the next chunk does not
    start with LF, an empty line follows later; chunked 4 + rest and unchunked give one, two, (empty), three -/
example :
    let inp := "one\rtwo\n\nthree\n".toUTF8.toList
    let f (rg : List Nat) : BF Chan := setMode { s := { inp := inp, rg := rg, wg := [] } } "rbU".toList 0 0
    okLines (iterAllU chanOps { f := f [3] }).2
      = some ["one\n".toUTF8.toList, "two\n".toUTF8.toList, "\n".toUTF8.toList, "three\n".toUTF8.toList] ∧
    okLines (iterAllU chanOps { f := f [] }).2 = okLines (iterAllU chanOps { f := f [3] }).2 := by
  decide +kernel

/-! ## the channel file classes (ChannelFile / ChannelStderrFile / ChannelStdinFile)

  Their `_read` / `_write` are an instance of the stream above (recv may be short, sendall takes everything), so
  every theorem of this file applies to them unchanged.  What `ChannelStdinFile` adds is the order of `close()`:
  flush first, EOF (`shutdown_write`) afterwards.  `atEof` records what the channel had received when the first
  EOF went out. -/

/-- `ChannelStdinFile.close()`: everything still buffered reaches the channel BEFORE the EOF, whatever the
    buffering mode; the file is closed and exactly one more `shutdown_write()` has been made. -/
theorem stdin_close_delivers_before_eof (c : CF) (hs : c.stdin = true) (hn : c.atEof = none) :
    (closeC c).2 = .ok () ∧ (closeC c).1.atEof = some (c.f.s.out ++ c.f.wbuf) ∧
    (closeC c).1.f.s.out = c.f.s.out ++ c.f.wbuf ∧ (closeC c).1.f.wbuf = [] ∧
    (closeC c).1.f.closed = true ∧ (closeC c).1.eofs = c.eofs + 1 := by
  unfold closeC
  obtain ⟨f', h, h2, h3, _, _, h6⟩ := close_chan c.f
  rw [h]
  simp only [hs, if_true, hn]
  exact ⟨trivial, by rw [h2], h2, h3, h6, trivial⟩

/-- the plain channel files never half-close the channel -/
theorem plain_close_sends_no_eof (c : CF) (hs : c.stdin = false) :
    (closeC c).1.eofs = c.eofs ∧ (closeC c).1.atEof = c.atEof := by
  unfold closeC
  rcases close chanOps c.f with ⟨f1, r1⟩
  cases r1 <;> simp [hs]

private theorem runC_no_close (c : CF) (prog : List Op) (h : ∀ op ∈ prog, op ≠ .close) :
    runC c prog = ({ c with f := (run chanOps c.f prog).1 }, (run chanOps c.f prog).2) := by
  induction prog generalizing c with
  | nil => rfl
  | cons op ops ih =>
    have hop : op ≠ .close := h op (by simp)
    have hstep : stepC c op = ({ c with f := (step chanOps c.f op).1 }, (step chanOps c.f op).2) := by
      cases op <;> first | rfl | exact absurd rfl hop
    simp only [runC, run, hstep]
    rw [ih _ (fun o ho => h o (by simp [ho]))]

private theorem closeC_atEof (c : CF) (x : Bytes) (h : c.atEof = some x) : (closeC c).1.atEof = some x := by
  unfold closeC
  rcases close chanOps c.f with ⟨f1, r1⟩
  cases r1 with
  | error e => exact h
  | ok u =>
    by_cases hs : c.stdin = true
    · simp only [hs, if_true, h]
    · simp only [hs, Bool.false_eq_true, if_false]; exact h

private theorem stepC_close_fst (c : CF) : (stepC c .close).1 = (closeC c).1 := by
  simp only [stepC]
  rcases closeC c with ⟨c1, r1⟩
  cases r1 <;> rfl

private theorem runC_append_fst (c : CF) (p q : List Op) : (runC c (p ++ q)).1 = (runC (runC c p).1 q).1 := by
  induction p generalizing c with
  | nil => rfl
  | cons a p ih => exact ih _

private theorem atEof_sticky (c : CF) (x : Bytes) (h : c.atEof = some x) (prog : List Op) :
    (runC c prog).1.atEof = some x := by
  induction prog generalizing c with
  | nil => exact h
  | cons op ops ih =>
    simp only [runC]
    apply ih
    cases op with
    | close => rw [stepC_close_fst]; exact closeC_atEof c x h
    | _ => exact h

/-- **ChannelStdinFile, whole programs.**  For every buffering mode and every program of calls that ends in
    `close()` (directly or by leaving a `with` block), whatever is done with the file afterwards (a second close,
    late writes): the bytes the channel had received when the EOF went out are exactly the bytes written, in order. -/
theorem stdin_eof_after_all_data (f : BF Chan) (prog rest : List Op) (hg : Good f)
    (h0 : f.s.out = [] ∧ f.wbuf = []) (hnc : ∀ op ∈ prog, op ≠ .close) :
    (runC { f := f, stdin := true } (prog ++ [.close] ++ rest)).1.atEof
      = some (sentAll prog (run chanOps f prog).2) := by
  rw [List.append_assoc, runC_append_fst, runC_no_close _ prog hnc, runC_append_fst]
  apply atEof_sticky
  obtain ⟨_, p2, _, _⟩ := stream_preserved f prog hg
  rw [h0.1, h0.2] at p2
  simp only [List.nil_append] at p2
  have hc := stdin_close_delivers_before_eof { f := (run chanOps f prog).1, stdin := true } rfl rfl
  simp only [runC]
  rw [stepC_close_fst, hc.2.1, p2]

/-- non-vacuity: a line-buffered stdin wrapper with a partial line pending, closed twice, then written to -/
example :
    let f : BF Chan := setMode { s := { inp := [], rg := [], wg := [] } } "wb".toList 1 0
    let r := runC { f := f, stdin := true } [.write "ab\ncd".toUTF8.toList, .close, .close, .write [65]]
    r.1.atEof = some "ab\ncd".toUTF8.toList ∧ r.1.eofs = 2 ∧ r.1.f.s.out = "ab\ncd".toUTF8.toList := by
  decide +kernel

/-! ## a stream whose `_read` may raise (socket.timeout …) at arbitrary points; the caller retries

  `chanOpsX`: short reads as before, plus `fails` — one flag per `_read` call, a raising call delivers nothing. -/

/-- bytes the caller has still to receive from a raising stream -/
def pendingX (f : BF ChanX) : Bytes := f.rbuf ++ f.s.c.inp

theorem pendingX_eq_pendG (f : BF ChanX) : pendingX f = pendG chanXLaws f := rfl

private theorem chanXPre {f : BF ChanX} (hc : f.closed = false) (hr : f.rd = true) : ReadPre chanXLaws f :=
  ⟨trivial, hc, hr, Or.inr rfl⟩

/-- **read(n) over a raising stream.**  For every chunking and every placement of raising fetches: a call that
    returns hands out exactly the next `n` pending bytes; a call that raises returns nothing and leaves EVERY byte
    it had already fetched ahead of the caller (in the read-ahead) — so a caller that retries after a timeout
    sees the stream in order, nothing lost, nothing duplicated. -/
theorem read_n_keeps_data_on_exception (f : BF ChanX) (n : Nat) :
    (∀ out, (BufFile.read chanOpsX f (some n)).2 = .ok out →
        out = (pendingX f).take n ∧ pendingX (BufFile.read chanOpsX f (some n)).1 = (pendingX f).drop n) ∧
    (∀ e, (BufFile.read chanOpsX f (some n)).2 = .error e → pendingX (BufFile.read chanOpsX f (some n)).1 = pendingX f) := by
  rcases usable f.closed f.rd with ⟨hc, hr⟩ | hx
  · have h := read_some_gen chanXLaws f n (chanXPre hc hr)
    refine ⟨fun out ho => ?_, fun e he => (h.of_error he).2⟩
    obtain ⟨rfl, p⟩ := h.of_ok ho
    exact ⟨rfl, p.pend_drop.trans (drop_take_length _ n)⟩
  · rw [read_refused _ _ _ hx]
    exact ⟨fun _ h => (nomatch h), fun _ _ => rfl⟩

/-- **read() over a raising stream** (the code repaired in /repo 3937ccc): a call that returns hands out
    everything that was pending; a call that raises returns nothing and leaves EVERY byte it had fetched (and the
    old read-ahead) ahead of the caller. -/
theorem read_all_keeps_data_on_exception (f : BF ChanX) (hd : 1 ≤ f.dflt) :
    (∀ out, (BufFile.read chanOpsX f none).2 = .ok out →
        out = pendingX f ∧ pendingX (BufFile.read chanOpsX f none).1 = []) ∧
    (∀ e, (BufFile.read chanOpsX f none).2 = .error e → pendingX (BufFile.read chanOpsX f none).1 = pendingX f) := by
  rcases usable f.closed f.rd with ⟨hc, hr⟩ | hx
  · have h := read_none_gen chanXLaws f (chanXPre hc hr) hd
    exact ⟨fun out ho => ⟨(h.of_ok ho).1, (h.of_ok ho).2.2⟩, fun e he => (h.of_error he).2⟩
  · rw [read_refused _ _ _ hx]
    exact ⟨fun _ h => (nomatch h), fun _ _ => rfl⟩

/-- **readline() / __next__ over a raising stream** (repaired code): a call that raises because a fetch raised
    returns nothing and leaves every byte it had fetched, and the old read-ahead, ahead of the caller. -/
theorem readline_keeps_data_on_exception (f : BF ChanX) (size : Option Nat) (hb : 1 ≤ f.bufsize)
    (hc : f.closed = false) (hr : f.rd = true) :
    ∀ e, (readline chanOpsX f size).2 = .error e → pendingX (readline chanOpsX f size).1 = pendingX f :=
  fun _ he => ((readline_gen chanXLaws f size (chanXPre hc hr) hb).of_error he).2

/-- a raising stream for the witnesses: `abcdefgh` in 1-byte pieces, the third fetch raises -/
def wX (mode : String) : BF ChanX :=
  setMode { s := { c := { inp := "abcdefgh".toUTF8.toList, rg := [0, 0, 0, 0], wg := [] },
                   fails := [false, false, true] } } mode.toList 0 0

def okBytes : Except Err Bytes → Option Bytes
  | .ok b => some b
  | .error _ => none

/-- … read(4), retried after the exception, still returns `abcd` -/
example :
    let r1 := BufFile.read chanOpsX (wX "rb") (some 4)
    okBytes r1.2 = none ∧ okBytes (BufFile.read chanOpsX r1.1 (some 4)).2 = some "abcd".toUTF8.toList := by
  decide +kernel

/-- repaired in /repo 3937ccc: `read()` retried after the exception returns the whole stream -/
example :
    let r1 := BufFile.read chanOpsX (wX "rb") none
    okBytes r1.2 = none ∧ okBytes (BufFile.read chanOpsX r1.1 none).2 = some "abcdefgh".toUTF8.toList := by
  decide +kernel

/-- … and so does `readline()` -/
example :
    let r1 := readline chanOpsX (wX "rb") none
    okBytes r1.2 = none ∧ okBytes (readline chanOpsX r1.1 none).2 = some "abcdefgh".toUTF8.toList := by
  decide +kernel

/-- LEGACY (before 3937ccc): `read()` kept what it had fetched in a local; when a later fetch raised, those
    bytes were gone — the retried read() started at `c`. -/
theorem legacy_read_all_drops_data_on_exception_witness :
    let r1 := readAllOld chanOpsX (wX "rb")
    okBytes r1.2 = none ∧ okBytes (readAllOld chanOpsX r1.1).2 = some "cdefgh".toUTF8.toList := by
  decide +kernel

/-- LEGACY (before 3937ccc): the same for `readline()` (and `__next__`) -/
theorem legacy_readline_drops_data_on_exception_witness :
    let r1 := readlineOld chanOpsX (wX "rb") none
    okBytes r1.2 = none ∧ okBytes (readlineOld chanOpsX r1.1 none).2 = some "cdefgh".toUTF8.toList := by
  decide +kernel

end PV.Props.C42
